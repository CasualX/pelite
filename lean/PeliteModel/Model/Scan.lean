import PeliteModel.Model.Exec
/-!
Model of the pattern scanner `Matches::{setup, strategy, strategy0, strategy1, strategy2, next,
next_section}` and `Scanner::{matches, matches_code, finds, finds_code, exec}`
(src/pe64/scanner.rs; src/wrap/scanner.rs only dispatches on the format).

The search functions are parametrised by the interpreter `ex cursor save` (`Scanner::exec`), which
`next` instantiates with `Exec.run (Exec.ofView v) pat`; `Lemmas/Scan.lean` reasons about an
arbitrary `ex`.  Besides what the Rust code returns (`bool`, the `Matches` state, the save array)
every search returns the *position* of the reported match (`Res.pos`, a ghost value: the Rust caller
can only learn it through a `Save` atom).

Checked `u32` arithmetic of the Rust code (`self.range.start + …`, `cursor + jump`, `… - base`) is
`padd32` / an explicit `panic`; `Lemmas/ScanPlan.lean` proves none is reachable.  `self.hits` (a `u32`
incremented by the checked `self.hits += 1` once per interpreter call) is a plain `Nat` counter here.
That this loses nothing is PROVED (`Lemmas/ScanPlan.lean`: `firstHit_asc`, `planV_asc`, `nextWith_returns`;
`Lemmas/Scan.lean`: `Reach_hits`; `Thm/C10Pos.lean`): every returning call of `next` — any interpreter, image, atom list,
state — raises `hits` by at most the number of positions `range.start` advanced
(`C10_hits_bounded`), `range.start` never decreases and never passes `max range.start range.end`
(`C10_next_advance`), so after any sequence of calls on `matches(pat, lo..hi)` with `hi` a `u32`
`hits ≤ range.start - lo ≤ hi - lo < 2^32` (`C10_hits_no_overflow`, `C10_hits_no_overflow_code`);
the counter only grows during a search (`firstHit_asc` holds from every entry of the plan), so
no value it takes during a returning call exceeds `u32::MAX` and the checked increment cannot panic.
The correspondence run does NOT compare the exact values of `hits()` / `range()` (a performance
counter and the iterator's resume point: the property constrains neither exactly, so
`vlib/props_scan.py:C10.project` strips them); it checks the implementation's own `range=` / `hits=`
against what these theorems say of every correct run (`C10.oracle`: `range.end` unchanged,
`lo ≤ range.start ≤ max lo range.end`, reported positions below `range.start`,
`number of reported matches ≤ hits ≤ range.start - lo`).
`slice.len() as u32` is the identity (buffers are below 4 GiB).
-/
namespace Pelite.Scan
open Pelite.Pattern Pelite.Exec

/-- `const QS_BUF_LEN: usize = 16` -/
def QS_BUF_LEN : Nat := 16

/-- src: scanner.rs:Matches::setup with `room = QS_BUF_LEN - qslen` bytes left in `qsbuf` -/
def setupGo : List Atom → Nat → List Nat
  | [], _ => []
  | .byte b :: r, room => if room = 0 then [] else b :: setupGo r (room - 1)   -- `if qslen >= QS_BUF_LEN { break }`
  | .save _ :: r, room => setupGo r room
  | .aligned _ :: r, room => setupGo r room
  | .nop :: r, room => setupGo r room
  | _ :: _, _ => []                                                            -- all other atoms interfere

/-- src: scanner.rs:Matches::setup — the literal prefix `&qsbuf[..qslen]` -/
def setup (pat : List Atom) : List Nat := setupGo pat QS_BUF_LEN

/-- `Matches { range, hits }` (scanner and pattern are parameters) -/
structure MSt where
  start : Nat
  stop : Nat
  hits : Nat
  deriving DecidableEq, Repr

/-- result of one search: the returned `bool`, the position of the match (ghost, 0 if none), the
`Matches` state and the save array as they are left -/
structure Res where
  found : Bool
  pos : Nat
  m : MSt
  save : Array Nat
  deriving DecidableEq, Repr

/-- the interpreter as the searches see it: `self.scanner.exec(cursor, self.pat, save)` -/
abbrev Interp := Nat → Array Nat → Out (Bool × Array Nat)

/-- src: strategy0, the `while self.range.start < end` loop; `k` = iterations left (`end - start`) -/
def strat0Loop (ex : Interp) (stop : Nat) : Nat → MSt → Array Nat → Out Res
  | 0, m, save => if m.start < stop then .diverge else .ok ⟨false, 0, m, save⟩
  | k+1, m, save =>
    if m.start < stop then
      let cursor := m.start
      -- self.hits += 1; self.range.start += 1;
      (padd32 "strategy0:range.start+=1" m.start 1).bind fun st1 =>
      let m' : MSt := { m with start := st1, hits := m.hits + 1 }
      (ex cursor save).bind fun r =>
        if r.1 then .ok ⟨true, cursor, m', r.2⟩ else strat0Loop ex stop k m' r.2
    else .ok ⟨false, 0, m, save⟩

/-- src: scanner.rs:Matches::strategy0 on the window `bytes[off .. off+len]` -/
def strategy0 (ex : Interp) (len : Nat) (m : MSt) (save : Array Nat) : Out Res :=
  (padd32 "strategy0:range.start+len" m.start len).bind fun stop =>
  strat0Loop ex stop len m save

/-- src: strategy1, the `for i in slice.iter().enumerate().filter_map(..)` loop: `k` offsets left,
the next is `i` -/
def strat1Loop (ex : Interp) (bytes : Bytes) (off len byte : Nat) (m : MSt) :
    Nat → Nat → Nat → Array Nat → Out Res
  | 0, _, hits, save =>
    -- self.range.start += slice.len() as u32;
    (padd32 "strategy1:range.start+=len" m.start len).bind fun st1 =>
    .ok ⟨false, 0, { m with start := st1, hits := hits }, save⟩
  | k+1, i, hits, save =>
    if byteAt bytes (off + i) = byte then
      (padd32 "strategy1:range.start+i" m.start i).bind fun cursor =>
      (ex cursor save).bind fun r =>
        if r.1 then
          (padd32 "strategy1:cursor+1" cursor 1).bind fun st1 =>
          .ok ⟨true, cursor, { m with start := st1, hits := hits + 1 }, r.2⟩
        else strat1Loop ex bytes off len byte m k (i + 1) (hits + 1) r.2
    else strat1Loop ex bytes off len byte m k (i + 1) hits save

/-- src: scanner.rs:Matches::strategy1 (`qsbuf[0]`: the caller guarantees a non-empty prefix) -/
def strategy1 (ex : Interp) (bytes : Bytes) (qs : List Nat) (off len : Nat) (m : MSt) (save : Array Nat) : Out Res :=
  match qs with
  | [] => .panic "strategy1:qsbuf[0]"
  | byte :: _ => strat1Loop ex bytes off len byte m len 0 m.hits save

/-- src: strategy2, "Initialize jump table for quicksearch":
`let mut jumps = [qslen as u8; 256]; for i in 0..qslen - 1 { jumps[qsbuf[i] as usize] = qslen as u8 - i as u8 - 1; }` -/
def mkJumps (qs : List Nat) : Array Nat :=
  (List.range (qs.length - 1)).foldl
    (fun J i => J.setIfInBounds (qs.getD i 0) (qs.length - i - 1)) (Array.replicate 256 qs.length)

/-- `tbuf == qsbuf` for `tbuf = bytes[o .. o + qs.length]` -/
def winEq (bytes : Bytes) : Nat → List Nat → Bool
  | _, [] => true
  | o, q :: qs => byteAt bytes o == q && winEq bytes (o + 1) qs

/-- src: strategy2, the `while i + qslen <= slice.len()` loop (fuel: `i` grows by `jump ≥ 1`) -/
def strat2Loop (ex : Interp) (bytes : Bytes) (qs : List Nat) (J : Array Nat) (off len : Nat) (m : MSt) :
    Nat → Nat → Nat → Array Nat → Out Res
  | 0, _, _, _ => .diverge
  | fuel+1, i, hits, save =>
    let qslen := qs.length
    if i + qslen ≤ len then
      let last := byteAt bytes (off + i + qslen - 1)            -- tbuf[qslen - 1]
      let jump := J.getD last 0                                  -- jumps[last as usize]
      if qs.getD (qslen - 1) 0 = last ∧ winEq bytes (off + i) qs = true then
        (padd32 "strategy2:range.start+i" m.start i).bind fun cursor =>
        (ex cursor save).bind fun r =>
          if r.1 then
            (padd32 "strategy2:cursor+jump" cursor jump).bind fun st1 =>
            .ok ⟨true, cursor, { m with start := st1, hits := hits + 1 }, r.2⟩
          else strat2Loop ex bytes qs J off len m fuel (i + jump) (hits + 1) r.2
      else strat2Loop ex bytes qs J off len m fuel (i + jump) hits save
    else
      -- "FIXME! Quicksearch stops too soon!" : self.range.start += slice.len() as u32;
      (padd32 "strategy2:range.start+=len" m.start len).bind fun st1 =>
      .ok ⟨false, 0, { m with start := st1, hits := hits }, save⟩

/-- src: scanner.rs:Matches::strategy2 -/
def strategy2 (ex : Interp) (bytes : Bytes) (qs : List Nat) (off len : Nat) (m : MSt) (save : Array Nat) : Out Res :=
  strat2Loop ex bytes qs (mkJumps qs) off len m (len + 1) 0 m.hits save

/-- src: scanner.rs:Matches::strategy -/
def strategy (ex : Interp) (bytes : Bytes) (qs : List Nat) (off len : Nat) (m : MSt) (save : Array Nat) : Out Res :=
  if qs.length = 0 then strategy0 ex len m save
  else if qs.length < 4 then strategy1 ex bytes qs off len m save
  else strategy2 ex bytes qs off len m save

/-- src: scanner.rs:Matches::next_section for `slice = bytes[off .. off+len]` mapped at rva `base` -/
def nextSection (ex : Interp) (bytes : Bytes) (qs : List Nat) (base off len : Nat) (m : MSt) (save : Array Nat) : Out Res :=
  -- self.range.start = cmp::max(base, self.range.start);
  let m : MSt := { m with start := max base m.start }
  -- let start = self.range.start - base;
  let start := m.start - base
  -- let end = cmp::min(base.saturating_add(slice.len() as u32), self.range.end) - base;
  let e := min (min (base + len) 4294967295) m.stop
  if e < base then .panic "next_section:end-base" else
  let stop := e - base
  if start ≥ stop then .ok ⟨false, 0, m, save⟩
  -- &slice[start as usize..end as usize]
  else if stop ≤ len then strategy ex bytes qs (off + start) (stop - start) m save
  else .panic "next_section:slice[start..end]"

/-- src: scanner.rs:Matches::next, `Align::File`: the `for section in section_headers()` loop -/
def nextFile (ex : Interp) (bytes : Bytes) (qs : List Nat) : List Pe.Sec → MSt → Array Nat → Out Res
  | [], m, save => .ok ⟨false, 0, m, save⟩
  | s :: rest, m, save =>
    -- If section overlaps with the scanning range
    if s.va < m.stop ∧ wadd32 s.va s.vs > m.start then
      -- image.get(PointerToRawData as usize .. PointerToRawData.wrapping_add(SizeOfRawData) as usize)
      let stop := wadd32 s.prd s.rs
      if s.prd ≤ stop ∧ stop ≤ bytes.size then
        (nextSection ex bytes qs s.va s.prd (stop - s.prd) m save).bind fun r =>
          if r.found then .ok r else nextFile ex bytes qs rest r.m r.save
      else nextFile ex bytes qs rest m save
    else nextFile ex bytes qs rest m save

/-- src: scanner.rs:Matches::next with an abstract interpreter -/
def nextWith (ex : Interp) (v : Pe.View) (qs : List Nat) (m : MSt) (save : Array Nat) : Out Res :=
  match v.kind with
  | .file => nextFile ex v.b qs v.secs m save
  | .view => nextSection ex v.b qs 0 0 v.b.size m save

/-- src: scanner.rs:Scanner::exec on a view -/
def interp (v : Pe.View) (pat : List Atom) : Interp := Exec.run (Exec.ofView v) pat

/-- src: scanner.rs:Matches::next -/
def next (v : Pe.View) (pat : List Atom) (m : MSt) (save : Array Nat) : Out Res :=
  nextWith (interp v pat) v (setup pat) m save

/-- src: scanner.rs:Scanner::matches -/
def matchesInit (lo hi : Nat) : MSt := ⟨lo, hi, 0⟩

/-- src: scanner.rs:Scanner::matches_code (`headers().code_range()`) -/
def matchesCodeInit (v : Pe.View) : MSt := ⟨v.codeRange.1, v.codeRange.2, 0⟩

/-- src: scanner.rs:Scanner::finds with an abstract `next`: the second `next` runs on `&mut save[..0]` -/
def findsWith (nx : MSt → Array Nat → Out Res) (m : MSt) (save : Array Nat) : Out (Bool × Array Nat) :=
  (nx m save).bind fun r1 =>
    if !r1.found then .ok (false, r1.save)
    else (nx r1.m #[]).bind fun r2 => .ok (!r2.found, r1.save)

/-- src: scanner.rs:Scanner::finds -/
def finds (v : Pe.View) (pat : List Atom) (lo hi : Nat) (save : Array Nat) : Out (Bool × Array Nat) :=
  findsWith (next v pat) (matchesInit lo hi) save

/-- src: scanner.rs:Scanner::finds_code -/
def findsCode (v : Pe.View) (pat : List Atom) (save : Array Nat) : Out (Bool × Array Nat) :=
  findsWith (next v pat) (matchesCodeInit v) save

/-- result of `while matches.next(&mut save) { record }`: the reported (position, save) pairs,
the final state, and whether `next` returned `false` (else the cap `n` was reached) -/
structure All where
  hits : List (Nat × Array Nat)
  m : MSt
  save : Array Nat
  exhausted : Bool
  deriving DecidableEq, Repr

/-- at most `n` calls of `next` reusing the save array, as the documented usage does -/
def scanAll (nx : MSt → Array Nat → Out Res) : Nat → MSt → Array Nat → Out All
  | 0, m, save => .ok ⟨[], m, save, false⟩
  | n+1, m, save =>
    (nx m save).bind fun r =>
      if r.found then
        (scanAll nx n r.m r.save).bind fun a => .ok { a with hits := (r.pos, r.save) :: a.hits }
      else .ok ⟨[], r.m, r.save, true⟩

end Pelite.Scan
