import PeliteModel.Prim.Basic
/-!
Model of `src/resources/version_info.rs`: `parse_tlv`, `Parser` (as the `for … in
Parser{..}.filter_map(Result::ok)` loop), `VersionInfo::{try_from, visit, fixed, translation, value,
strings, file_info, source_code}`, the six `Visit` implementations, `Language::parse`,
`util::FmtUtf16` and the parts of `char::decode_utf16` / `String::from_utf16_lossy` they use.

`parse_tlv` and the terminator stripping of `visit` index and slice with panicking operations
(`Sl.idx`, `Sl.sliceFrom`, `Sl.sliceTo`), one at each `words[i]` / `&words[a..b]` of the Rust code;
`parseTlv_eq_total` and `stripNulChk_eq` prove the panic outcomes unreachable.

The block is a list of u16 words (`Nat`, `< 65536` when it comes from bytes).  A Rust `&[u16]` is
a `Sl`: the word offset of its first element from the start of the block plus the words it views,
so that both the contents and the extent of everything handed to a visitor are explicit.
A Rust `String` is the list of its Unicode scalar values.
-/
namespace Pelite.Version

/-- `&'a [u16]` into the block: `off` = word offset from the start of the block, `ws` = contents. -/
structure Sl where
  off : Nat
  ws : List Nat
  deriving DecidableEq, Repr, Inhabited

namespace Sl
@[inline] def len (s : Sl) : Nat := s.ws.length
/-- `&s[n..]` (the caller has established `n ≤ len`, else Rust panics) -/
@[inline] def drop (s : Sl) (n : Nat) : Sl := ⟨s.off + n, s.ws.drop n⟩
/-- `&s[..n]` (the caller has established `n ≤ len`) -/
@[inline] def take (s : Sl) (n : Nat) : Sl := ⟨s.off, s.ws.take n⟩
/-- one past the last word -/
@[inline] def stop (s : Sl) : Nat := s.off + s.ws.length
end Sl

/-- `usize::align_to(2)` = `wrapping_add(1) & !1`.  Every argument in this module is at most the
length of a slice (or a u16), so the wrapping add never wraps; see `align2_eq_alignTo64`. -/
@[inline] def align2 (x : Nat) : Nat := (x + 1) / 2 * 2

theorem align2_eq_alignTo64 (x : Nat) (h : x + 1 < 18446744073709551616) : align2 x = alignTo64 x 2 := by
  unfold align2 alignTo64 wadd64
  rw [Nat.mod_eq_of_lt h]

/-- src: util/mod.rs:wstrn — the words before the first NUL, all of them when there is none. -/
def wstrn (s : Sl) : Sl := ⟨s.off, s.ws.takeWhile (fun w => w != 0)⟩

/-- src: version_info.rs:ValueLengthType -/
inductive Vlt | zero | bytes | words
  deriving DecidableEq, Repr

/-- src: version_info.rs:TLV -/
structure Tlv where
  key : Sl
  value : Sl
  children : Sl
  deriving DecidableEq, Repr

/-- `cmp::max(4, words[0] as usize / 2)` -/
@[inline] def nodeLen (words : Sl) : Nat := max 4 (words.ws.getD 0 0 / 2)

/-- the `match state.vlt` of parse_tlv; `none` = `return Err(Invalid)` -/
@[inline] def valueLen (vlt : Vlt) (words : Sl) : Option Nat :=
  match vlt with
  | .zero => if words.ws.getD 1 0 = 0 then some 0 else none
  | .bytes => some (words.ws.getD 1 0 / 2)
  | .words => some (words.ws.getD 1 0)

/-! ### slicing and indexing of a checked build

`a[i]`, `&a[n..]` and `&a[..n]` panic when the index or the bound is out of range.  `parse_tlv` is
written with them at exactly the places where the Rust code indexes or slices; that none of the
`panic` outcomes is reachable is a theorem (`parseTlv_eq_total` below), not a convention. -/

namespace Sl
/-- `s[i]`: panics when `i ≥ s.len()` -/
@[inline] def idx (s : Sl) (i : Nat) (site : String) : Out Nat :=
  if i < s.len then .ok (s.ws.getD i 0) else .panic site
/-- `&s[n..]`: panics when `n > s.len()` -/
@[inline] def sliceFrom (s : Sl) (n : Nat) (site : String) : Out Sl :=
  if n ≤ s.len then .ok (s.drop n) else .panic site
/-- `&s[..n]`: panics when `n > s.len()` -/
@[inline] def sliceTo (s : Sl) (n : Nat) (site : String) : Out Sl :=
  if n ≤ s.len then .ok (s.take n) else .panic site

theorem idx_ok {s : Sl} {i : Nat} (h : i < s.len) (site : String) : s.idx i site = .ok (s.ws.getD i 0) := if_pos h
theorem sliceFrom_ok {s : Sl} {n : Nat} (h : n ≤ s.len) (site : String) : s.sliceFrom n site = .ok (s.drop n) := if_pos h
theorem sliceTo_ok {s : Sl} {n : Nat} (h : n ≤ s.len) (site : String) : s.sliceTo n site = .ok (s.take n) := if_pos h
theorem idx_panic {s : Sl} {i : Nat} (h : ¬ i < s.len) (site : String) : s.idx i site = .panic site := if_neg h
theorem sliceFrom_panic {s : Sl} {n : Nat} (h : ¬ n ≤ s.len) (site : String) : s.sliceFrom n site = .panic site := if_neg h
theorem sliceTo_panic {s : Sl} {n : Nat} (h : ¬ n ≤ s.len) (site : String) : s.sliceTo n site = .panic site := if_neg h
end Sl

def siteLen : String := "version_info.rs:parse_tlv words[0]"
def siteVLen : String := "version_info.rs:parse_tlv words[1]"
def siteRest : String := "version_info.rs:parse_tlv &words[cmp::min(length.align_to(2), words.len())..]"
def siteNode : String := "version_info.rs:parse_tlv &words[..length]"
def siteKey : String := "version_info.rs:parse_tlv &words[3..]"
def siteBody : String := "version_info.rs:parse_tlv &words[cmp::min(key.len().align_to(2) + 4, words.len())..]"
def siteValue : String := "version_info.rs:parse_tlv &words[..value_length]"
def siteChildren : String := "version_info.rs:parse_tlv &words[cmp::min(value.len().align_to(2), words.len())..]"

/-- src: version_info.rs:parse_tlv, every `words[i]` / `&words[a..b]` of the Rust code a panicking
operation.  Returns the TLV and the new `state.words` (on `Err` the caller, `Parser::next`, empties
`state.words`, so the value assigned before the error is never observed).
`key.len().align_to(2) + 4` cannot overflow: a `&[u16]` has fewer than 2^62 elements (a Rust slice
is at most `isize::MAX` bytes). -/
def parseTlv (vlt : Vlt) (words : Sl) : Out (Tlv × Sl) :=
  if words.len < 4 then .err .invalid else do
  -- let length = cmp::max(4, words[0] as usize / 2);
  let w0 ← words.idx 0 siteLen
  let length := max 4 (w0 / 2)
  -- let value_length = match state.vlt { .. words[1] .. };
  let valueLength ← (match vlt with
    | .zero => do
      let w1 ← words.idx 1 siteVLen
      if w1 = 0 then pure 0 else .err .invalid
    | .bytes => do
      let w1 ← words.idx 1 siteVLen
      pure (w1 / 2)
    | .words => words.idx 1 siteVLen : Out Nat)
  if length > words.len then .err .invalid else do
  -- state.words = &words[cmp::min(length.align_to(2), words.len())..];
  let rest ← words.sliceFrom (min (align2 length) words.len) siteRest
  -- words = &words[..length];
  let node ← words.sliceTo length siteNode
  -- let key = wstrn(&words[3..]);
  let tail ← node.sliceFrom 3 siteKey
  let key := wstrn tail
  -- if words[3..].len() == key.len()
  let tail' ← node.sliceFrom 3 siteKey
  if tail'.len = key.len then .err .invalid else do
  -- words = &words[cmp::min(key.len().align_to(2) + 4, words.len())..];
  let body ← node.sliceFrom (min (align2 key.len + 4) node.len) siteBody
  if valueLength > body.len then .err .invalid else do
  -- let value = &words[..value_length];
  let value ← body.sliceTo valueLength siteValue
  -- let children = &words[cmp::min(value.len().align_to(2), words.len())..];
  let children ← body.sliceFrom (min (align2 value.len) body.len) siteChildren
  pure (⟨key, value, children⟩, rest)

/-- `parse_tlv` with total `take` / `drop` in place of the panicking operations: what `parseTlv`
computes once its panic branches are known to be unreachable.  Not run by the driver; the lemmas
about `parseTlv` go through it. -/
def parseTlvTotal (vlt : Vlt) (words : Sl) : Out (Tlv × Sl) :=
  if words.len < 4 then .err .invalid else
  let length := nodeLen words
  match valueLen vlt words with
  | none => .err .invalid
  | some valueLength =>
    if length > words.len then .err .invalid else
    let rest := words.drop (min (align2 length) words.len)
    let node := words.take length
    let tail := node.drop 3
    let key := wstrn tail
    if tail.len = key.len then .err .invalid else
    let body := node.drop (min (align2 key.len + 4) node.len)
    if valueLength > body.len then .err .invalid else
    let value := body.take valueLength
    let children := body.drop (min (align2 value.len) body.len)
    .ok (⟨key, value, children⟩, rest)

/-- **No index and no slice bound of `parse_tlv` is ever out of range**: each panicking operation
is preceded by a check (or a `cmp::min` / `cmp::max` clamp) that implies its range condition, so
the checked function is the total one. -/
theorem parseTlv_eq_total (vlt : Vlt) (words : Sl) : parseTlv vlt words = parseTlvTotal vlt words := by
  unfold parseTlv parseTlvTotal
  by_cases h4 : words.len < 4
  · simp only [h4, if_true]
  · simp only [h4, if_false]
    -- words[0], words[1]: `words.len() < 4` has returned
    have i0 : 0 < words.len := by omega
    have i1 : 1 < words.len := by omega
    have hnl : max 4 (words.ws.getD 0 0 / 2) = nodeLen words := rfl
    simp only [Sl.idx_ok i0, Sl.idx_ok i1, Out.bind_ok, hnl]
    -- the three value-length conventions are `valueLen`; what follows them is the same for each
    cases vlt
    case' zero =>
      by_cases h1 : words.ws.getD 1 0 = 0
      case' neg => simp only [valueLen, h1, if_false, Out.bind_err]
      simp only [valueLen, h1, if_true, Out.pure_eq, Out.bind_ok]
    case' bytes => simp only [valueLen, Out.pure_eq, Out.bind_ok]
    case' words => simp only [valueLen, Out.bind_ok]
    all_goals
      by_cases hL : nodeLen words > words.len
      · simp only [hL, if_true]
      · simp only [hL, if_false]
        -- &words[cmp::min(length.align_to(2), words.len())..]: the bound is clamped to the length
        rw [Sl.sliceFrom_ok (Nat.min_le_right _ _)]
        -- &words[..length]: `length > words.len()` has returned
        rw [Sl.sliceTo_ok (Nat.le_of_not_gt hL)]
        simp only [Out.bind_ok]
        -- &words[3..]: the node has `length = max(4, _)` words
        have h3 : 3 ≤ (words.take (nodeLen words)).len := by
          have := Nat.le_max_left 4 (words.ws.getD 0 0 / 2)
          rw [hnl] at this
          simp only [Sl.len, Sl.take, List.length_take] at *
          omega
        rw [Sl.sliceFrom_ok h3]
        simp only [Out.bind_ok]
        split
        · rfl
        · -- &words[cmp::min(key.len().align_to(2) + 4, words.len())..]: clamped
          rw [Sl.sliceFrom_ok (Nat.min_le_right _ _)]
          simp only [Out.bind_ok]
          split
          · rfl
          · rename_i hv
            -- &words[..value_length]: `value_length > words.len()` has returned
            rw [Sl.sliceTo_ok (Nat.le_of_not_gt hv)]
            simp only [Out.bind_ok]
            -- &words[cmp::min(value.len().align_to(2), words.len())..]: clamped
            rw [Sl.sliceFrom_ok (Nat.min_le_right _ _)]
            rfl

/-- every successful `parse_tlv` shortens the parser's input: the loop below terminates -/
theorem parseTlv_rest_lt {vlt : Vlt} {words : Sl} {t : Tlv} {rest : Sl}
    (h : parseTlv vlt words = .ok (t, rest)) : rest.len < words.len := by
  -- `rest` is `words` without its first `min (align2 length) len` words, and `4 ≤ length ≤ len`
  rw [parseTlv_eq_total] at h
  unfold parseTlvTotal at h
  dsimp only at h
  repeat' (split at h)
  all_goals first
    | (cases h; done)
    | (cases h
       simp only [Sl.len, Sl.drop, List.length_drop, nodeLen, align2] at *
       omega)

/-- src: version_info.rs `for tlv in Parser { words, vlt }.filter_map(Result::ok) { body }`.
`Parser::next`: `None` on empty input; an `Err` item empties the input (so the following `next` is
`None`) and is dropped by `filter_map`; a panic of `parse_tlv` propagates.
`step` is the loop body; its `Bool` says whether the loop goes on (`false` = the body `return`ed). -/
def forEach {σ : Type} (vlt : Vlt) (step : Tlv → σ → Out (σ × Bool)) (words : Sl) (s : σ) : Out σ :=
  if words.len = 0 then .ok s else
  match _h : parseTlv vlt words with
  | .ok (tlv, rest) =>
    match step tlv s with
    | .ok (s', true) => forEach vlt step rest s'
    | .ok (s', false) => .ok s'
    | .err e => .err e
    | .panic m => .panic m
    | .ub m => .ub m
    | .diverge => .diverge
  | .err _ => .ok s
  | .panic m => .panic m
  | .ub m => .ub m
  | .diverge => .diverge
termination_by words.len
decreasing_by exact parseTlv_rest_lt _h

/-- src: version_info.rs:Visit (the `&mut self` is threaded as `σ`) -/
structure Visitor (σ : Type) where
  versionInfo : σ → Sl → Option Sl → σ × Bool
  fileInfo : σ → Sl → σ × Bool
  stringTable : σ → Sl → σ × Bool
  string : σ → Sl → Sl → σ
  var : σ → Sl → Sl → σ
  enterScope : σ → Nat → σ
  exitScope : σ → Nat → σ

/-- src: version_info.rs:Visit — the provided (default) methods -/
def Visitor.default {σ : Type} : Visitor σ where
  versionInfo s _ _ := (s, true)
  fileInfo s _ := (s, true)
  stringTable s _ := (s, true)
  string s _ _ := s
  var s _ _ := s
  enterScope s _ := s
  exitScope s _ := s

-- src: version_info.rs:mod strings
def strStringFileInfo : List Nat := [83, 116, 114, 105, 110, 103, 70, 105, 108, 101, 73, 110, 102, 111]
def strVarFileInfo : List Nat := [86, 97, 114, 70, 105, 108, 101, 73, 110, 102, 111]
def strTranslation : List Nat := [84, 114, 97, 110, 115, 108, 97, 116, 105, 111, 110]

/-- "Strip the nul terminator...": `if value.last() != Some(&0) { value } else { &value[..len-1] }`
(total form, see `stripNulChk`) -/
def stripNul (v : Sl) : Sl :=
  if v.ws.getLast? ≠ some 0 then v else v.take (v.len - 1)

def siteStripSub : String := "version_info.rs:visit string.value.len() - 1 (attempt to subtract with overflow)"
def siteStrip : String := "version_info.rs:visit &string.value[..string.value.len() - 1]"

/-- src: version_info.rs:visit "Strip the nul terminator..." as a checked build runs it: the `usize`
subtraction panics on underflow, the slicing when its bound is out of range. -/
def stripNulChk (v : Sl) : Out Sl :=
  if v.ws.getLast? ≠ some 0 then .ok v else
  if v.len < 1 then .panic siteStripSub else
  v.sliceTo (v.len - 1) siteStrip

/-- neither panic is reachable: a slice whose last word is `0` is not empty -/
theorem stripNulChk_eq (v : Sl) : stripNulChk v = .ok (stripNul v) := by
  unfold stripNulChk stripNul
  by_cases h : v.ws.getLast? ≠ some 0
  · rw [if_pos h, if_pos h]
  · rw [if_neg h, if_neg h]
    have hne : ¬ v.len < 1 := by
      intro hlt
      have h0 : v.ws = [] := List.eq_nil_of_length_eq_zero (by simp only [Sl.len] at hlt; omega)
      exact h (by rw [h0]; simp)
    rw [if_neg hne, Sl.sliceTo_ok (Nat.sub_le _ _)]

def siteFixed : String := "version_info.rs:visit &*(value.as_ptr() as *const VS_FIXEDFILEINFO)"

/-- `match mem::size_of_val(value) { 0 => None, 52 => Some(&*(ptr as *const VS_FIXEDFILEINFO)), _ => None }`.
The block starts 4-aligned (`try_from`), so the unchecked cast is aligned iff the word offset is even. -/
def fixedOf (value : Sl) : Out (Option Sl) :=
  if value.len * 2 = 0 then .ok none
  else if value.len * 2 = 52 then (if value.off % 2 = 0 then .ok (some value) else .ub siteFixed)
  else .ok none

section visit
variable {σ : Type} (V : Visitor σ)

/-- innermost loop of `visit`: the strings of one string table -/
def visitStrings (children : Sl) (s : σ) : Out σ :=
  forEach .words (fun str s =>
    match stripNulChk str.value with
    | .ok value => .ok (V.string s str.key value, true)
    | .err e => .err e | .panic m => .panic m | .ub m => .ub m | .diverge => .diverge) children s

/-- the string tables of a `StringFileInfo` block -/
def visitTables (children : Sl) (s : σ) : Out σ :=
  forEach .zero (fun st s =>
    match V.stringTable s st.key with
    | (s, false) => .ok (s, true)             -- continue
    | (s, true) =>
      match visitStrings V st.children (V.enterScope s 2) with
      | .ok s => .ok (V.exitScope s 2, true)
      | .err e => .err e | .panic m => .panic m | .ub m => .ub m | .diverge => .diverge) children s

/-- the vars of a `VarFileInfo` block -/
def visitVars (children : Sl) (s : σ) : Out σ :=
  forEach .bytes (fun var s => .ok (V.var s var.key var.value, true)) children s

/-- the children of the root: `StringFileInfo` / `VarFileInfo` / anything else -/
def visitInfos (children : Sl) (s : σ) : Out σ :=
  forEach .zero (fun fi s =>
    match V.fileInfo s fi.key with
    | (s, false) => .ok (s, true)             -- continue
    | (s, true) =>
      let s := V.enterScope s 1
      let r : Out σ :=
        if fi.key.ws = strStringFileInfo then visitTables V fi.children s
        else if fi.key.ws = strVarFileInfo then visitVars V fi.children s
        else .ok s
      match r with
      | .ok s => .ok (V.exitScope s 1, true)
      | .err e => .err e | .panic m => .panic m | .ub m => .ub m | .diverge => .diverge) children s

/-- src: version_info.rs:VersionInfo::visit -/
def visit (words : Sl) (s : σ) : Out σ :=
  forEach .bytes (fun vi s =>
    match fixedOf vi.value with
    | .ok fixed =>
      match V.versionInfo s vi.key fixed with
      | (s, false) => .ok (s, true)           -- continue
      | (s, true) =>
        match visitInfos V vi.children (V.enterScope s 0) with
        | .ok s => .ok (V.exitScope s 0, false)   -- "Ignore any additional version infos...": return
        | .err e => .err e | .panic m => .panic m | .ub m => .ub m | .diverge => .diverge
    | .err e => .err e | .panic m => .panic m | .ub m => .ub m | .diverge => .diverge) words s

end visit

/-! ### the event list: a visitor that records every callback -/

inductive Event where
  | versionInfo (key : Sl) (fixed : Option Sl)
  | fileInfo (key : Sl)
  | stringTable (lang : Sl)
  | string (key value : Sl)
  | var (key value : Sl)
  | enter (depth : Nat)
  | exit (depth : Nat)
  deriving DecidableEq, Repr

def recorder : Visitor (List Event) where
  versionInfo s k f := (s ++ [.versionInfo k f], true)
  fileInfo s k := (s ++ [.fileInfo k], true)
  stringTable s k := (s ++ [.stringTable k], true)
  string s k v := s ++ [.string k v]
  var s k v := s ++ [.var k v]
  enterScope s d := s ++ [.enter d]
  exitScope s d := s ++ [.exit d]

def events (words : Sl) : Out (List Event) := visit recorder words []

/-- bit `i` of a 64-bit mask -/
def maskBit (m i : Nat) : Bool := decide (i < 64) && m.testBit i

/-- a user visitor that records every callback and DECLINES (returns `false` from) the i-th
`file_info` callback iff bit i of `fmask` is set and the j-th `string_table` callback iff bit j of
`tmask` is set (state: events, `file_info` callbacks so far, `string_table` callbacks so far; declined
callbacks are counted and recorded).  Not part of the crate: the visitor of the `events_skip2`
operation (harness/src/ops_version.rs `Recorder`), which exercises the two `continue`s of the nested
loops of `visit`. -/
def recorderSkip2 (fmask tmask : Nat) : Visitor (List Event × Nat × Nat) where
  versionInfo s k f := ((s.1 ++ [.versionInfo k f], s.2), true)
  fileInfo s k := ((s.1 ++ [.fileInfo k], s.2.1 + 1, s.2.2), !maskBit fmask s.2.1)
  stringTable s k := ((s.1 ++ [.stringTable k], s.2.1, s.2.2 + 1), !maskBit tmask s.2.2)
  string s k v := (s.1 ++ [.string k v], s.2)
  var s k v := (s.1 ++ [.var k v], s.2)
  enterScope s d := (s.1 ++ [.enter d], s.2)
  exitScope s d := (s.1 ++ [.exit d], s.2)

/-! ### Language -/

structure Language where
  langId : Nat
  charsetId : Nat
  deriving DecidableEq, Repr, Inhabited

/-- src: version_info.rs:Language::parse::digit (u16 wrapping arithmetic) -/
def digit (word : Nat) : Nat :=
  let num := (word + 65536 - 48) % 65536
  let upper := ((word + 65536 - 65) % 65536 + 10) % 65536
  let lower := ((word + 65536 - 97) % 65536 + 10) % 65536
  if word ≥ 97 then lower else if word ≥ 65 then upper else num

/-- `d << n` on u16 (no overflow check on the value, bits shifted out are lost) -/
@[inline] def shl16 (d n : Nat) : Nat := (d * 2 ^ n) % 65536

/-- src: version_info.rs:Language::parse — `none` = `Err(lang)` -/
def Language.parse (lang : List Nat) : Option Language :=
  if lang.length ≠ 8 then none else
  let d (i : Nat) := digit (lang.getD i 0)
  some ⟨shl16 (d 0) 12 ||| shl16 (d 1) 8 ||| shl16 (d 2) 4 ||| d 3,
        shl16 (d 4) 12 ||| shl16 (d 5) 8 ||| shl16 (d 6) 4 ||| d 7⟩

/-- src: version_info.rs:Language::from_slice — `words.len() / 2` pairs -/
def langsOf : List Nat → List Language
  | a :: b :: rest => ⟨a, b⟩ :: langsOf rest
  | _ => []

/-! ### UTF-16 (std: `char::decode_utf16`, `String::from_utf16_lossy`) -/

inductive Dec where
  | ok (c : Nat)
  | bad (u : Nat)
  deriving DecidableEq, Repr

@[inline] def isSurrogate (u : Nat) : Bool := 0xD800 ≤ u && u ≤ 0xDFFF

/-- std: `DecodeUtf16::next`, collected -/
def decode16 : List Nat → List Dec
  | [] => []
  | [u] => if !isSurrogate u then [.ok u] else [.bad u]
  | u :: u2 :: rest =>
    if !isSurrogate u then .ok u :: decode16 (u2 :: rest)
    else if u ≥ 0xDC00 then .bad u :: decode16 (u2 :: rest)
    else if u2 < 0xDC00 || u2 > 0xDFFF then .bad u :: decode16 (u2 :: rest)
    else .ok ((u % 1024) * 1024 + u2 % 1024 + 65536) :: decode16 rest

/-- a Rust `String`: its chars as scalar values -/
abbrev Str := List Nat

/-- `String::from_utf16_lossy` -/
def lossy (ws : List Nat) : Str :=
  (decode16 ws).map fun | .ok c => c | .bad _ => 0xFFFD

/-! ### the query visitors -/

/-- src: QueryFixed -/
def queryFixed : Visitor (Option Sl) :=
  { Visitor.default with
    versionInfo := fun _ _ fixed => (fixed, true)
    fileInfo := fun s _ => (s, false) }

/-- src: VersionInfo::fixed -/
def fixed (words : Sl) : Out (Option Sl) := visit queryFixed words none

/-- src: QueryTranslation; `none` = the initial `&[]` -/
def queryTranslation : Visitor (Option Sl) :=
  { Visitor.default with
    fileInfo := fun s key => (s, key.ws = strVarFileInfo)
    var := fun s key value => if key.ws = strTranslation then some value else s }

/-- src: VersionInfo::translation — the slice that is reinterpreted as `&[Language]` -/
def translation (words : Sl) : Out (Option Sl) := visit queryTranslation words none

def langMatch (lang : Language) (key : Sl) : Bool :=
  match Language.parse key.ws with
  | some l => l = lang
  | none => false

/-- src: QueryValue -/
def queryValue (lang : Language) (key : Str) : Visitor (Option Str) :=
  { Visitor.default with
    fileInfo := fun s k => (s, k.ws = strStringFileInfo)
    stringTable := fun s l => (s, langMatch lang l)
    string := fun s k v => if key.map Dec.ok = decode16 k.ws then some (lossy v.ws) else s }

/-- src: VersionInfo::value -/
def value (words : Sl) (lang : Language) (key : Str) : Out (Option Str) :=
  visit (queryValue lang key) words none

/-- src: QueryStrings with the closure `|k, v| out.push((k, v))` -/
def queryStrings (lang : Language) : Visitor (List (Str × Str)) :=
  { Visitor.default with
    stringTable := fun s l => (s, langMatch lang l)
    string := fun s k v => s ++ [(lossy k.ws, lossy v.ws)] }

/-- src: VersionInfo::strings -/
def strings (words : Sl) (lang : Language) : Out (List (Str × Str)) :=
  visit (queryStrings lang) words []

/-- `HashMap::insert` on an association list (order is not observable: dumps are printed sorted) -/
def amInsert {κ ν : Type} [DecidableEq κ] (k : κ) (v : ν) : List (κ × ν) → List (κ × ν)
  | [] => [(k, v)]
  | (k', v') :: m => if k' = k then (k, v) :: m else (k', v') :: amInsert k v m

def amLookup {κ ν : Type} [DecidableEq κ] (k : κ) : List (κ × ν) → Option ν
  | [] => none
  | (k', v') :: m => if k' = k then some v' else amLookup k m

/-- src: FileInfo -/
structure FileInfo where
  fixed : Option Sl := none
  strings : List (Language × List (Str × Str)) := []
  langs : Option Sl := none
  lang : Language := ⟨0, 0⟩
  deriving Repr

/-- src: impl Visit for FileInfo -/
def fileInfoVisitor : Visitor FileInfo :=
  { Visitor.default with
    versionInfo := fun s _ fixed => ({ s with fixed := fixed }, true)
    stringTable := fun s l =>
      match Language.parse l.ws with
      | some lang => ({ s with lang := lang, strings := amInsert lang [] s.strings }, true)
      | none => (s, false)
    string := fun s k v =>
      match amLookup s.lang s.strings with
      | some entry => { s with strings := amInsert s.lang (amInsert (lossy k.ws) (lossy v.ws) entry) s.strings }
      | none => s
    var := fun s key value => if key.ws = strTranslation then { s with langs := some value } else s }

/-- src: VersionInfo::file_info -/
def fileInfo (words : Sl) : Out FileInfo := visit fileInfoVisitor words {}

/-! ### source-code rendering -/

def str (s : String) : Str := s.toList.map Char.toNat
def dec (n : Nat) : Str := str (toString n)
/-- `{:#x}` -/
def hexx (n : Nat) : Str := str "0x" ++ (Nat.toDigits 16 n).map Char.toNat
/-- `{:04x}` -/
def hex04 (n : Nat) : Str :=
  let d := (Nat.toDigits 16 n).map Char.toNat
  List.replicate (4 - d.length) 48 ++ d

/-- src: util/wide_str.rs: impl Debug for FmtUtf16 -/
def fmtDebug (ws : List Nat) : Str :=
  str "L\"" ++ (decode16 ws).flatMap (fun
    | .ok 0 => str "\\0"
    | .ok 10 => str "\\n"
    | .ok 13 => str "\\r"
    | .ok 9 => str "\\t"
    | .ok 34 => str "\\\""
    | .ok 92 => str "\\\\"
    | .ok c => [c]
    | .bad u => str "\\u" ++ hex04 u) ++ str "\""

/-- the header the `String` visitor writes for `Some(fixed)`; `f` = the 26 words of VS_FIXEDFILEINFO
(dwSignature, dwStrucVersion, dwFileVersion{Minor,Major,Build,Patch}, dwProductVersion{..},
dwFileFlagsMask, dwFileFlags, dwFileOS, dwFileType, dwFileSubtype, dwFileDateMS, dwFileDateLS) -/
def renderFixed (f : List Nat) : Str :=
  let w (i : Nat) := f.getD i 0
  let d (i : Nat) := w i + 65536 * w (i + 1)
  str "1 VERSIONINFO\nFILEVERSION " ++ dec (w 5) ++ str ", " ++ dec (w 4) ++ str ", " ++ dec (w 7) ++ str ", " ++ dec (w 6)
  ++ str "\nPRODUCTVERSION " ++ dec (w 9) ++ str ", " ++ dec (w 8) ++ str ", " ++ dec (w 11) ++ str ", " ++ dec (w 10)
  ++ str "\nFILEFLAGSMASK " ++ hexx (d 12)
  ++ str "\nFILEFLAGS " ++ hexx (d 14)
  ++ str "\nFILEOS (" ++ dec (d 16 / 65536) ++ str " << 16) | " ++ dec (d 16 % 65536)
  ++ str "\nFILETYPE " ++ dec (d 18)
  ++ str "\nFILESUBTYPE " ++ dec (d 20) ++ str "\n"

/-- `&"        "[..depth * 2]` -/
def indent (depth : Nat) : Str := List.replicate (depth * 2) 32

/-- what one callback appends to the `String` visitor -/
def renderEvent : Event → Str
  | .versionInfo _ (some f) => renderFixed f.ws
  | .versionInfo _ none => []
  | .fileInfo k => str "  BLOCK " ++ fmtDebug k.ws ++ str "\n"
  | .stringTable l => str "    BLOCK " ++ fmtDebug l.ws ++ str "\n"
  | .string k v => str "      VALUE " ++ fmtDebug k.ws ++ str ", " ++ fmtDebug v.ws ++ str "\n"
  | .var k v =>
    if k.ws ≠ strTranslation then [] else
    str "    VALUE " ++ fmtDebug k.ws
      ++ (langsOf v.ws).flatMap (fun l => str ", " ++ dec l.langId ++ str ", " ++ dec l.charsetId) ++ str "\n"
  | .enter d => indent d ++ str "{\n"
  | .exit d => indent d ++ str "}\n"

/-- src: impl Visit for String -/
def sourceVisitor : Visitor Str where
  versionInfo s k f := (s ++ renderEvent (.versionInfo k f), true)
  fileInfo s k := (s ++ renderEvent (.fileInfo k), true)
  stringTable s l := (s ++ renderEvent (.stringTable l), true)
  string s k v := s ++ renderEvent (.string k v)
  var s k v := s ++ renderEvent (.var k v)
  enterScope s d := s ++ renderEvent (.enter d)
  exitScope s d := s ++ renderEvent (.exit d)

/-- src: VersionInfo::source_code -/
def sourceCode (words : Sl) : Out Str := visit sourceVisitor words []

/-! ### try_from -/

/-- the u16 words of a byte buffer: `from_raw_parts(ptr as *const u16, len / 2)` -/
def wordsOfBytes (b : Bytes) : List Nat := (List.range (b.size / 2)).map fun i => le16 b (2 * i)

/-- src: VersionInfo::try_from; `base` = address of `bytes[0]` -/
def tryFrom (base : Nat) (bytes : Bytes) : Out Sl :=
  if base % 4 ≠ 0 then .err .misaligned else .ok ⟨0, wordsOfBytes bytes⟩

end Pelite.Version
