import PeliteModel.Prim.Basic
/-!
Model of `src/rich_structure.rs` (`RichStructure`, `RichRecord`, `RichIter`) and of the `u32`
reinterpretation in `Pe::rich_structure` (src/pe64/pe.rs).

An image is seen as a list of dwords (`Nat`, each `< 2^32`).  A `RichStructure` is the pair of
slices the Rust struct holds.  Every indexing / slicing / checked arithmetic operation of the Rust
code has its own failure branch (`Out.panic`) so that "never panics" is a theorem, not an assumption.
Core-only imports.
-/
namespace Pelite.Rich

def DANS : Nat := 0x536e6144   -- DANS_MARKER "DanS"
def RICH : Nat := 0x68636952   -- RICH_MARKER "Rich"
def USZ : Nat := 18446744073709551616   -- 2^64 (usize)

/-- `image[i]` on a `&[u32]`: panics when out of range. -/
def idx (site : String) (ws : List Nat) (i : Nat) : Out Nat :=
  match ws[i]? with
  | some v => .ok v
  | none => .panic site

/-- `a * b` on u32 (checked build). -/
def pmul32 (site : String) (a b : Nat) : Out Nat := if a * b < 4294967296 then .ok (a * b) else .panic site
/-- `a * b` on usize (checked build). -/
def pmul64 (site : String) (a b : Nat) : Out Nat := if a * b < USZ then .ok (a * b) else .panic site

/-- `u32::rotate_left(x, n)`: the shift distance is `n mod 32`. -/
def rotl32 (x n : Nat) : Nat :=
  ((x <<< (n % 32)) % 4294967296) ||| (x >>> (32 - n % 32))

/-! ### RichRecord -/

/-- `RichRecord { build: u16, product: u16, count: u32 }` -/
structure Record where
  build : Nat
  product : Nat
  count : Nat
  deriving DecidableEq, Repr

/-- the field ranges the Rust types impose -/
def Record.WF (r : Record) : Prop := r.build < 65536 ∧ r.product < 65536 ∧ r.count < 4294967296

instance (r : Record) : Decidable r.WF := by unfold Record.WF; infer_instance

-- src: rich_structure.rs:RichRecord::decode
def Record.decode (key v0 v1 : Nat) : Record :=
  let field := v0 ^^^ key
  let build := field &&& 0xffff
  let product := (field >>> 16) &&& 0xffff
  let count := v1 ^^^ key
  ⟨build, product, count⟩

/-- `(product as u32) << 16 | (build as u32)` (no bit is shifted out: `product < 2^16`) -/
def Record.value (r : Record) : Nat := (r.product <<< 16) ||| r.build

-- src: rich_structure.rs:RichRecord::encode
def Record.encode (r : Record) (key : Nat) : Nat × Nat :=
  (r.value ^^^ key, r.count ^^^ key)

/-! ### RichStructure::try_from -/

/-- `RichStructure { dos_stub: &[u32], image: &[u32] }`; `dos_stub = &area[..start]`,
`image = &area[start..end]`, so `start = dosStub.length`, `end = dosStub.length + image.length`. -/
structure RichS where
  dosStub : List Nat
  image : List Nat
  deriving DecidableEq, Repr

def RichS.start (r : RichS) : Nat := r.dosStub.length
def RichS.end_ (r : RichS) : Nat := r.dosStub.length + r.image.length

/-- src: rich_structure.rs:try_from, first loop ("Skip the padding zeroes"), `e` = `end`. -/
def skipPad (img : List Nat) (e : Nat) : Out Nat :=
  if e < 16 then .err .invalid
  else
    match img[e - 1]? with                   -- `end - 1`: no underflow, 16 ≤ end
    | none => .panic "rich_structure.rs:47 image[end - 1]"
    | some v =>
      if v ≠ 0 then .ok e
      else skipPad img (e - 1)               -- `end -= 1`
termination_by e
decreasing_by omega

/-- the short-circuit test `image[start] == dx && image[start+1] == x && image[start+2] == x && image[start+3] == x` -/
def hdrAt (img : List Nat) (x dx s : Nat) : Out Bool :=
  match img[s]? with
  | none => .panic "rich_structure.rs:67 image[start]"
  | some a =>
    if a ≠ dx then .ok false else
    match img[s + 1]? with
    | none => .panic "rich_structure.rs:67 image[start + 1]"
    | some b =>
      if b ≠ x then .ok false else
      match img[s + 2]? with
      | none => .panic "rich_structure.rs:67 image[start + 2]"
      | some c =>
        if c ≠ x then .ok false else
        match img[s + 3]? with
        | none => .panic "rich_structure.rs:67 image[start + 3]"
        | some d => .ok (d = x)

/-- src: rich_structure.rs:try_from, second loop ("Scan to find the header block"), `s` = `start`. -/
def findStart (img : List Nat) (x dx : Nat) (s : Nat) : Out Nat :=
  if s < 16 then .err .invalid
  else
    match hdrAt img x dx s with
    | .ok true => .ok s
    | .ok false => findStart img x dx (s - 2)     -- `start -= 2`: no underflow, 16 ≤ start
    | .err e => .err e
    | .panic p => .panic p
    | .ub p => .ub p
    | .diverge => .diverge
termination_by s
decreasing_by omega

/-- `&image[a..b]` on a slice: panics unless `a ≤ b ≤ len`. -/
def slice (site : String) (ws : List Nat) (a b : Nat) : Out (List Nat) :=
  if a ≤ b ∧ b ≤ ws.length then .ok ((ws.take b).drop a) else .panic site

/-- src: rich_structure.rs:RichStructure::try_from, everything after the shadowing
`let image = image.get(..(e_lfanew / 4) as usize)`; `img` is that truncated slice. -/
def parseArea (img : List Nat) : Out RichS :=
  skipPad img img.length >>= fun e =>
  idx "rich_structure.rs:55 image[end - 2]" img (e - 2) >>= fun m =>
  if m ≠ RICH then .err .badMagic else
  idx "rich_structure.rs:58 image[end - 1]" img (e - 1) >>= fun x =>
  let dx := DANS ^^^ x
  psub "rich_structure.rs:62 end - 6" e 6 >>= fun s0 =>
  findStart img x dx s0 >>= fun s =>
  slice "rich_structure.rs:75 &image[..start]" img 0 s >>= fun dosStub =>
  slice "rich_structure.rs:76 &image[start..end]" img s e >>= fun im =>
  .ok ⟨dosStub, im⟩

-- src: rich_structure.rs:RichStructure::try_from
def tryFrom (image : List Nat) : Out RichS :=
  match image[15]? with                       -- image.get(15).ok_or(Invalid)
  | none => .err .invalid
  | some eLfanew =>
    let n := eLfanew / 4                      -- (e_lfanew / 4) as usize
    if n > image.length then .err .invalid    -- image.get(..n).ok_or(Invalid)
    else parseArea (image.take n)

/-- The dwords of a byte buffer as `Pe::rich_structure` sees them:
`slice::from_raw_parts(image.as_ptr() as *const u32, image.len() / 4)` on a little-endian machine. -/
def wordsGo (b : Bytes) : Nat → Nat → List Nat
  | 0, _ => []
  | k + 1, i => le32 b (4 * i) :: wordsGo b k (i + 1)

def words (b : Bytes) : List Nat := wordsGo b (b.size / 4) 0

-- src: pe64/pe.rs:Pe::rich_structure — the reinterpretation needs a 4-aligned image pointer
def ofImage (img : Img) : Out RichS :=
  rawRef "pe.rs:473 from_raw_parts(image as *const u32)" img 0 (img.bytes.size / 4 * 4) 4 >>= fun _ =>
  tryFrom (words img.bytes)

/-! ### accessors -/

-- src: rich_structure.rs:RichStructure::xor_key
def RichS.xorKey (r : RichS) : Out Nat := idx "rich_structure.rs:114 self.image[1]" r.image 1

/-- `RichIter { iter: &[u32], key: u32 }` -/
structure Iter where
  iter : List Nat
  key : Nat
  deriving DecidableEq, Repr

-- src: rich_structure.rs:RichStructure::records
def RichS.records (r : RichS) : Out Iter :=
  psub "rich_structure.rs:118 self.image.len() - 2" r.image.length 2 >>= fun hi =>
  slice "rich_structure.rs:118 &self.image[4..len - 2]" r.image 4 hi >>= fun it =>
  r.xorKey >>= fun key =>
  .ok ⟨it, key⟩

/-! ### RichIter -/

-- src: rich_structure.rs:RichIter::next
def Iter.next (it : Iter) : Out (Option Record × Iter) :=
  if it.iter.length ≥ 2 then
    idx "rich_structure.rs:254 self.iter[0]" it.iter 0 >>= fun a =>
    idx "rich_structure.rs:254 self.iter[1]" it.iter 1 >>= fun b =>
    slice "rich_structure.rs:255 &self.iter[2..]" it.iter 2 it.iter.length >>= fun rest =>
    .ok (some (Record.decode it.key a b), ⟨rest, it.key⟩)
  else .ok (none, it)

-- src: rich_structure.rs:RichIter::size_hint  (lower bound = upper bound)
def Iter.sizeHint (it : Iter) : Nat := it.iter.length / 2

-- src: rich_structure.rs:RichIter::count, ExactSizeIterator::len (default: the size hint)
def Iter.count (it : Iter) : Nat := it.sizeHint
def Iter.len (it : Iter) : Nat := it.sizeHint

-- src: rich_structure.rs:RichIter::nth   (as of commit ed9f3f7: the guard is `len / 2 > n`, so the
-- checked `n * 2`, `+ 1`, `+ 2` below it stay far from `usize::MAX`; they are modelled as checked anyway)
def Iter.nth (it : Iter) (n : Nat) : Out (Option Record × Iter) :=
  if it.iter.length / 2 > n then
    pmul64 "rich_structure.rs:271 n * 2" n 2 >>= fun n2 =>
    padd64 "rich_structure.rs:271 n * 2 + 1" n2 1 >>= fun n21 =>
    padd64 "rich_structure.rs:272 n * 2 + 2" n2 2 >>= fun n22 =>
    idx "rich_structure.rs:271 self.iter[n * 2]" it.iter n2 >>= fun a =>
    idx "rich_structure.rs:271 self.iter[n * 2 + 1]" it.iter n21 >>= fun b =>
    slice "rich_structure.rs:272 &self.iter[n * 2 + 2..]" it.iter n22 it.iter.length >>= fun rest =>
    .ok (some (Record.decode it.key a b), ⟨rest, it.key⟩)
  else
    slice "rich_structure.rs:276 &self.iter[..0]" it.iter 0 0 >>= fun rest =>
    .ok (none, ⟨rest, it.key⟩)

-- src: rich_structure.rs:RichIter::next_back
def Iter.nextBack (it : Iter) : Out (Option Record × Iter) :=
  let len := it.iter.length
  if len ≥ 2 then
    idx "rich_structure.rs:285 self.iter[len - 2]" it.iter (len - 2) >>= fun a =>
    idx "rich_structure.rs:285 self.iter[len - 1]" it.iter (len - 1) >>= fun b =>
    slice "rich_structure.rs:286 &self.iter[..len - 2]" it.iter 0 (len - 2) >>= fun rest =>
    .ok (some (Record.decode it.key a b), ⟨rest, it.key⟩)
  else .ok (none, it)

/-- Running `next` to exhaustion (`for record in records`, `collect`): the decoded dword pairs in
order; a trailing odd dword is never reached.  (Tied to `Iter.next` by `collect_next` in Lemmas.) -/
def decodeAll (key : Nat) : List Nat → List Record
  | a :: b :: t => Record.decode key a b :: decodeAll key t
  | _ => []

def Iter.collect (it : Iter) : List Record := decodeAll it.key it.iter

/-! ### checksum -/

/-- the four bytes of a dword in memory order (little endian), as `*(dword as *const [u8; 4])` reads them -/
def byte0 (w : Nat) : Nat := w % 256
def byte1 (w : Nat) : Nat := w / 256 % 256
def byte2 (w : Nat) : Nat := w / 65536 % 256
def byte3 (w : Nat) : Nat := w / 16777216 % 256

/-- src: rich_structure.rs:_checksum, first loop; `i : u32` is the byte offset.
`i + k` (k ≤ 3) and `i += 4` are checked additions. -/
def csumStub : List Nat → Nat → Nat → Out Nat
  | [], _, csum => .ok csum
  | w :: ws, i, csum =>
    if i + 3 ≥ 4294967296 then .panic "rich_structure.rs:98 i + k" else
    let b0 := if i = 0x3c then 0 else byte0 w     -- "Zero the e_lfanew field"
    let b1 := if i = 0x3c then 0 else byte1 w
    let b2 := if i = 0x3c then 0 else byte2 w
    let b3 := if i = 0x3c then 0 else byte3 w
    let csum := wadd32 csum (rotl32 b0 (i + 0))
    let csum := wadd32 csum (rotl32 b1 (i + 1))
    let csum := wadd32 csum (rotl32 b2 (i + 2))
    let csum := wadd32 csum (rotl32 b3 (i + 3))
    if i + 4 ≥ 4294967296 then .panic "rich_structure.rs:102 i += 4" else
    csumStub ws (i + 4) csum

/-- src: rich_structure.rs:_checksum, second loop -/
def csumRecs : List Record → Nat → Nat
  | [], csum => csum
  | r :: rs, csum => csumRecs rs (wadd32 csum (rotl32 r.value r.count))

-- src: rich_structure.rs:RichStructure::_checksum   (`size_of_val(dos_stub) as u32` truncates)
def checksumOf (dosStub : List Nat) (records : List Record) : Out Nat :=
  csumStub dosStub 0 ((4 * dosStub.length) % 4294967296) >>= fun c =>
  .ok (csumRecs records c)

-- src: rich_structure.rs:RichStructure::checksum
def RichS.checksum (r : RichS) : Out Nat :=
  r.records >>= fun it => checksumOf r.dosStub it.collect

/-! ### encode -/

/-- result of `encode`: `Err(total_len)` (destination untouched) or `Ok(total_len)` and the new destination -/
inductive EncRes
  | tooSmall (need : Nat)
  | done (total : Nat) (dest : List Nat)
  deriving DecidableEq, Repr

/-- the dwords `encode` writes for the records: `dest[i*2+4], dest[i*2+5]` -/
def encodeAll (key : Nat) : List Record → List Nat
  | [] => []
  | r :: rs => (r.encode key).1 :: (r.encode key).2 :: encodeAll key rs

/-- src: rich_structure.rs:RichStructure::encode.  `destLen = dest.len()`.  Every index below
`dest.len()` is written exactly once (header 0..3, records 4..2n+3, footer 2n+4, 2n+5, padding the
rest), so the new destination is given in closed form; `n * 2 + 6` cannot overflow `usize`
(a slice of 8-byte records has `n < 2^60`). -/
def RichS.encode (r : RichS) (records : List Record) (destLen : Nat) : Out EncRes :=
  checksumOf r.dosStub records >>= fun key =>
  let n := records.length
  -- let total_size = ((xor_key / 32) % 3 + n as u32) * 8 + 0x20;
  padd32 "rich_structure.rs:131 (xor_key / 32) % 3 + n as u32" ((key / 32) % 3) (n % 4294967296) >>= fun a =>
  pmul32 "rich_structure.rs:131 (..) * 8" a 8 >>= fun b =>
  padd32 "rich_structure.rs:131 (..) * 8 + 0x20" b 0x20 >>= fun totalSize =>
  let totalLen := totalSize / 4
  if destLen < n * 2 + 6 then .ok (.tooSmall totalLen)
  else
    .ok (.done totalLen
      ([DANS ^^^ key, key, key, key] ++ encodeAll key records ++ [RICH, key]
        ++ List.replicate (destLen - (n * 2 + 6)) 0))

end Pelite.Rich
