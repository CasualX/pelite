/-
Primitive layer shared by every model module (DESIGN.md appendix A): errors, outcomes, byte reads, machine arithmetic, images and
references, with the lemmas about them that every area uses and the form in which closed facts about a literal image are
evaluated (`Bytes.toNat`).  Core-only imports: the driver executable links against this.
-/
namespace Pelite

/-- The twelve `pelite::Error` kinds (src/error.rs). -/
inductive Err
  | null | bounds | zeroFill | unmapped | misaligned | badMagic | peMagic
  | insanity | invalid | overflow | encoding | aliasing
  deriving DecidableEq, Repr, Inhabited

def Err.name : Err → String
  | .null => "Null" | .bounds => "Bounds" | .zeroFill => "ZeroFill" | .unmapped => "Unmapped"
  | .misaligned => "Misaligned" | .badMagic => "BadMagic" | .peMagic => "PeMagic"
  | .insanity => "Insanity" | .invalid => "Invalid" | .overflow => "Overflow"
  | .encoding => "Encoding" | .aliasing => "Aliasing"

/-- Outcome of a modelled operation.  `panic` = a Rust panic of the checked (debug) build,
`ub` = an unchecked access outside the buffer or misaligned, `diverge` = fuel exhausted. -/
inductive Out (α : Type)
  | ok (a : α)
  | err (e : Err)
  | panic (site : String)
  | ub (site : String)
  | diverge
  deriving Repr, DecidableEq

namespace Out
@[inline] def bind {α β} (x : Out α) (f : α → Out β) : Out β :=
  match x with
  | ok a => f a
  | err e => err e
  | panic s => panic s
  | ub s => ub s
  | diverge => diverge

instance : Monad Out where
  pure := Out.ok
  bind := Out.bind

def isOk {α} : Out α → Bool | ok _ => true | _ => false
def isPanic {α} : Out α → Bool | panic _ => true | _ => false
def isUb {α} : Out α → Bool | ub _ => true | _ => false
def isDiverge {α} : Out α → Bool | diverge => true | _ => false

def ofOption {α} (e : Err) : Option α → Out α
  | some a => ok a
  | none => err e

@[simp] theorem bind_ok {α β} (a : α) (f : α → Out β) : (Out.ok a >>= f) = f a := rfl
@[simp] theorem bind_err {α β} (e : Err) (f : α → Out β) : (Out.err e >>= f) = Out.err e := rfl
@[simp] theorem bind_panic {α β} (s) (f : α → Out β) : (Out.panic s >>= f) = Out.panic s := rfl
@[simp] theorem bind_ub {α β} (s) (f : α → Out β) : (Out.ub s >>= f) = Out.ub s := rfl
@[simp] theorem bind_diverge {α β} (f : α → Out β) : ((Out.diverge : Out α) >>= f) = Out.diverge := rfl
@[simp] theorem pure_eq {α} (a : α) : (pure a : Out α) = Out.ok a := rfl
end Out

abbrev Bytes := Array UInt8

def U8 : Nat := 256
def U16 : Nat := 65536
def U32 : Nat := 4294967296
def U64 : Nat := 18446744073709551616

/-- byte at `i` as a `Nat`, 0 when out of range (callers check the range first). -/
@[inline] def byteAt (b : Bytes) (i : Nat) : Nat := (b.getD i 0).toNat

theorem byteAt_lt (b : Bytes) (i : Nat) : byteAt b i < 256 := by
  unfold byteAt; exact UInt8.toNat_lt _

theorem byteAt_eq (b : Bytes) (i : Nat) : byteAt b i = (b[i]?.getD 0).toNat := by
  unfold byteAt; rw [Array.getD_eq_getD_getElem?]

theorem byteAt_toList {bytes : Bytes} {i : Nat} (h : i < bytes.toList.length) : byteAt bytes i = (bytes.toList[i]).toNat := by
  have h' : i < bytes.size := by simpa using h
  simp [byteAt, Array.getD, h']

theorem byteAt_replicate_zero (n i : Nat) : byteAt (Array.replicate n (0 : UInt8)) i = 0 := by
  rw [byteAt_eq, Array.getElem?_replicate]
  split <;> rfl

theorem byteAt_of_ge (b : Bytes) (i : Nat) (h : b.size ≤ i) : byteAt b i = 0 := by
  unfold byteAt
  simp [Array.getD, Nat.not_lt.2 h]

/-- little-endian reads (unchecked: caller has established the range). -/
@[inline] def le16 (b : Bytes) (i : Nat) : Nat := byteAt b i + 256 * byteAt b (i+1)
@[inline] def le32 (b : Bytes) (i : Nat) : Nat :=
  byteAt b i + 256 * byteAt b (i+1) + 65536 * byteAt b (i+2) + 16777216 * byteAt b (i+3)
@[inline] def le64 (b : Bytes) (i : Nat) : Nat := le32 b i + 4294967296 * le32 b (i+4)

theorem le16_of_ge (b : Bytes) (i : Nat) (h : b.size ≤ i) : le16 b i = 0 := by
  unfold le16
  rw [byteAt_of_ge b i h, byteAt_of_ge b (i + 1) (by omega)]

theorem le16_lt (b : Bytes) (i : Nat) : le16 b i < 65536 := by
  have := byteAt_lt b i; have := byteAt_lt b (i+1); unfold le16; omega
theorem le32_lt (b : Bytes) (i : Nat) : le32 b i < 4294967296 := by
  have := byteAt_lt b i; have := byteAt_lt b (i+1); have := byteAt_lt b (i+2); have := byteAt_lt b (i+3)
  unfold le32; omega
theorem le64_lt (b : Bytes) (i : Nat) : le64 b i < 18446744073709551616 := by
  have := le32_lt b i; have := le32_lt b (i+4); unfold le64; omega

theorem le32_eq_le16 (b : Bytes) (i : Nat) : le32 b i = le16 b i + 65536 * le16 b (i + 2) := by
  unfold le32 le16
  rw [show i + 2 + 1 = i + 3 from rfl]
  omega

/-- evaluated as it stands, `Array.extract` is a chain of `push`es over reads at `a + j` -/
theorem extract_eq_window (b : Bytes) (a c : Nat) : b.extract a c = ⟨(b.toList.drop a).take (c - a)⟩ := by
  apply Array.toList_inj.1
  simp [List.take_drop]

/-! ### reads as digits of one number

`byteAt` on a literal array walks to offset `i` (about 575·`i` kernel steps) and two reads share nothing.  Rewritten with the
equations below, the literal is folded into one number once per declaration and every read, at whatever offset and under whatever
binder, is one division and one remainder of big-number arithmetic.

When.  A fact with a handful of reads of an image of up to about 300 bytes — the images of C01–C07 — costs a few million steps as
it stands and is left to a bare `decide +kernel`; the reads are rewritten where the image is larger, where they are many or stand
under a binder (a scan, `∀ i < n`), and in the lemmas that evaluate the header of an image once for every user (`twoSecPe32_hdr`,
`demo64File_layout`).

A trap.  `unfold f` / `simp only [f]` is a definitional step: when the body of `f` is a `match`, the kernel, re-checking the step,
unfolds the matcher first and evaluates its scrutinee in the form it had BEFORE the reads were rewritten.  Where the scrutinee is a
computation over the image (`match v.at a n k with`, `match v.dataDir i with`) that can be one more full evaluation, as dear as the
bare fact; where it is a field or a constructor (`match v.kind`, `match a`: `View.slice`, `View.at`) it is nothing.  An `f` of the
first kind is opened with `rw [f]` (its equation theorem, a real rewrite) or with an equation proved as a lemma whose right side is
a `bind` or an `if` (`…_eq`, `…_bind`, `…_file`, `hdr_toNat`, `View.dataDir_toNat`).  Likewise a `let`-bound image is evaluated
under its `let` (`simp only` substitutes it), not after `intro`. -/

def Bytes.toNat (b : Bytes) : Nat := b.toList.foldr (fun x acc => x.toNat + 256 * acc) 0

theorem foldr_byte : ∀ (l : List UInt8) (i : Nat),
    l.foldr (fun x acc => x.toNat + 256 * acc) 0 / 256 ^ i % 256 = (l[i]?.getD 0).toNat
  | [], i => by simp
  | x :: l, 0 => by
    have := UInt8.toNat_lt x
    simp only [List.foldr_cons, Nat.pow_zero, Nat.div_one, List.getElem?_cons_zero, Option.getD_some]
    omega
  | x :: l, i + 1 => by
    have := UInt8.toNat_lt x
    rw [List.foldr_cons, Nat.pow_succ, Nat.mul_comm (256 ^ i), ← Nat.div_div_eq_div_mul,
      show (x.toNat + 256 * l.foldr (fun x acc => x.toNat + 256 * acc) 0) / 256 = l.foldr (fun x acc => x.toNat + 256 * acc) 0 by omega,
      foldr_byte l i, List.getElem?_cons_succ]

theorem byteAt_toNat (b : Bytes) (i : Nat) : byteAt b i = b.toNat / 256 ^ i % 256 := by
  rw [byteAt_eq, Bytes.toNat, foldr_byte, Array.getElem?_toList]

theorem le16_toNat (b : Bytes) (i : Nat) : le16 b i = b.toNat / 256 ^ i % 65536 := by
  rw [le16, byteAt_toNat, byteAt_toNat, Nat.pow_succ, ← Nat.div_div_eq_div_mul]
  omega

theorem le32_toNat (b : Bytes) (i : Nat) : le32 b i = b.toNat / 256 ^ i % 4294967296 := by
  rw [le32_eq_le16, le16_toNat, le16_toNat, Nat.pow_add, ← Nat.div_div_eq_div_mul]
  omega

theorem le64_toNat (b : Bytes) (i : Nat) : le64 b i = b.toNat / 256 ^ i % 18446744073709551616 := by
  rw [le64, le32_toNat, le32_toNat, Nat.pow_add, ← Nat.div_div_eq_div_mul]
  omega

/-! ### machine arithmetic -/

@[inline] def wadd32 (a b : Nat) : Nat := (a + b) % 4294967296
@[inline] def wsub32 (a b : Nat) : Nat := (a + 4294967296 - b % 4294967296) % 4294967296
@[inline] def wadd64 (a b : Nat) : Nat := (a + b) % 18446744073709551616
@[inline] def wsub64 (a b : Nat) : Nat := (a + 18446744073709551616 - b % 18446744073709551616) % 18446744073709551616
@[inline] def cadd32 (a b : Nat) : Option Nat := if a + b < 4294967296 then some (a + b) else none
@[inline] def cadd64 (a b : Nat) : Option Nat := if a + b < 18446744073709551616 then some (a + b) else none
@[inline] def padd32 (site : String) (a b : Nat) : Out Nat := if a + b < 4294967296 then .ok (a + b) else .panic site
@[inline] def padd64 (site : String) (a b : Nat) : Out Nat := if a + b < 18446744073709551616 then .ok (a + b) else .panic site
@[inline] def psub (site : String) (a b : Nat) : Out Nat := if b ≤ a then .ok (a - b) else .panic site

/-- `util::AlignTo::align_to` on `u32` for a power-of-two `a` (wrapping add, then mask). -/
@[inline] def alignTo32 (x a : Nat) : Nat := (wadd32 x (a - 1)) / a * a
/-- same on `usize` (64 bit) -/
@[inline] def alignTo64 (x a : Nat) : Nat := (wadd64 x (a - 1)) / a * a

theorem psub_ok {s : String} {a b : Nat} (h : b ≤ a) : psub s a b = .ok (a - b) := by
  unfold psub; rw [if_pos h]
theorem wadd32_eq {a b : Nat} (h : a + b < 4294967296) : wadd32 a b = a + b := Nat.mod_eq_of_lt h
theorem padd32_ok {site : String} {a b : Nat} (h : a + b < 4294967296) : padd32 site a b = .ok (a + b) :=
  if_pos h
theorem padd64_ok {site : String} {a b : Nat} (h : a + b < 18446744073709551616) : padd64 site a b = .ok (a + b) :=
  if_pos h

/-! ### images and references -/

/-- An image: the buffer and the machine address of its byte 0. -/
structure Img where
  bytes : Bytes
  base : Nat

/-- What a returned `&T`, `&[T]`, `&CStr` is: a window into the image, with the alignment its type needs. -/
structure Ref where
  off : Nat
  len : Nat
  align : Nat
  deriving DecidableEq, Repr

def RefOK (i : Img) (r : Ref) : Prop :=
  r.off + r.len ≤ i.bytes.size ∧ (i.base + r.off) % r.align = 0

instance (i : Img) (r : Ref) : Decidable (RefOK i r) := by unfold RefOK; infer_instance

/-- models `&*(p as *const T)`, `slice::from_raw_parts`, `get_unchecked`: UB unless inside and aligned -/
def rawRef (site : String) (i : Img) (off size align : Nat) : Out Ref :=
  if off + size ≤ i.bytes.size ∧ (i.base + off) % align = 0 then .ok ⟨off, size, align⟩ else .ub site

theorem rawRef_ok {site i off size align r} (h : rawRef site i off size align = .ok r) : RefOK i r := by
  unfold rawRef at h
  split at h
  · cases h; assumption
  · cases h

theorem rawRef_eq_ok {site : String} {i : Img} {off size align : Nat} (h1 : off + size ≤ i.bytes.size)
    (h2 : (i.base + off) % align = 0) : rawRef site i off size align = .ok ⟨off, size, align⟩ :=
  if_pos ⟨h1, h2⟩

theorem rawRef_ok_eq {site : String} {i : Img} {off size align : Nat} {r : Ref}
    (h : rawRef site i off size align = .ok r) : r = ⟨off, size, align⟩ := by
  unfold rawRef at h
  split at h <;> cases h
  rfl

theorem Out.bind_eq_ok {α β} {x : Out α} {f : α → Out β} {b : β} (h : x.bind f = .ok b) :
    ∃ a, x = .ok a ∧ f a = .ok b := by
  cases x with
  | ok a => exact ⟨a, rfl, h⟩
  | _ => cases h

theorem Out.bind_returns {α β} {x : Out α} {f : α → Out β} (hx : ∃ a, x = .ok a) (hf : ∀ a, x = .ok a → ∃ b, f a = .ok b) :
    ∃ b, (x >>= f) = .ok b := by
  obtain ⟨a, rfl⟩ := hx
  exact hf a rfl

theorem bind_congr_ok {α β} {x : Out α} {f g : α → Out β} (h : ∀ a, x = .ok a → f a = g a) : x.bind f = x.bind g := by
  cases x <;> first | rfl | exact h _ rfl

theorem ofOption_eq_ok {α} {e : Err} {o : Option α} {a : α} : Out.ofOption e o = .ok a ↔ o = some a := by
  cases o <;> simp [Out.ofOption]

theorem ofOption_eq_err {α} {e : Err} {o : Option α} (h : ∀ a, Out.ofOption e o ≠ .ok a) : Out.ofOption e o = .err e := by
  cases o with
  | none => rfl
  | some a => exact absurd rfl (h a)

theorem ofOption_bind_eq_ok {α β} {e : Err} {o : Option α} {f : α → Out β} {y : β} :
    (Out.ofOption e o).bind f = .ok y ↔ ∃ a, o = some a ∧ f a = .ok y := by
  cases o <;> simp [Out.ofOption, Out.bind]

/-- an outcome that is a value or an error: no panic, no unchecked out-of-bounds access, no hang
(the same proposition as `Pe.OkOrErr`, so the `okOrErr_*` lemmas prove it as they stand) -/
def Out.Clean {α} (o : Out α) : Prop := (∃ a, o = .ok a) ∨ (∃ e, o = .err e)

theorem Out.Clean.ne_panic {α} {o : Out α} (h : o.Clean) (s : String) : o ≠ .panic s := by
  rcases h with ⟨a, rfl⟩ | ⟨e, rfl⟩ <;> intro h <;> cases h
theorem Out.Clean.ne_ub {α} {o : Out α} (h : o.Clean) (s : String) : o ≠ .ub s := by
  rcases h with ⟨a, rfl⟩ | ⟨e, rfl⟩ <;> intro h <;> cases h
theorem Out.Clean.ne_diverge {α} {o : Out α} (h : o.Clean) : o ≠ .diverge := by
  rcases h with ⟨a, rfl⟩ | ⟨e, rfl⟩ <;> intro h <;> cases h

theorem ite_err_eq_ok {α : Type} {c : Prop} [Decidable c] {e : Err} {x : Out α} {a : α} :
    (if c then .err e else x) = .ok a ↔ ¬ c ∧ x = .ok a := by
  by_cases h : c <;> simp [h]

theorem ite_err_eq_err {α : Type} {c : Prop} [Decidable c] {e e' : Err} {x : Out α} :
    (if c then .err e else x) = .err e' ↔ (c ∧ e = e') ∨ (¬ c ∧ x = .err e') := by
  by_cases h : c <;> simp [h]

theorem filterMap_congr_mem {α β} {f g : α → Option β} (l : List α) (h : ∀ x ∈ l, f x = g x) :
    l.filterMap f = l.filterMap g := by
  induction l with
  | nil => rfl
  | cons a l ih =>
    simp only [List.filterMap_cons, h a (List.mem_cons_self ..), ih (fun x hx => h x (List.mem_cons_of_mem _ hx))]

theorem flatMap_congr_mem {α β} {f g : α → List β} (l : List α) (h : ∀ x ∈ l, f x = g x) :
    l.flatMap f = l.flatMap g := by
  rw [List.flatMap_def, List.flatMap_def, List.map_congr_left h]

end Pelite
