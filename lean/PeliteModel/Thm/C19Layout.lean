import PeliteModel.Model.JsonDirs
import PeliteModel.Generated.ImageLayout
/-!
C19 — the `(name, offset, width)` lists and the inline offsets of the serializer model (`Model/Json.lean`,
`Model/JsonDirs.lean`) are the struct layouts of the *current source* (`Generated/ImageLayout.lean`, rewritten on
every check run from `size_of` / `align_of` / `offset_of!` of the structs of `src/image.rs`).

`#[derive(Serialize)]` emits the fields of a struct in declaration order under their own names.  The model lists each
field as `(name, offset, width)`.  The theorems below state every such triple as

    fld! STRUCT field next   =   ("field", STRUCT__field, STRUCT__next - STRUCT__field)

where `next` is the field declared after it (`size` for the last one): the NAME string and the OFFSET constant are
produced from the same identifier by the macro, so a triple of the model whose name and offset belong to different
fields cannot satisfy the statement, and the WIDTH is the distance to the next field (the structs serialized here
have no padding: the widths add up to the struct's size, `C19_json_header_widths_cover`).

Widths not derived from the table: none for the header structs.  For `IMAGE_VERSION<T>` (generic, not in the table)
the member width is half the distance to the next field (`verField`), for `[u16; n]` the element count is half the
byte distance (`arrField`); `IMAGE_NT_HEADERS::Signature`, the data directory pairs and the section name are stated
through their offsets / the name's 8 bytes (`VirtualSize - Name`).
Not tied: `serializeLoadConfig`'s `le32 v.b r.off` is the `u32` behind the security cookie pointer (no struct); the index `5`
of `v.dataDir 5` (`IMAGE_DIRECTORY_ENTRY_BASERELOC`).
-/
namespace Pelite.Pe
open Pelite Pelite.Json Pelite.Generated.Layout

open Lean in
/-- `fld! S f n` = `("f", S__f, S__n - S__f)`: name, offset and width of field `f` of struct `S`, `n` the field
declared after it (`size` after the last) -/
macro "fld!" s:ident f:ident n:ident : term =>
  let c (x : Name) := mkIdent (Name.mkSimple (s.getId.toString ++ "__" ++ x.toString))
  `(($(Syntax.mkStrLit f.getId.toString), $(c f.getId), $(c n.getId) - $(c f.getId)))

open Lean in
/-- `named! S f n` = `("f", S__f, S__n)`: name and offset of field `f`, offset of the field after it -/
macro "named!" s:ident f:ident n:ident : term =>
  let c (x : Name) := mkIdent (Name.mkSimple (s.getId.toString ++ "__" ++ x.toString))
  `(($(Syntax.mkStrLit f.getId.toString), $(c f.getId), $(c n.getId)))

example : (fld! IMAGE_DOS_HEADER e_lfanew size) = ("e_lfanew", 60, 4) := rfl
example : (named! IMAGE_DOS_HEADER e_res e_oemid) = ("e_res", 28, 36) := rfl

/-- an `IMAGE_VERSION<T>` member `(name, offset, offset of the next field)` at `o`: two `T`s, Major then Minor -/
def verField (b : Bytes) (o : Nat) (p : String × Nat × Nat) : String × Json :=
  (p.1, versionAt b (o + p.2.1) ((p.2.2 - p.2.1) / 2))
/-- a `[u16; n]` member `(name, offset, offset of the next field)` of the DOS header -/
def arrField (b : Bytes) (p : String × Nat × Nat) : String × Json :=
  (p.1, u16Array b p.2.1 ((p.2.2 - p.2.1) / 2))

/-- **Header structs**: every `(name, offset, width)` of `dosHeaderJson`, `fileHeaderJson`, `optionalHeaderJson`
(PE32 and PE32+) and `sectionHeaderJson` is `(field name, offset of that field in the source, distance to the next
field)`, in declaration order. -/
theorem C19_json_header_layout (b : Bytes) (o : Nat) :
    dosHeaderJson b =
      .struct (fieldsJson b 0 [fld! IMAGE_DOS_HEADER e_magic e_cblp, fld! IMAGE_DOS_HEADER e_cblp e_cp,
          fld! IMAGE_DOS_HEADER e_cp e_crlc, fld! IMAGE_DOS_HEADER e_crlc e_cparhdr,
          fld! IMAGE_DOS_HEADER e_cparhdr e_minalloc, fld! IMAGE_DOS_HEADER e_minalloc e_maxalloc,
          fld! IMAGE_DOS_HEADER e_maxalloc e_ss, fld! IMAGE_DOS_HEADER e_ss e_sp, fld! IMAGE_DOS_HEADER e_sp e_csum,
          fld! IMAGE_DOS_HEADER e_csum e_ip, fld! IMAGE_DOS_HEADER e_ip e_cs, fld! IMAGE_DOS_HEADER e_cs e_lfarlc,
          fld! IMAGE_DOS_HEADER e_lfarlc e_ovno, fld! IMAGE_DOS_HEADER e_ovno e_res] ++
        [arrField b (named! IMAGE_DOS_HEADER e_res e_oemid)] ++
        fieldsJson b 0 [fld! IMAGE_DOS_HEADER e_oemid e_oeminfo, fld! IMAGE_DOS_HEADER e_oeminfo e_res2] ++
        [arrField b (named! IMAGE_DOS_HEADER e_res2 e_lfanew)] ++
        fieldsJson b 0 [fld! IMAGE_DOS_HEADER e_lfanew size]) ∧
    fileHeaderJson b o =
      .struct (fieldsJson b o [fld! IMAGE_FILE_HEADER Machine NumberOfSections,
        fld! IMAGE_FILE_HEADER NumberOfSections TimeDateStamp, fld! IMAGE_FILE_HEADER TimeDateStamp PointerToSymbolTable,
        fld! IMAGE_FILE_HEADER PointerToSymbolTable NumberOfSymbols,
        fld! IMAGE_FILE_HEADER NumberOfSymbols SizeOfOptionalHeader,
        fld! IMAGE_FILE_HEADER SizeOfOptionalHeader Characteristics, fld! IMAGE_FILE_HEADER Characteristics size]) ∧
    optionalHeaderJson .pe32 b o =
      .struct (fieldsJson b o [fld! IMAGE_OPTIONAL_HEADER32 Magic LinkerVersion] ++
        [verField b o (named! IMAGE_OPTIONAL_HEADER32 LinkerVersion SizeOfCode)] ++
        fieldsJson b o [fld! IMAGE_OPTIONAL_HEADER32 SizeOfCode SizeOfInitializedData,
          fld! IMAGE_OPTIONAL_HEADER32 SizeOfInitializedData SizeOfUninitializedData,
          fld! IMAGE_OPTIONAL_HEADER32 SizeOfUninitializedData AddressOfEntryPoint,
          fld! IMAGE_OPTIONAL_HEADER32 AddressOfEntryPoint BaseOfCode, fld! IMAGE_OPTIONAL_HEADER32 BaseOfCode BaseOfData] ++
        fieldsJson b o [fld! IMAGE_OPTIONAL_HEADER32 BaseOfData ImageBase,
          fld! IMAGE_OPTIONAL_HEADER32 ImageBase SectionAlignment] ++
        (fieldsJson b o [fld! IMAGE_OPTIONAL_HEADER32 SectionAlignment FileAlignment,
          fld! IMAGE_OPTIONAL_HEADER32 FileAlignment OperatingSystemVersion] ++
        [verField b o (named! IMAGE_OPTIONAL_HEADER32 OperatingSystemVersion ImageVersion),
         verField b o (named! IMAGE_OPTIONAL_HEADER32 ImageVersion SubsystemVersion),
         verField b o (named! IMAGE_OPTIONAL_HEADER32 SubsystemVersion Win32VersionValue)] ++
        fieldsJson b o [fld! IMAGE_OPTIONAL_HEADER32 Win32VersionValue SizeOfImage,
          fld! IMAGE_OPTIONAL_HEADER32 SizeOfImage SizeOfHeaders, fld! IMAGE_OPTIONAL_HEADER32 SizeOfHeaders CheckSum,
          fld! IMAGE_OPTIONAL_HEADER32 CheckSum Subsystem, fld! IMAGE_OPTIONAL_HEADER32 Subsystem DllCharacteristics,
          fld! IMAGE_OPTIONAL_HEADER32 DllCharacteristics SizeOfStackReserve]) ++
        fieldsJson b o [fld! IMAGE_OPTIONAL_HEADER32 SizeOfStackReserve SizeOfStackCommit,
          fld! IMAGE_OPTIONAL_HEADER32 SizeOfStackCommit SizeOfHeapReserve,
          fld! IMAGE_OPTIONAL_HEADER32 SizeOfHeapReserve SizeOfHeapCommit,
          fld! IMAGE_OPTIONAL_HEADER32 SizeOfHeapCommit LoaderFlags,
          fld! IMAGE_OPTIONAL_HEADER32 LoaderFlags NumberOfRvaAndSizes,
          fld! IMAGE_OPTIONAL_HEADER32 NumberOfRvaAndSizes DataDirectory]) ∧
    optionalHeaderJson .pe64 b o =
      .struct (fieldsJson b o [fld! IMAGE_OPTIONAL_HEADER64 Magic LinkerVersion] ++
        [verField b o (named! IMAGE_OPTIONAL_HEADER64 LinkerVersion SizeOfCode)] ++
        fieldsJson b o [fld! IMAGE_OPTIONAL_HEADER64 SizeOfCode SizeOfInitializedData,
          fld! IMAGE_OPTIONAL_HEADER64 SizeOfInitializedData SizeOfUninitializedData,
          fld! IMAGE_OPTIONAL_HEADER64 SizeOfUninitializedData AddressOfEntryPoint,
          fld! IMAGE_OPTIONAL_HEADER64 AddressOfEntryPoint BaseOfCode, fld! IMAGE_OPTIONAL_HEADER64 BaseOfCode ImageBase] ++
        fieldsJson b o [fld! IMAGE_OPTIONAL_HEADER64 ImageBase SectionAlignment] ++
        (fieldsJson b o [fld! IMAGE_OPTIONAL_HEADER64 SectionAlignment FileAlignment,
          fld! IMAGE_OPTIONAL_HEADER64 FileAlignment OperatingSystemVersion] ++
        [verField b o (named! IMAGE_OPTIONAL_HEADER64 OperatingSystemVersion ImageVersion),
         verField b o (named! IMAGE_OPTIONAL_HEADER64 ImageVersion SubsystemVersion),
         verField b o (named! IMAGE_OPTIONAL_HEADER64 SubsystemVersion Win32VersionValue)] ++
        fieldsJson b o [fld! IMAGE_OPTIONAL_HEADER64 Win32VersionValue SizeOfImage,
          fld! IMAGE_OPTIONAL_HEADER64 SizeOfImage SizeOfHeaders, fld! IMAGE_OPTIONAL_HEADER64 SizeOfHeaders CheckSum,
          fld! IMAGE_OPTIONAL_HEADER64 CheckSum Subsystem, fld! IMAGE_OPTIONAL_HEADER64 Subsystem DllCharacteristics,
          fld! IMAGE_OPTIONAL_HEADER64 DllCharacteristics SizeOfStackReserve]) ++
        fieldsJson b o [fld! IMAGE_OPTIONAL_HEADER64 SizeOfStackReserve SizeOfStackCommit,
          fld! IMAGE_OPTIONAL_HEADER64 SizeOfStackCommit SizeOfHeapReserve,
          fld! IMAGE_OPTIONAL_HEADER64 SizeOfHeapReserve SizeOfHeapCommit,
          fld! IMAGE_OPTIONAL_HEADER64 SizeOfHeapCommit LoaderFlags,
          fld! IMAGE_OPTIONAL_HEADER64 LoaderFlags NumberOfRvaAndSizes,
          fld! IMAGE_OPTIONAL_HEADER64 NumberOfRvaAndSizes DataDirectory]) ∧
    sectionHeaderJson b o =
      .struct ([("Name", sectionNameJson b (o + IMAGE_SECTION_HEADER__Name))] ++
        fieldsJson b o [fld! IMAGE_SECTION_HEADER VirtualSize VirtualAddress,
          fld! IMAGE_SECTION_HEADER VirtualAddress SizeOfRawData, fld! IMAGE_SECTION_HEADER SizeOfRawData PointerToRawData,
          fld! IMAGE_SECTION_HEADER PointerToRawData PointerToRelocations,
          fld! IMAGE_SECTION_HEADER PointerToRelocations PointerToLinenumbers,
          fld! IMAGE_SECTION_HEADER PointerToLinenumbers NumberOfRelocations,
          fld! IMAGE_SECTION_HEADER NumberOfRelocations NumberOfLinenumbers,
          fld! IMAGE_SECTION_HEADER NumberOfLinenumbers Characteristics, fld! IMAGE_SECTION_HEADER Characteristics size]) ∧
    -- the section name is the 8 bytes before `VirtualSize`
    sectionNameJson b o =
      (let name := (List.range (IMAGE_SECTION_HEADER__VirtualSize - IMAGE_SECTION_HEADER__Name)).map fun i => byteAt b (o + i)
       if (Resources.utf8Chars (trimn name)).isSome then .str (trimn name) else nums name) :=
  ⟨rfl, rfl, rfl, rfl, rfl, rfl⟩

/-- the listed members (with the skipped `DataDirectory` of the optional headers starting where the last one ends) fill
each header struct without padding: the addends are the widths of the Rust field types, counted from image.rs — not
the widths of `C19_json_header_layout`, which are distances between offsets and add up to `size` whatever the padding. -/
theorem C19_json_header_widths_cover :
    14 * 2 + 4 * 2 + 2 * 2 + 10 * 2 + 4 = IMAGE_DOS_HEADER__size ∧
    2 + 2 + 4 + 4 + 4 + 2 + 2 = IMAGE_FILE_HEADER__size ∧
    2 + 2 * 1 + 5 * 4 + 2 * 4 + 2 * 4 + 3 * (2 * 2) + 4 * 4 + 2 * 2 + 6 * 4 = IMAGE_OPTIONAL_HEADER32__size ∧
    2 + 2 * 1 + 5 * 4 + 8 + 2 * 4 + 3 * (2 * 2) + 4 * 4 + 2 * 2 + 4 * 8 + 2 * 4 = IMAGE_OPTIONAL_HEADER64__size ∧
    8 + 6 * 4 + 2 * 2 + 4 = IMAGE_SECTION_HEADER__size ∧
    IMAGE_OPTIONAL_HEADER32__DataDirectory = IMAGE_OPTIONAL_HEADER32__size ∧
    IMAGE_OPTIONAL_HEADER64__DataDirectory = IMAGE_OPTIONAL_HEADER64__size := by decide

/-- **The rest of "headers"**: where the NT headers, the file header, the section table and the fields `details`
decodes are read. -/
theorem C19_json_headers_offsets (v : View) :
    v.headersJson =
      (let h := v.headerJson
       .struct [
        ("DosHeader", dosHeaderJson v.b),
        ("NtHeaders", .struct [("Signature", .num (le32 v.b (eLfanew v.b + IMAGE_NT_HEADERS32__Signature))),
          ("FileHeader", fileHeaderJson v.b (eLfanew v.b + IMAGE_NT_HEADERS32__FileHeader)),
          ("OptionalHeader", optionalHeaderJson v.fmt v.b (optOff v.b))]),
        ("DataDirectory", .arr (h.dataDirectory.map fun d => .struct [("VirtualAddress", .num d.1), ("Size", .num d.2)])),
        ("SectionHeaders", .arr ((List.range (numberOfSections v.b)).map fun i =>
          sectionHeaderJson v.b (secTable v.b + IMAGE_SECTION_HEADER__size * i))),
        ("details", v.detailsJson)]) ∧
    v.detailsJson =
      (let h := v.headerJson
       let fh := eLfanew v.b + IMAGE_NT_HEADERS32__FileHeader
       .struct [
        ("DosHeader.e_magic", lit "MZ"), ("NtHeaders.Signature", lit "PE"),
        ("FileHeader.Machine", opt lit (machineName (le16 v.b (fh + IMAGE_FILE_HEADER__Machine)))),
        ("FileHeader.Characteristics", flagNames fileCharNames (le16 v.b (fh + IMAGE_FILE_HEADER__Characteristics))),
        ("OptionalHeader.Magic", opt lit (optionalMagicName (optMagic v.b))),
        ("OptionalHeader.CheckSum", .num h.detCheckSum),
        ("OptionalHeader.Subsystem", opt lit (subsystemName (le16 v.b (optOff v.b + IMAGE_OPTIONAL_HEADER32__Subsystem)))),
        ("OptionalHeader.DllCharacteristics",
          flagNames dllCharNames (le16 v.b (optOff v.b + IMAGE_OPTIONAL_HEADER32__DllCharacteristics))),
        ("DataDirectory.Names", .arr ((List.range h.dataDirectory.length).map fun i => opt lit directoryEntryNames[i]?)),
        ("DataDirectory.Sections", .arr (h.detDdSections.map (opt .num))),
        ("SectionHeaders.Characteristics", .arr (h.sections.map fun s => flagNames sectionCharNames s.chars))]) ∧
    -- the offsets used for both formats are the same in both
    IMAGE_NT_HEADERS64__Signature = IMAGE_NT_HEADERS32__Signature ∧
    IMAGE_NT_HEADERS64__FileHeader = IMAGE_NT_HEADERS32__FileHeader ∧
    IMAGE_OPTIONAL_HEADER64__Subsystem = IMAGE_OPTIONAL_HEADER32__Subsystem ∧
    IMAGE_OPTIONAL_HEADER64__DllCharacteristics = IMAGE_OPTIONAL_HEADER32__DllCharacteristics ∧
    -- the data directory pairs are `IMAGE_DATA_DIRECTORY { VirtualAddress, Size }`, two `u32`s
    (∀ i, v.dataDir i = (if i < numDataDirs v.fmt v.b then
        some (le32 v.b (ntEnd v.fmt v.b + IMAGE_DATA_DIRECTORY__size * i + IMAGE_DATA_DIRECTORY__VirtualAddress),
              le32 v.b (ntEnd v.fmt v.b + IMAGE_DATA_DIRECTORY__size * i + IMAGE_DATA_DIRECTORY__Size))
      else none)) :=
  ⟨rfl, rfl, rfl, rfl, rfl, rfl, fun _ => rfl⟩

/-- **Directory serializers**: the struct fields `serialize_pe` reads directly (not through an accessor of the
directory models, whose offsets are tied in `C08/C09/C12/C14/C15_model_offsets`). -/
theorem C19_json_dirs_layout (v : View) (y : Exports.By) (b : Bytes) (o : Nat) (image name : Ref) :
    -- `Pe::base_relocs`: `slice(va, size, 4)`, the literal being the alignment of `IMAGE_BASE_RELOCATION`
    v.baseRelocsRef =
      (match v.dataDir 5 with
       | none => .err .null
       | some (va, size) =>
         match v.slice va size IMAGE_BASE_RELOCATION__align with
         | .ok r => .ok ⟨r.off, size, IMAGE_BASE_RELOCATION__align⟩
         | .err e => .err e | .panic s => .panic s | .ub s => .ub s | .diverge => .diverge) ∧
    -- exports: `image.TimeDateStamp`, `image.Version` (`IMAGE_VERSION<u16>`: Major, Minor)
    serializeBy y =
      (y.exp.dllName.okOpt >>= fun dll =>
       exportNames y y.iterNameIndices >>= fun names =>
       .ok { dllName := dll.map (cstrText y.b),
             timeDateStamp := le32 y.b (y.exp.off + IMAGE_EXPORT_DIRECTORY__TimeDateStamp),
             version := (le16 y.b (y.exp.off + IMAGE_EXPORT_DIRECTORY__Version),
                         le16 y.b (y.exp.off + IMAGE_EXPORT_DIRECTORY__Version +
                           (IMAGE_EXPORT_DIRECTORY__Name - IMAGE_EXPORT_DIRECTORY__Version) / 2)),
             ordinalBase := y.exp.ordinalBase,
             functions := (List.range y.fns.cnt).map y.fnAt,
             names := names }) ∧
    -- CodeView records
    codeViewJson b (.cv20 image name) =
      .cv20 (bytesOf b ⟨image.off + IMAGE_DEBUG_CV_INFO_PDB20__CvSignature,
                        IMAGE_DEBUG_CV_INFO_PDB20__Offset - IMAGE_DEBUG_CV_INFO_PDB20__CvSignature, 1⟩)
        (cstrText b name) (le32 b (image.off + IMAGE_DEBUG_CV_INFO_PDB20__TimeDateStamp))
        (le32 b (image.off + IMAGE_DEBUG_CV_INFO_PDB20__Age)) ∧
    codeViewJson b (.cv70 image name) =
      .cv70 (bytesOf b ⟨image.off + IMAGE_DEBUG_CV_INFO_PDB70__CvSignature,
                        IMAGE_DEBUG_CV_INFO_PDB70__Signature - IMAGE_DEBUG_CV_INFO_PDB70__CvSignature, 1⟩)
        (cstrText b name) (guidText b (image.off + IMAGE_DEBUG_CV_INFO_PDB70__Signature))
        (le32 b (image.off + IMAGE_DEBUG_CV_INFO_PDB70__Age)) ∧
    -- `GUID { Data1: u32, Data2: u16, Data3: u16, Data4: [u8; 8] }` printed `{Data1-Data2-Data3-D4[0..2]-D4[2..8]}`,
    -- the integers most significant byte first
    guidText b o =
      (let h (i : Nat) := hex2 (byteAt b (o + i))
       [123] ++ h (GUID__Data1 + 3) ++ h (GUID__Data1 + 2) ++ h (GUID__Data1 + 1) ++ h GUID__Data1 ++ [45] ++
         h (GUID__Data2 + 1) ++ h GUID__Data2 ++ [45] ++ h (GUID__Data3 + 1) ++ h GUID__Data3 ++ [45] ++
         h GUID__Data4 ++ h (GUID__Data4 + 1) ++ [45] ++
         h (GUID__Data4 + 2) ++ h (GUID__Data4 + 3) ++ h (GUID__Data4 + 4) ++ h (GUID__Data4 + 5) ++
         h (GUID__Data4 + 6) ++ h (GUID__Data4 + 7) ++ [125]) ∧
    GUID__Data2 - GUID__Data1 = 4 ∧ GUID__Data3 - GUID__Data2 = 2 ∧ GUID__Data4 - GUID__Data3 = 2 ∧
    GUID__size - GUID__Data4 = 8 :=
  ⟨rfl, rfl, rfl, rfl, rfl, rfl, rfl, rfl, rfl⟩

end Pelite.Pe
