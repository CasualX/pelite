import PeliteModel.Model.Imports
import PeliteModel.Generated.ImageLayout
/-!
C09 — the literal sizes and offsets of `Model/Imports.lean` are the layout of `IMAGE_IMPORT_DESCRIPTOR` in the
*current source* (`Generated/ImageLayout.lean`, rewritten on every check run from `size_of` / `align_of` /
`offset_of!` of the structs of `src/image.rs`).

Not tied (no struct of `image.rs` behind them):
* the thunk width `vaSize f` = `size_of::<Va>()` — `Va` is the type alias `u32` / `u64` of `pe32/image.rs` /
  `pe64/image.rs`, not a struct.  What the table does contain are the `Va`-typed fields of
  `IMAGE_TLS_DIRECTORY32/64`; `C09_model_va_width` states that the model's thunk width is the width of those.
* `import_from_va` reads an `IMAGE_IMPORT_BY_NAME` as `derva::<u16>(rva)` + `derva_c_str(rva + 2)`: the source has
  no struct for it (the hint is a `u16`, the name follows it), the `2` is `size_of::<u16>()` in the source too.
* the data directory indices 1 / 12 are the constants `IMAGE_DIRECTORY_ENTRY_IMPORT` / `_IAT`.
-/
namespace Pelite.Imports
open Pelite Pelite.Pe Pelite.Generated.Layout

/-- **The named layout constants of the import model are the source's**, and the three fields the model reads
are read there. -/
theorem C09_model_offsets (v : View) (d : Ref) (b : Bytes) (o : Nat) :
    descSize = IMAGE_IMPORT_DESCRIPTOR__size ∧ descAlign = IMAGE_IMPORT_DESCRIPTOR__align ∧
    offOFT = IMAGE_IMPORT_DESCRIPTOR__OriginalFirstThunk ∧ offName = IMAGE_IMPORT_DESCRIPTOR__Name ∧
    offFT = IMAGE_IMPORT_DESCRIPTOR__FirstThunk ∧
    Desc.oft v d = le32 v.b (d.off + IMAGE_IMPORT_DESCRIPTOR__OriginalFirstThunk) ∧
    Desc.name v d = le32 v.b (d.off + IMAGE_IMPORT_DESCRIPTOR__Name) ∧
    Desc.ft v d = le32 v.b (d.off + IMAGE_IMPORT_DESCRIPTOR__FirstThunk) ∧
    -- `IMAGE_IMPORT_DESCRIPTOR::is_null`: the `FirstThunk` field
    isNullAt b o = (le32 b (o + IMAGE_IMPORT_DESCRIPTOR__FirstThunk) == 0) :=
  ⟨rfl, rfl, rfl, rfl, rfl, rfl, rfl, rfl, rfl⟩

/-- the fields read are `u32`s: `Name` ends where `FirstThunk` starts, `FirstThunk` where the struct ends, and
`OriginalFirstThunk` is 4 bytes before `TimeDateStamp` -/
theorem C09_model_field_widths :
    IMAGE_IMPORT_DESCRIPTOR__TimeDateStamp - IMAGE_IMPORT_DESCRIPTOR__OriginalFirstThunk = 4 ∧
    IMAGE_IMPORT_DESCRIPTOR__FirstThunk - IMAGE_IMPORT_DESCRIPTOR__Name = 4 ∧
    IMAGE_IMPORT_DESCRIPTOR__size - IMAGE_IMPORT_DESCRIPTOR__FirstThunk = 4 := by decide

/-- the descriptor array: element `i` of `Imports::image()` is the struct `size_of` bytes after element `i - 1`,
handed out with the struct's size and alignment -/
theorem C09_model_descriptor_stride (image : Ref) :
    descs image = (List.range (image.len / IMAGE_IMPORT_DESCRIPTOR__size)).map (fun i =>
      ⟨image.off + IMAGE_IMPORT_DESCRIPTOR__size * i, IMAGE_IMPORT_DESCRIPTOR__size, IMAGE_IMPORT_DESCRIPTOR__align⟩) :=
  rfl

/-- thunk width: `Va` is not a struct of `image.rs`; the model's width is the width of the `Va`-typed fields the
table does list (`IMAGE_TLS_DIRECTORY32/64::StartAddressOfRawData`), and the ordinal flag is its top bit -/
theorem C09_model_va_width :
    vaSize .pe32 = IMAGE_TLS_DIRECTORY32__EndAddressOfRawData - IMAGE_TLS_DIRECTORY32__StartAddressOfRawData ∧
    vaSize .pe64 = IMAGE_TLS_DIRECTORY64__EndAddressOfRawData - IMAGE_TLS_DIRECTORY64__StartAddressOfRawData ∧
    vaSize .pe32 = 4 ∧ vaSize .pe64 = 8 ∧
    ordinalFlag .pe32 = 2 ^ (8 * vaSize .pe32 - 1) ∧ ordinalFlag .pe64 = 2 ^ (8 * vaSize .pe64 - 1) := by decide

/-- non-vacuity of the tie: the constants are the ones of the 20-byte, 4-aligned descriptor -/
example : IMAGE_IMPORT_DESCRIPTOR__size = 20 ∧ IMAGE_IMPORT_DESCRIPTOR__align = 4 ∧
    IMAGE_IMPORT_DESCRIPTOR__FirstThunk = 16 := by decide

end Pelite.Imports
