import PeliteModel.Lemmas.VersionWFmt
import PeliteModel.Thm.C03WFmt
/-!
C13 / C03: the keys and values `VersionInfo::source_code()` prints go through `FmtUtf16`'s Debug
(src/util/wide_str.rs, the only formatter of that file the public API reaches).  The version model
(`Version.fmtDebug`, scalar values, its own transcription `decode16` of `char::decode_utf16`) and the
byte-level formatter model (`WStrFmt.debug`, on the decoder of the resource model) are two independent
transcriptions of the same Rust code: they are proved equal here, so
* the two decoders of the model agree on every word list (`C13_decoders_agree`),
* the bounds and the token structure of `Thm/C03WFmt.lean` hold for what `source_code` writes
  (`C13_fmtDebug_length`, `C13_fmtDebug_tokens`): at most `6·len + 3` bytes for a key or value of `len`
  code units, its body a sequence of escapes and of characters that need none.
-/
namespace Pelite.WStrFmt
open Pelite.Resources (decodeUtf16 U16Item)
open Pelite.Pe (utf8Enc)
open Pelite.Version (decode16 Dec fmtDebug hex04)

def conv : Dec → U16Item
  | .ok c => .ok c
  | .bad u => .bad u

/-- the two transcriptions of `char::decode_utf16` agree on every word list -/
theorem C13_decoders_agree (ws : List Nat) : (decode16 ws).map conv = decodeUtf16 ws := by
  fun_induction decode16 ws <;>
    simp_all [decodeUtf16, conv, ← not_surrogate_iff, Nat.not_le_of_lt, Nat.not_lt_of_le]

/-- **the version model's Debug text, encoded as UTF-8, is the byte-level formatter's output** -/
theorem C13_fmtDebug_bytes (ws : List Nat) : (fmtDebug ws).flatMap utf8Enc = debug ws := by
  rw [Version.fmtDebug_escDec]
  unfold debug
  rw [← C13_decoders_agree ws]
  simp only [List.flatMap_append]
  have hL : (Version.str "L\"").flatMap utf8Enc = [76, 34] := by decide
  have hR : (Version.str "\"").flatMap utf8Enc = [34] := by decide
  rw [hL, hR]
  congr 2
  rw [List.flatMap_assoc, List.flatMap_map]
  refine flatMap_congr_mem _ fun it hit => ?_
  cases it with
  | ok c => exact escDec_ok_bytes c
  | bad u => exact escDec_bad_bytes (Version.decode16_bad_surrogate ws u hit)

/-- **C03 for `source_code`'s strings**: a key or value of `len` code units costs at most `6·len + 3` bytes -/
theorem C13_fmtDebug_length (ws : List Nat) : ((fmtDebug ws).flatMap utf8Enc).length ≤ 6 * ws.length + 3 := by
  rw [C13_fmtDebug_bytes]; exact C03_wdebug_length ws

/-- **the printed key / value is unambiguous**: `L"`, then escapes or characters that need none, then `"` -/
theorem C13_fmtDebug_tokens (ws : List Nat) :
    ∃ toks : List (List Nat), (fmtDebug ws).flatMap utf8Enc = [76, 34] ++ toks.flatten ++ [34]
      ∧ (∀ t ∈ toks, DbgTok t) ∧ toks.length ≤ ws.length := by
  rw [C13_fmtDebug_bytes]; exact C03_wdebug_tokens ws

-- the unit test of wide_str.rs through the version model
example : (fmtDebug [97, 0xD800, 98]).flatMap utf8Enc = [76, 34, 97, 92, 117, 100, 56, 48, 48, 98, 34] := by
  rw [C13_fmtDebug_bytes]; decide +kernel

end Pelite.WStrFmt
