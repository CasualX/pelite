import PeliteModel.Thm.C11Impl
import PeliteModel.Lemmas.PatternSemDoc
import PeliteModel.Spec.ScanHypEquiv
/-!
C11 — the DOCUMENTED upper bound of `[a-b]` (a genuine deviation of the implementation, recorded as a known
finding; `Thm/C11.lean:C11_reading_upper_bound_exclusive` pins the implemented bound on a concrete input).

The `parse` documentation: "Pairs of decimal numbers separated by a hypen in square brackets indicate the lower
and upper bound of number of bytes to skip" (the syntax "takes inspiration from YARA hexadecimal strings", where
`[4-6]` stands for 4, 5 or 6 bytes).  `Spec/PatternSemDoc.lean` states that meaning: `denoteDoc` is `denoteImpl`
with `b` itself a legal number of skipped bytes.  The implementation tries the skips `a … b-1` only
(`Skip(a), Many(b-a)`; `exec_many` looks at `&bytes[..min(limit, len)]`).

* `C11_doc_upper_bound_differs` — kernel-checked witness: the documented example shape `50 [1-3] ff` on
  `50 00 00 00 ff` (exactly `b = 3` skipped bytes): `denoteDoc` matches, `denoteImpl`, `denote` and the interpreter
  on the parsed string do not.  The real scanner answers the same on f32 / v32 / f64 / v64 images (`pat_sem`; generator
  `gen_patsem.gen_doc_upper_bound`, the replay line is in the entry of `known-findings.txt`).
* `C11_doc_eq_impl_bumped` — `denoteDoc S p = denoteImpl S (bumpRanges p)`: the documented meaning of a pattern is
  the implemented meaning of the pattern with every `[a-b]` rewritten to `[a-(b+1)]`; hence
  (`C11_doc_meaning_of_bumped_string`) the interpreter DOES compute the documented meaning of `p` when it is
  handed the string of `bumpRanges p`.
* `C11_doc_eq_impl_without_ranges` — patterns without `[a-b]` mean the same in both.
* `C11_doc_range_extra_candidate`, `C11_doc_eq_impl_when_no_b_skip` — at a `[a-b]` the documented semantics is the
  implemented one plus ONE more candidate, tried last: exactly `b` skipped bytes; the two agree whenever that
  candidate lies outside the slice, fails, or an earlier candidate succeeds.
* Last section, not about the upper bound: `C11_hypotheses_in_spec`, `C11_exec_compile_impl_spec'`,
  `C11_doc_meaning_of_bumped_string_spec` — the hypotheses `S.WF` / `Coherent S` as `Spec/ScanHyp.lean` writes them out.
-/
namespace Pelite.PatSem
open Pelite.Pattern Pelite.Exec

/-! ## the witness -/

/-- `50 [1-3] ff` -/
def docWitness : Pat := [.byte 0x50, .ws [32], .range 1 3, .ws [32], .byte 0xff]

/-- **The documented upper bound is never tried.**  The pattern string `50 [1-3] ff` (the shape of the
documentation's own example `50 [13-42] ff`) belongs to the documented grammar, is well formed and parses to
`Save(0), Byte(50), Skip(1), Many(2), Byte(ff)`.  On the layout `50 00 00 00 ff` — `ff` after exactly the
documented upper bound of 3 skipped bytes — the documented semantics matches; the implemented semantics
(`denoteImpl`, and `denote`) and the interpreter on the parsed atoms do not.  With 2 skipped bytes (`50 00 00 ff`)
and with the lower bound (`50 00 ff`) all of them match. -/
theorem C11_doc_upper_bound_differs :
    showPat docWitness = "50 [1-3] ff".toUTF8.toList ∧ (readPat "50 [1-3] ff".toUTF8.toList).isSome = true ∧
    WF docWitness = true ∧
    parse "50 [1-3] ff".toUTF8.toList = .ok [.save 0, .byte 0x50, .skip 1, .many 2, .byte 0xff] ∧
    compile docWitness = [.save 0, .byte 0x50, .skip 1, .many 2, .byte 0xff] ∧
    -- exactly b = 3 skipped bytes
    denoteDoc (ofRaw .pe32 #[0x50, 0, 0, 0, 0xff]) docWitness 0 = some (5, [(0, 0)]) ∧
    denoteImpl (ofRaw .pe32 #[0x50, 0, 0, 0, 0xff]) docWitness 0 = none ∧
    denote (ofRaw .pe32 #[0x50, 0, 0, 0, 0xff]) docWitness 0 = none ∧
    run (ofRaw .pe32 #[0x50, 0, 0, 0, 0xff]) [.save 0, .byte 0x50, .skip 1, .many 2, .byte 0xff] 0 #[7] = .ok (false, #[0]) ∧
    -- b - 1 = 2 skipped bytes
    denoteDoc (ofRaw .pe32 #[0x50, 0, 0, 0xff]) docWitness 0 = some (4, [(0, 0)]) ∧
    denoteImpl (ofRaw .pe32 #[0x50, 0, 0, 0xff]) docWitness 0 = some (4, [(0, 0)]) ∧
    run (ofRaw .pe32 #[0x50, 0, 0, 0xff]) [.save 0, .byte 0x50, .skip 1, .many 2, .byte 0xff] 0 #[7] = .ok (true, #[0]) ∧
    -- the lower bound a = 1
    denoteDoc (ofRaw .pe32 #[0x50, 0, 0xff]) docWitness 0 = some (3, [(0, 0)]) ∧
    denoteImpl (ofRaw .pe32 #[0x50, 0, 0xff]) docWitness 0 = some (3, [(0, 0)]) ∧
    run (ofRaw .pe32 #[0x50, 0, 0xff]) [.save 0, .byte 0x50, .skip 1, .many 2, .byte 0xff] 0 #[7] = .ok (true, #[0]) :=
  -- the last evaluation covers the ten statements about the three layouts
  ⟨by decide +kernel, by decide +kernel, by decide +kernel, by decide +kernel, by decide +kernel, by decide +kernel⟩

/-- the same on PE32+ pointer width, with a bookmark behind the skip (the captures differ, too), and one byte
beyond the documented bound (4 skipped bytes: no semantics matches) -/
theorem C11_doc_upper_bound_differs_64 :
    denoteDoc (ofRaw .pe64 #[0x50, 9, 9, 9, 0xff]) [.byte 0x50, .range 1 3, .save, .byte 0xff] 0 = some (5, [(1, 4), (0, 0)]) ∧
    denoteImpl (ofRaw .pe64 #[0x50, 9, 9, 9, 0xff]) [.byte 0x50, .range 1 3, .save, .byte 0xff] 0 = none ∧
    run (ofRaw .pe64 #[0x50, 9, 9, 9, 0xff]) (compile [.byte 0x50, .range 1 3, .save, .byte 0xff]) 0 #[7, 7] = .ok (false, #[0, 7]) ∧
    denoteDoc (ofRaw .pe64 #[0x50, 9, 9, 9, 9, 0xff]) [.byte 0x50, .range 1 3, .save, .byte 0xff] 0 = none ∧
    denoteImpl (ofRaw .pe64 #[0x50, 9, 9, 9, 9, 0xff]) [.byte 0x50, .range 1 3, .save, .byte 0xff] 0 = none := by
  decide +kernel

/-! ## the documented meaning in terms of the implemented one -/

/-- **`denoteDoc` is `denoteImpl` of the bumped tree**: same verdict, same final cursor, same captures, on every
image and at every cursor, for EVERY tree (no well-formedness needed).  `bumpRanges` rewrites every `[a-b]`, at
any depth, to `[a-(b+1)]` and changes nothing else. -/
theorem C11_doc_eq_impl_bumped (S : ScanI) (p : Pat) (c : Nat) :
    denoteDoc S p c = denoteImpl S (bumpRanges p) c :=
  denoteDoc_eq_denoteImpl_bump S p c

example : bumpRanges docWitness = [.byte 0x50, .ws [32], .range 1 4, .ws [32], .byte 0xff] := by
  simp [bumpRanges, docWitness]

/-- nested: the `[a-b]` inside a brace body and inside alternatives are rewritten, too -/
example : bumpRanges [.byte 0xe8, .group .j4 [] [.alt [[.range 0 4, .byte 1], [.byte 2]], .range 2 3], .any]
    = [.byte 0xe8, .group .j4 [] [.alt [[.range 0 5, .byte 1], [.byte 2]], .range 2 4], .any] := by
  simp [bumpRanges, bumpAlts]

/-- **patterns without `[a-b]` mean what the documentation says, upper bounds or not**: the two semantics are the
same function on them -/
theorem C11_doc_eq_impl_without_ranges (S : ScanI) (p : Pat) (h : hasRange p = false) (c : Nat) :
    denoteDoc S p c = denoteImpl S p c := by
  rw [C11_doc_eq_impl_bumped, bump_noRange p h]

/-- the hypothesis holds e.g. for the documentation's example with alternatives, a brace group, reads … -/
example : hasRange [.byte 0x83, .byte 0xc0, .byte 0x2a, .alt [[.byte 0x6a, .any], [.byte 0x68, .any, .any, .any, .any]],
    .byte 0xe8, .group .j4 [] [.save, .skip 16, .readU 4], .aligned 4] = false := by
  simp [hasRange, hasRangeAlts]

example : hasRange docWitness = true ∧ hasRange exTree = true := by
  simp [hasRange, hasRangeAlts, docWitness, exTree]

/-- **at a `[a-b]` the documented semantics has exactly one candidate more**, tried after all the implemented
ones: the rest of the frame at exactly `b` skipped bytes, provided that position lies in the slice the
candidates are taken from. -/
theorem C11_doc_range_extra_candidate (S : ScanI) (k a b : Nat) (r : List Item) (c : Nat) (κ : Kont) (hab : a ≤ b) :
    semD S k (.range a b :: r) c κ =
      match S.slice (addRva c a) with
      | none => none
      | some (_, len) =>
        match firstSome (fun i => semD S k r (addRva (addRva c a) i) κ) (min (b - a) len) 0 with
        | some x => some x
        | none => if b - a < len then semD S k r (addRva (addRva c a) (b - a)) κ else none := by
  rw [semD]
  cases S.slice (addRva c a) with
  | none => rfl
  | some x =>
    obtain ⟨o, len⟩ := x
    simp only [Nat.sub_add_comm hab]
    by_cases hl : b - a < len
    · rw [if_pos hl, Nat.min_eq_left hl, Nat.min_eq_left (Nat.le_of_lt hl), firstSome_add _ (b - a) 1]
      cases firstSome (fun i => semD S k r (addRva (addRva c a) i) κ) (b - a) 0 with
      | some x => rfl
      | none =>
        simp only [firstSome, Nat.zero_add]
        cases semD S k r (addRva (addRva c a) (b - a)) κ <;> rfl
    · have hle := Nat.le_of_not_lt hl
      rw [if_neg hl, Nat.min_eq_right hle, Nat.min_eq_right (Nat.le_succ_of_le hle)]
      cases firstSome (fun i => semD S k r (addRva (addRva c a) i) κ) len 0 <;> rfl

/-- **the two semantics agree at a `[a-b]` that does not need its full documented upper bound**: when they agree
on the rest of the frame and the candidate "exactly `b` skipped bytes" lies outside the slice, or fails, or an
earlier candidate succeeds.  (This is the induction step of any whole-pattern comparison; whole patterns:
`C11_doc_eq_impl_bumped`, `C11_doc_eq_impl_without_ranges`.) -/
theorem C11_doc_eq_impl_when_no_b_skip (S : ScanI) (k a b : Nat) (r : List Item) (c : Nat) (κ : Kont) (hab : a ≤ b)
    (hrest : ∀ c', semD S k r c' κ = semI S k r c' κ)
    (hno : ∀ o len, S.slice (addRva c a) = some (o, len) →
      len ≤ b - a ∨ semD S k r (addRva (addRva c a) (b - a)) κ = none ∨
      (firstSome (fun i => semI S k r (addRva (addRva c a) i) κ) (min (b - a) len) 0).isSome = true) :
    semD S k (.range a b :: r) c κ = semI S k (.range a b :: r) c κ := by
  rw [C11_doc_range_extra_candidate S k a b r c κ hab, semI]
  cases hs : S.slice (addRva c a) with
  | none => rfl
  | some x =>
    obtain ⟨o, len⟩ := x
    simp only [hrest]
    rcases hno o len hs with h | h | h
    · rw [if_neg (by omega)]
      cases firstSome (fun i => semI S k r (addRva (addRva c a) i) κ) (min (b - a) len) 0 <;> rfl
    · rw [hrest] at h
      rw [h]
      cases firstSome (fun i => semI S k r (addRva (addRva c a) i) κ) (min (b - a) len) 0 <;> simp
    · cases hf : firstSome (fun i => semI S k r (addRva (addRva c a) i) κ) (min (b - a) len) 0 with
      | some x => rfl
      | none => rw [hf] at h; cases h

/-- instance: `[1-3] ff` on `50 00 00 ff` at cursor 1 — the candidate with 2 skipped bytes succeeds, the one with 3
is not needed -/
example : semD (ofRaw .pe32 #[0x50, 0, 0, 0xff]) 1 [.range 1 3, .byte 0xff] 1 Kont.done
    = semI (ofRaw .pe32 #[0x50, 0, 0, 0xff]) 1 [.range 1 3, .byte 0xff] 1 Kont.done :=
  C11_doc_eq_impl_when_no_b_skip _ 1 1 3 _ 1 _ (by decide)
    (fun c' => by rw [semD_eq_semI_bump, bump_noRange _ (by simp [hasRange])])
    (fun o len hs => by
      have h0 : (ofRaw .pe32 #[0x50, 0, 0, 0xff]).slice (addRva 1 1) = some (2, 2) := by decide +kernel
      rw [h0] at hs
      simp only [Option.some.injEq, Prod.mk.injEq] at hs
      obtain ⟨_, rfl⟩ := hs
      exact Or.inr (Or.inr (by decide +kernel)))

/-! ## the interpreter computes the documented meaning of the bumped string -/

/-- **How to obtain the documented meaning from the implementation**: for every tree `p` whose bumped tree is
well formed (i.e. `WF p` with every upper bound `b + 1 < 16384`), the pattern STRING of `bumpRanges p` parses and
executing the parsed atoms accepts exactly when the documented semantics of `p` does, leaving every capture it
specifies.  A user who wants the documented `[a-b]` has to write `[a-(b+1)]`. -/
theorem C11_doc_meaning_of_bumped_string (sty : Style) (p : Pat) (hwf : WF (bumpRanges p) = true)
    {S : ScanI} (hS : S.WF) (hC : Coherent S) (c : Nat) (hc : c < 4294967296) (save0 : Array Nat) :
    ∃ atoms save, parse (render sty (bumpRanges p)) = .ok atoms ∧
      run S atoms c save0 = .ok ((denoteDoc S p c).isSome, save) ∧ save.size = save0.size ∧
      ∀ c' w, denoteDoc S p c = some (c', w) → ∀ s v, (s, v) ∈ w → s < save0.size → save[s]? = some v := by
  obtain ⟨save, h1, h2, h3⟩ := C11_exec_compile_impl hS hC (bumpRanges p) hwf c hc save0
  rw [← C11_doc_eq_impl_bumped] at h1 h3
  exact ⟨compile (bumpRanges p), save, C11_parse_render sty _ hwf, h1, h2, h3⟩

example : WF (bumpRanges docWitness) = true ∧ (ofRaw .pe32 #[0x50, 0, 0, 0, 0xff]).WF ∧ Coherent (ofRaw .pe32 #[0x50, 0, 0, 0, 0xff]) :=
  ⟨by decide +kernel, C11_interfaces.1 _ _ (by decide)⟩

/-- … on the witness: `50 [1-4] ff` is accepted by the interpreter on the layout the documentation promises for
`50 [1-3] ff` -/
example : run (ofRaw .pe32 #[0x50, 0, 0, 0, 0xff]) (compile (bumpRanges docWitness)) 0 #[7] = .ok (true, #[0]) := by
  decide +kernel

/-- the two semantics differ on an input exactly when bumping the upper bounds changes the IMPLEMENTED answer —
the criterion the model driver evaluates (`doc=` against `impl=`, token `docdiff=1`) -/
theorem C11_doc_upper_bound_differs_iff (S : ScanI) (p : Pat) (c : Nat) :
    denoteDoc S p c ≠ denoteImpl S p c ↔ denoteImpl S (bumpRanges p) c ≠ denoteImpl S p c := by
  rw [C11_doc_eq_impl_bumped]

/-! ## the hypotheses of the headline theorems, readable from `Spec/`

`S.WF` and `Coherent S` are defined in a lemma file (`Lemmas/Exec.lean`).
`Spec/ScanHyp.lean` (imports the model only) writes them out in full as `Spec.ScanIWF` / `Spec.Coherent`;
`Spec/ScanHypEquiv.lean` proves the copies equivalent and restates T2' / T2 / T3' with them
(`C11_exec_compile_impl_spec`, `C11_exec_compile_partial_spec`, `C11_pattern_string_semantics_impl_spec`,
`C11_interfaces_spec`). -/

/-- the `Spec/` copies ARE the hypotheses the C11 theorems use -/
theorem C11_hypotheses_in_spec (S : ScanI) : (Spec.ScanIWF S ↔ S.WF) ∧ (Spec.Coherent S ↔ Coherent S) :=
  ⟨Spec.ScanIWF_iff S, Spec.Coherent_iff S⟩

/-- T2' with the hypotheses of `Spec/ScanHyp.lean` (the statement of `C11_exec_compile_impl_spec`) -/
theorem C11_exec_compile_impl_spec' {S : ScanI} (hS : Spec.ScanIWF S) (hC : Spec.Coherent S) (p : Pat) (hwf : WF p = true)
    (c : Nat) (hc : c < 4294967296) (save0 : Array Nat) :
    ∃ save, run S (compile p) c save0 = .ok ((denoteImpl S p c).isSome, save) ∧ save.size = save0.size ∧
      ∀ c' w, denoteImpl S p c = some (c', w) → ∀ s v, (s, v) ∈ w → s < save0.size → save[s]? = some v :=
  C11_exec_compile_impl_spec hS hC p hwf c hc save0

/-- the documented meaning through the bumped string, with the hypotheses of `Spec/ScanHyp.lean` -/
theorem C11_doc_meaning_of_bumped_string_spec (sty : Style) (p : Pat) (hwf : WF (bumpRanges p) = true)
    {S : ScanI} (hS : Spec.ScanIWF S) (hC : Spec.Coherent S) (c : Nat) (hc : c < 4294967296) (save0 : Array Nat) :
    ∃ atoms save, parse (render sty (bumpRanges p)) = .ok atoms ∧
      run S atoms c save0 = .ok ((denoteDoc S p c).isSome, save) ∧ save.size = save0.size ∧
      ∀ c' w, denoteDoc S p c = some (c', w) → ∀ s v, (s, v) ∈ w → s < save0.size → save[s]? = some v :=
  C11_doc_meaning_of_bumped_string sty p hwf ((Spec.ScanIWF_iff S).1 hS) ((Spec.Coherent_iff S).1 hC) c hc save0

example : Spec.ScanIWF (ofRaw .pe64 #[0x50, 0, 0, 0, 0xff]) ∧ Spec.Coherent (ofRaw .pe64 #[0x50, 0, 0, 0, 0xff]) :=
  ⟨(Spec.ScanIWF_iff _).2 (C11_interfaces.1 _ _ (by decide)).1, (Spec.Coherent_iff _).2 (C11_interfaces.1 _ _ (by decide)).2⟩

end Pelite.PatSem
