import PeliteModel.Lemmas.JsonDirs
/-!
C19, serializer half — "serializing any accepted image succeeds, is well-formed JSON, and each field
equals what the corresponding accessor returns".

`View.serializePe` (Model/JsonDirs.lean; the structure of the document is written down at the top of
that file) composes the module models exactly as `serialize_pe` composes the accessors: `.ok()` is
`Out.okOpt` (a library error becomes `null`, a panic / unchecked access / hang of an accessor is one
of the serializer).  That it returns is a proof about the `.panic` / `.ub` / `.diverge` branches of the
module models; in the field theorems `Out.toOption` is what `.ok()` gives.

Trusted: `serde`'s derive output for plain structs / enums (field-by-field by construction) and
`serde_json` itself (its compact formatter is transcribed as `Json.print`).  The correspondence run
compares every member (`jsonsub <k> <field>`) of the real `serde_json` text with the model's value on
every image of the C19 generators.
-/
namespace Pelite.Pe
open Pelite Pelite.Json

/-! ## totality -/

/-- **Serializing an accepted image succeeds**: for every image a format-specific constructor accepts
(file or mapped view, PE32 or PE32+), shorter than 4 GiB (the model's global bound; it is needed, see
`C09_rva_plus_2_needs_bound`), `serialize_pe` returns a document — no accessor it calls panics,
reads outside the buffer or misaligned, or loops. -/
theorem C19_json_total (f : Fmt) (k : Kind) (img : Img) (v : View) (hv : fromBytes f k img = .ok v)
    (hsz : img.bytes.size < 4294967296) : ∃ j, v.serializePe = .ok j := by
  obtain ⟨-, rfl⟩ := (fromBytes_ok_iff f k img v).1 hv
  exact serializePe_total _ (Dirs.C15_constructed_views_aligned k img _ (.inl ⟨f, hv⟩) 0).2 hsz

/-- … also through the format-agnostic constructors (`Wrap<..>` serializes the wrapped view: `untagged`) -/
theorem C19_json_total_wrap (k : Kind) (img : Img) (v : View) (hv : wrapFromBytes k img = .ok v)
    (hsz : img.bytes.size < 4294967296) : ∃ j, v.serializePe = .ok j :=
  C19_json_total v.fmt k img v (wrap_ok_imp k img v hv) hsz

/-- … and for a view whose base address was overridden (`PeView::set_base_address`) -/
theorem C19_json_total_rebased (f : Fmt) (k : Kind) (img : Img) (v : View) (hv : fromBytes f k img = .ok v)
    (hsz : img.bytes.size < 4294967296) (base : Nat) : ∃ j, (v.setBase base).serializePe = .ok j := by
  obtain ⟨-, rfl⟩ := (fromBytes_ok_iff f k img v).1 hv
  exact serializePe_total _ (Dirs.C15_constructed_views_aligned k img _ (.inl ⟨f, hv⟩) base).1 hsz

/-- The two facts about the image the proof uses: a dword-aligned buffer (checked by
`validate_headers`) and the size bound.  Nothing else about the bytes: every directory may be corrupt. -/
theorem C19_json_total_of_aligned (v : View) (hb : v.img.base % 4 = 0) (hsz : v.img.bytes.size < 4294967296) :
    ∃ j, v.serializePe = .ok j :=
  serializePe_total v hb hsz

/-- Six of the nine directory members cannot fail on ANY view; "imports" needs the size bound, "rich_structure" and
"security" the alignment: -/
theorem C19_json_total_members (v : View) :
    (∃ o, v.exportsJson = .ok o) ∧ (∃ o, v.baseRelocsJson = .ok o) ∧ (∃ o, v.debugJson = .ok o) ∧
    (∃ o, v.tlsJson = .ok o) ∧ (∃ o, v.loadConfigJson = .ok o) ∧ (∃ j, v.resourcesJson = .ok j) ∧
    (v.img.bytes.size < 4294967296 → ∃ o, v.importsJson = .ok o) ∧
    (v.img.base % 4 = 0 → (∃ o, v.richJson = .ok o) ∧ (∃ o, v.securityJson = .ok o)) :=
  ⟨(exportsJson_is v).returns trivial, (baseRelocsJson_is v).returns trivial, (debugJson_is v).returns trivial,
   (tlsJson_is v).returns trivial, (loadConfigJson_is v).returns trivial, resourcesJson_total v,
   (importsJson_is v).returns, fun hb => ⟨richJson_total v hb, securityJson_total v hb⟩⟩

/-! ## the members are the accessor values -/

/-- the ten members, their names and their order (`serialize_struct(.., 10)` + ten `serialize_field`) -/
theorem C19_json_document (p : PeJson) :
    p.toJson = .struct [
      ("headers", p.headersDoc),
      ("rich_structure", opt RichJson.toJson p.richStructure),
      ("exports", opt ExportsJson.toJson p.exports),
      ("imports", opt (fun l => .arr (l.map DescJson.toJson)) p.imports),
      ("base_relocs", opt RelocsJson.toJson p.baseRelocs),
      ("debug", opt (fun l => .arr (l.map DebugDirJson.toJson)) p.debug),
      ("tls", opt TlsJson.toJson p.tls),
      ("load_config", opt LoadConfigJson.toJson p.loadConfig),
      ("security", opt SecurityJson.toJson p.security),
      ("resources", p.resources)] := rfl

/-- "headers": the member is `View.headersJson` — the five sub-objects of `<Headers as Serialize>`, every
field read at its `repr(C)` offset — whose data directories, sections, checksum and
"DataDirectory.Sections" are those of the header model of `Thm/C19.lean` (`C19_json_header_fields`,
`C19_dd_section_first`). -/
theorem C19_json_field_headers (v : View) (j : PeJson) (h : v.serializePe = .ok j) :
    j.headers = v.headerJson ∧ j.headersDoc = v.headersJson ∧
    v.headersJson = .struct [
      ("DosHeader", dosHeaderJson v.b),
      ("NtHeaders", .struct [("Signature", .num (le32 v.b (eLfanew v.b))),
        ("FileHeader", fileHeaderJson v.b (eLfanew v.b + 4)),
        ("OptionalHeader", optionalHeaderJson v.fmt v.b (optOff v.b))]),
      ("DataDirectory", .arr (v.headerJson.dataDirectory.map fun d =>
        .struct [("VirtualAddress", .num d.1), ("Size", .num d.2)])),
      ("SectionHeaders", .arr ((List.range (numberOfSections v.b)).map fun i =>
        sectionHeaderJson v.b (secTable v.b + 40 * i))),
      ("details", v.detailsJson)] :=
  ⟨(serializePe_ok h).headers, (serializePe_ok h).headersDoc, rfl⟩

/-- "rich_structure": `null` exactly when `Pe::rich_structure` fails; otherwise `xor_key()`,
`checksum()` and the records `records()` yields, in order (all three return for a structure
`try_from` accepted). -/
theorem C19_json_field_rich_structure (v : View) (j : PeJson) (h : v.serializePe = .ok j) :
    (j.richStructure = none ↔ (Rich.ofImage v.img).toOption = none) ∧
    (∀ r, Rich.ofImage v.img = .ok r →
      ∃ k c it, r.xorKey = .ok k ∧ r.checksum = .ok c ∧ r.records = .ok it ∧
        j.richStructure = some ⟨k, c, it.collect⟩) := by
  obtain ⟨h0, h1⟩ := optMember_eq_ok (serializePe_ok h).rich ⟨rfl, fun _ => rfl⟩
  refine ⟨h0, fun r hr => ?_⟩
  obtain ⟨b, hb, hj⟩ := h1 r hr
  obtain ⟨k, hk, hb⟩ := Out.bind_eq_ok hb
  obtain ⟨c, hc, hb⟩ := Out.bind_eq_ok hb
  obtain ⟨it, hit, hb⟩ := Out.bind_eq_ok hb
  cases hb
  exact ⟨k, c, it, hk, hc, hit, hj⟩

/-- "exports": `null` exactly when `Pe::exports` or `Exports::by` fails; otherwise `dll_name()`
(`null` when it fails, else the `Display` text of the C string), the directory's `TimeDateStamp` and
`Version`, `ordinal_base()`, the function table `functions()`, and for every hint below both
`names.len()` and `name_indices.len()` whose name decodes and is UTF-8 the pair
(name, `name_indices[hint]`), in hint order. -/
theorem C19_json_field_exports (v : View) (j : PeJson) (h : v.serializePe = .ok j) :
    j.exports = (Exports.tryFrom v).toOption.bind fun e => e.by.toOption.map fun y =>
      { dllName := y.exp.dllName.toOption.map (cstrText y.b),
        timeDateStamp := le32 y.b (y.exp.off + 4),
        version := (le16 y.b (y.exp.off + 8), le16 y.b (y.exp.off + 10)),
        ordinalBase := y.exp.ordinalBase,
        functions := (List.range y.fns.cnt).map y.fnAt,
        names := (List.range (min y.names.cnt y.idx.cnt)).filterMap fun hint =>
          (exportNameStr y.b (y.nameOfHint hint).toOption).map fun s => (s, y.idxAt hint) } :=
  (exportsJson_is v).val _ (serializePe_ok h).exports

/-- "imports": `null` exactly when `Pe::imports` fails; otherwise one object per descriptor of
`Imports::iter`, in order, with `dll_name()` and `int()` (each `null` when it fails); the INT lists the
entries that `import_from_va` decodes, in order, the others are dropped. -/
theorem C19_json_field_imports (v : View) (j : PeJson) (h : v.serializePe = .ok j) :
    j.imports = (Imports.tryFrom v).toOption.map fun image => (Imports.descs image).map fun d =>
      { dllName := (Imports.dllName v d).toOption.map (cstrText v.b),
        int := (Imports.int v d).toOption.map fun items =>
          items.filterMap fun it => it.toOption.map (importJson v.b) } :=
  (importsJson_is v).val _ (serializePe_ok h).imports

/-- "base_relocs": `null` exactly when `Pe::base_relocs` fails; otherwise the rvas and the types of
the entries the block iterator reports (`Relocs.flat`, C14), in order. -/
theorem C19_json_field_base_relocs (v : View) (j : PeJson) (h : v.serializePe = .ok j) :
    j.baseRelocs = v.baseRelocsBytes.toOption.map fun data =>
      ⟨(Relocs.flat data).map (·.1), (Relocs.flat data).map (·.2)⟩ :=
  (baseRelocsJson_is v).val _ (serializePe_ok h).baseRelocs

/-- "debug": `null` exactly when `Pe::debug` fails; otherwise one object per directory entry, in order:
the name of its `Type` constant (`null` for an unknown type), `TimeDateStamp`, `Version`, and
`entry()` — `null` when it fails, else the entry as `entryJson` (Model/JsonDirs.lean) renders it, which
cannot fail (`C19_json_debug_entry`). -/
theorem C19_json_field_debug (v : View) (j : PeJson) (h : v.serializePe = .ok j) :
    j.debug = (Dirs.debugTryFrom v).toOption.map fun t => (List.range (Dirs.debugCount t)).map fun i =>
      let d := Dirs.debugEntryOff t i
      { type := debugTypeName (Dirs.ddType v.b d), timeDateStamp := Dirs.ddTimeDateStamp v.b d,
        version := (Dirs.ddMajor v.b d, Dirs.ddMinor v.b d),
        entry := (Dirs.dirEntry v d).toOption.bind fun e => (entryJson v e).toOption } :=
  (debugJson_is v).val _ (serializePe_ok h).debug

/-- the rendering of a decoded debug entry, constructor by constructor: a CodeView record gives its four
signature bytes, the `Display` text of the pdb path, and timestamp + age (NB10) or GUID text + age
(RSDS); a misc record an empty object; POGO data the records `Pgo::iter` yields (always returns: C15);
anything else the raw data bytes (`null` when they are not inside the image). -/
theorem C19_json_debug_entry (v : View) :
    (∀ im nm, entryJson v (.codeView (.cv20 im nm)) =
      .ok (.cv20 (bytesOf v.b ⟨im.off, 4, 1⟩) (cstrText v.b nm) (le32 v.b (im.off + 8)) (le32 v.b (im.off + 12)))) ∧
    (∀ im nm, entryJson v (.codeView (.cv70 im nm)) =
      .ok (.cv70 (bytesOf v.b ⟨im.off, 4, 1⟩) (cstrText v.b nm) (guidText v.b (im.off + 4)) (le32 v.b (im.off + 20)))) ∧
    (∀ im, entryJson v (.dbg im) = .ok .dbg) ∧
    (∀ im, ∃ items, Dirs.pgoItems v.b im = .ok items ∧
      entryJson v (.pgo im) = .ok (.pgo (items.map fun it => (it.rva, it.size, cstrText v.b it.name)))) ∧
    (∀ data, entryJson v (.unknown data) = .ok (.unknown (data.map (bytesOf v.b)))) :=
  ⟨fun _ _ => rfl, fun _ _ => rfl, fun _ => rfl, fun im => ⟨_, Dirs.pgoItemsFrom_eq v.b _, entryJson_pgo v im⟩,
    fun _ => rfl⟩

/-- "tls": `null` exactly when `Pe::tls` fails; otherwise the bytes of `raw_data()` and the values of
`callbacks()` (each `null` when it fails). -/
theorem C19_json_field_tls (v : View) (j : PeJson) (h : v.serializePe = .ok j) :
    j.tls = (Dirs.tlsTryFrom v).toOption.map fun t =>
      { rawData := (Dirs.tlsRawData v t).toOption.map (bytesOf v.b),
        callbacks := (Dirs.tlsCallbacks v t).toOption.map fun r => valsOf v.b r v.fmt.ptrSize } :=
  (tlsJson_is v).val _ (serializePe_ok h).tls

/-- "load_config": `null` exactly when `Pe::load_config` fails; otherwise the value of
`security_cookie()` and the values of `se_handler_table()` (each `null` when it fails). -/
theorem C19_json_field_load_config (v : View) (j : PeJson) (h : v.serializePe = .ok j) :
    j.loadConfig = (Dirs.lcTryFrom v).toOption.map fun t =>
      { securityCookie := (Dirs.lcSecurityCookie v t).toOption.map fun r => le32 v.b r.off,
        seHandlerTable := (Dirs.lcSeHandlerTable v t).toOption.map fun r => valsOf v.b r v.fmt.ptrSize } :=
  (loadConfigJson_is v).val _ (serializePe_ok h).loadConfig

/-- "security": `null` exactly when `Pe::security` fails (always for a mapped view: C15); otherwise
`certificate_type()` and the bytes of `certificate_data()`. -/
theorem C19_json_field_security (v : View) (j : PeJson) (h : v.serializePe = .ok j) :
    (j.security = none ↔ (Dirs.securityTryFrom v).toOption = none) ∧
    (∀ s, Dirs.securityTryFrom v = .ok s →
      ∃ ty data, Dirs.secCertType v s = .ok ty ∧ Dirs.secCertData v s = .ok data ∧
        j.security = some ⟨ty, bytesOf v.b data⟩) := by
  obtain ⟨h0, h1⟩ := optMember_eq_ok (serializePe_ok h).security ⟨rfl, fun _ => rfl⟩
  refine ⟨h0, fun s hs => ?_⟩
  obtain ⟨b, hb, hj⟩ := h1 s hs
  obtain ⟨ty, hty, hb⟩ := Out.bind_eq_ok hb
  obtain ⟨data, hdata, hb⟩ := Out.bind_eq_ok hb
  cases hb
  exact ⟨ty, data, hty, hdata, hj⟩

/-- "resources": `null` when `Pe::resources` or `Resources::root` fails; otherwise the tree
`serResDir` (Model/JsonDirs.lean) builds from the root with the depth limit `FSCK_MAX_DEPTH` and the
directory budget `fsck_budget()` (`C19_json_resources_dir` unfolds one level of it). -/
theorem C19_json_field_resources (v : View) (j : PeJson) (h : v.serializePe = .ok j) :
    ((Resources.ofView v).toOption = none → j.resources = .null) ∧
    (∀ r o, Resources.ofView v = .ok (r, o) →
      ((Resources.root r).toOption = none → j.resources = .null) ∧
      (∀ d, Resources.root r = .ok d →
        ∃ jb, serResDir r Resources.FSCK_MAX_DEPTH true d (Resources.fsckBudget r) = .ok jb ∧
          j.resources = jb.1)) := by
  have h := Out.okOpt_bind_eq_ok (serializePe_ok h).resources
  refine ⟨fun hn => ?_, fun r o hr => ?_⟩
  · rw [hn] at h; exact (Out.ok.inj h).symm
  · rw [hr] at h
    have h := Out.okOpt_bind_eq_ok h
    refine ⟨fun hn => ?_, fun d hd => ?_⟩
    · rw [hn] at h; exact (Out.ok.inj h).symm
    · rw [hd] at h
      obtain ⟨jb, hjb, h⟩ := Out.bind_eq_ok h
      exact ⟨jb, hjb, (Out.ok.inj h).symm⟩

/-- one directory of the resource tree: cut off with `null` at depth 32 or when the budget is used
up; otherwise (one unit of budget spent) one object per entry of `Directory::entries`, in order. -/
theorem C19_json_resources_dir (r : Resources.Resources) (k : Nat) (named : Bool) (d : Resources.Dir) (b : Nat) :
    serResDir r 0 named d b = .ok (.null, b) ∧
    serResDir r (k + 1) named d 0 = .ok (.null, 0) ∧
    (∀ es, d.entries r = .ok es → serResDir r (k + 1) named d (b + 1) =
      (serResEntries (serResDir r k false) r named es b >>= fun lb => .ok (.arr lb.1, lb.2))) := by
  refine ⟨rfl, rfl, fun es hes => ?_⟩
  show (if b + 1 = 0 then _ else _) = _
  rw [if_neg (by omega), hes, Out.bind_ok]
  rfl

/-- one entry of a resource directory: the member "name" is `name()` (`null` when it fails), a
top-level id renamed to its `RSRC_TYPES` name; the second member is "directory" with the sub-tree (one
level deeper, never renamed) for a directory entry, "data" with address / size / code page for a data
entry, and `null` under the key `is_dir()` selects when `entry()` fails.  The budget left after a
sub-tree is what the following entries get. -/
theorem C19_json_resources_entry (rec : Resources.Dir → Nat → Out (Json × Nat)) (r : Resources.Resources)
    (named : Bool) (e : Resources.DirEntry) (rest : List Resources.DirEntry) (b : Nat)
    (lb : List Json × Nat) (h : serResEntries rec r named (e :: rest) b = .ok lb) :
    ∃ (second : String × Json) (b' : Nat) (tl : List Json × Nat),
      serResEntries rec r named rest b' = .ok tl ∧
      lb = (.struct [("name", opt (fun n => resNameJson (Resources.Name.renameId n
              (if named then Resources.rsrcTypes else []))) (e.getName r).toOption), second] :: tl.1, tl.2) ∧
      ((∃ d jb, e.entry r = .ok (.dir d) ∧ rec d b = .ok jb ∧ second = ("directory", jb.1) ∧ b' = jb.2) ∨
       (∃ de, e.entry r = .ok (.data de) ∧ second = ("data", resDataJson de) ∧ b' = b) ∨
       ((e.entry r).toOption = none ∧ second = (if e.isDir then "directory" else "data", .null) ∧ b' = b)) := by
  unfold serResEntries at h
  obtain ⟨name, hname, h⟩ := Out.bind_eq_ok h
  obtain ⟨en, hen, h⟩ := Out.bind_eq_ok h
  obtain ⟨fb, hfb, h⟩ := Out.bind_eq_ok h
  obtain ⟨tl, htl, h⟩ := Out.bind_eq_ok h
  cases h
  have hname' := Out.okOpt_eq_ok hname
  have hen' := Out.okOpt_eq_ok hen
  refine ⟨fb.1, fb.2, tl, htl, by rw [hname'], ?_⟩
  cases en with
  | none =>
    cases hfb
    exact .inr (.inr ⟨hen'.symm, rfl, rfl⟩)
  | some x =>
    cases x with
    | dir d =>
      obtain ⟨jb, hjb, hfb⟩ := Out.bind_eq_ok hfb
      cases hfb
      exact .inl ⟨d, jb, Out.toOption_eq_some.1 hen'.symm, hjb, rfl, rfl⟩
    | data de =>
      cases hfb
      exact .inr (.inl ⟨de, Out.toOption_eq_some.1 hen'.symm, rfl, rfl⟩)

/-! ## well-formedness of the printed text

`Json.print` (Model/Json.lean) transcribes what `serde_json`'s compact formatter writes for a value
tree: `null`, `true` / `false`, unsigned decimal integers, strings with the escapes of serde_json's
`ESCAPE` table, `[..]` and `{"key":value,..}` without white space.  `Json.parse` (same file) is a
strict reader for a SUBSET of RFC 8259 texts (no white space, unsigned integers without leading
zeros, the two-character escapes and `\u00XY` only, no raw control characters, no trailing commas), so
everything it accepts is well-formed JSON — up to the UTF-8 validity of the bytes ≥ 0x80 inside
strings, which it takes verbatim.  Trusted here: that `serde_json` prints what `Json.print` says (the
correspondence run compares the bytes: `jsontext <k> <field>`), and that the strings are UTF-8 (they
are Rust `str`s: export names that passed `from_utf8`, `Display` output, `from_utf16_lossy` output,
literals; the one `from_utf8_unchecked`, `CodeView::format`, is over the four bytes just compared with
`NB10` / `RSDS`). -/

/-- **The printed text of every value tree reads back to that tree**: it is well-formed JSON, and
nothing is lost or merged by the escaping (in particular for the document of any image). -/
theorem C19_json_wellformed (j : Json) : Json.parse j.print = some j := Json.parse_print j

/-- … instantiated at the document `serialize_pe` produces -/
theorem C19_json_document_wellformed (v : View) (p : PeJson) (_h : v.serializePe = .ok p) :
    Json.parse p.toJson.print = some p.toJson := Json.parse_print _

/-- the printer is injective: two different value trees never print the same text -/
theorem C19_json_print_injective (a b : Json) (h : a.print = b.print) : a = b := Json.print_injective h

/-- the one string the serializer makes with `from_utf8_unchecked` — "format" of a CodeView entry — is
the ASCII text `NB10` or `RSDS` for every record `code_view` accepts -/
theorem C19_json_codeview_format_ascii (v : View) (d : Nat) (cv : Dirs.CodeView) (h : Dirs.codeView v d = .ok cv) :
    bytesOf v.b ⟨cv.image.off, 4, 1⟩ = [78, 66, 49, 48] ∨ bytesOf v.b ⟨cv.image.off, 4, 1⟩ = [82, 83, 68, 83] :=
  codeView_format_ascii h

/-! ## non-vacuity

An 808-byte PE32 image without sections that has every directory the serializer looks at: Rich header (one record),
export directory (`d.dll`, functions [0x100, 0], one name `f`), one import descriptor (`k.dll`: `g` by name with
hint 7, ordinal 9), relocation block (page 0x1000: types 3 and 10), a CodeView RSDS record (`a.pdb`), TLS (4 template
bytes, one callback), load config (cookie, two SE handlers), a certificate (type 2), resources (named entry `A` →
sub-directory → data, id 16 → data).  As a mapped view every directory but the certificate resolves; as a file only
the certificate does (no sections; it is addressed by file offset). -/

def jsonDemoBytes : Bytes := #[
    77, 90, 0, 0, 0, 0, 0, 0, 0, 0, 0, 0, 0, 0, 0, 0, 0, 0, 0, 0, 0, 0, 0, 0, 0, 0, 0, 0, 0, 0, 0, 0,
    0, 0, 0, 0, 0, 0, 0, 0, 0, 0, 0, 0, 0, 0, 0, 0, 0, 0, 0, 0, 0, 0, 0, 0, 0, 0, 0, 0, 128, 0, 0, 0,
    0, 82, 76, 66, 68, 51, 34, 17, 68, 51, 34, 17, 68, 51, 34, 17, 112, 33, 127, 17, 71, 51, 34, 17, 82, 105, 99, 104, 68, 51, 34, 17,
    0, 0, 0, 0, 0, 0, 0, 0, 0, 0, 0, 0, 0, 0, 0, 0, 0, 0, 0, 0, 0, 0, 0, 0, 0, 0, 0, 0, 0, 0, 0, 0,
    80, 69, 0, 0, 76, 1, 0, 0, 0, 0, 0, 95, 0, 0, 0, 0, 0, 0, 0, 0, 224, 0, 2, 33, 11, 1, 14, 0, 0, 0, 0, 0,
    0, 0, 0, 0, 0, 0, 0, 0, 0, 0, 0, 0, 0, 0, 0, 0, 0, 0, 0, 0, 0, 0, 64, 0, 0, 16, 0, 0, 0, 2, 0, 0,
    6, 0, 0, 0, 0, 0, 0, 0, 6, 0, 0, 0, 0, 0, 0, 0, 40, 3, 0, 0, 40, 3, 0, 0, 0, 0, 0, 0, 3, 0, 0, 0,
    0, 0, 0, 0, 0, 0, 0, 0, 0, 0, 0, 0, 0, 0, 0, 0, 0, 0, 0, 0, 16, 0, 0, 0, 144, 1, 0, 0, 40, 0, 0, 0,
    208, 1, 0, 0, 40, 0, 0, 0, 188, 2, 0, 0, 92, 0, 0, 0, 0, 0, 0, 0, 0, 0, 0, 0, 24, 3, 0, 0, 16, 0, 0, 0,
    248, 1, 0, 0, 12, 0, 0, 0, 36, 2, 0, 0, 28, 0, 0, 0, 0, 0, 0, 0, 0, 0, 0, 0, 0, 0, 0, 0, 0, 0, 0, 0,
    80, 2, 0, 0, 24, 0, 0, 0, 116, 2, 0, 0, 72, 0, 0, 0, 0, 0, 0, 0, 0, 0, 0, 0, 0, 0, 0, 0, 0, 0, 0, 0,
    0, 0, 0, 0, 0, 0, 0, 0, 0, 0, 0, 0, 0, 0, 0, 0, 0, 0, 0, 0, 0, 0, 0, 0, 100, 46, 100, 108, 108, 0, 102, 0,
    0, 1, 0, 0, 0, 0, 0, 0, 126, 1, 0, 0, 0, 0, 0, 0, 0, 0, 0, 0, 1, 0, 0, 95, 1, 0, 2, 0, 120, 1, 0, 0,
    5, 0, 0, 0, 2, 0, 0, 0, 1, 0, 0, 0, 128, 1, 0, 0, 136, 1, 0, 0, 140, 1, 0, 0, 107, 46, 100, 108, 108, 0, 7, 0,
    103, 0, 0, 0, 190, 1, 0, 0, 9, 0, 0, 128, 0, 0, 0, 0, 196, 1, 0, 0, 0, 0, 0, 0, 0, 0, 0, 0, 184, 1, 0, 0,
    196, 1, 0, 0, 0, 0, 0, 0, 0, 0, 0, 0, 0, 0, 0, 0, 0, 0, 0, 0, 0, 0, 0, 0, 0, 16, 0, 0, 12, 0, 0, 0,
    4, 48, 8, 160, 82, 83, 68, 83, 1, 2, 3, 4, 5, 6, 7, 8, 9, 10, 11, 12, 13, 14, 15, 16, 7, 0, 0, 0, 97, 46, 112, 100,
    98, 0, 0, 0, 0, 0, 0, 0, 2, 0, 0, 95, 1, 0, 0, 0, 2, 0, 0, 0, 30, 0, 0, 0, 4, 2, 0, 0, 4, 2, 0, 0,
    170, 187, 204, 221, 0, 0, 0, 0, 0, 1, 64, 0, 0, 0, 0, 0, 64, 2, 64, 0, 68, 2, 64, 0, 68, 2, 64, 0, 72, 2, 64, 0,
    0, 0, 0, 0, 0, 0, 0, 0, 78, 230, 64, 187, 1, 1, 0, 0, 2, 1, 0, 0, 72, 0, 0, 0, 0, 0, 0, 0, 0, 0, 0, 0,
    0, 0, 0, 0, 0, 0, 0, 0, 0, 0, 0, 0, 0, 0, 0, 0, 0, 0, 0, 0, 0, 0, 0, 0, 0, 0, 0, 0, 0, 0, 0, 0,
    0, 0, 0, 0, 0, 0, 0, 0, 0, 0, 0, 0, 0, 0, 0, 0, 104, 2, 64, 0, 108, 2, 64, 0, 2, 0, 0, 0, 0, 0, 0, 0,
    0, 0, 0, 0, 0, 0, 0, 0, 1, 0, 1, 0, 88, 0, 0, 128, 32, 0, 0, 128, 16, 0, 0, 0, 72, 0, 0, 0, 0, 0, 0, 0,
    0, 0, 0, 0, 0, 0, 0, 0, 0, 0, 1, 0, 9, 4, 0, 0, 56, 0, 0, 0, 0, 32, 0, 0, 10, 0, 0, 0, 228, 4, 0, 0,
    0, 0, 0, 0, 0, 48, 0, 0, 20, 0, 0, 0, 0, 0, 0, 0, 0, 0, 0, 0, 1, 0, 65, 0, 12, 0, 0, 0, 0, 2, 2, 0,
    1, 2, 3, 4, 0, 0, 0, 0]

def jsonDemoImg : Img := ⟨jsonDemoBytes, 0⟩
def jsonDemoView : View := ⟨jsonDemoImg, .pe32, .view, 0x400000⟩
def jsonDemoFile : View := ⟨jsonDemoImg, .pe32, .file, 0x400000⟩

/-- the hypotheses of `C19_json_total` hold for the demo image, both ways of opening it -/
example : fromBytes .pe32 .view jsonDemoImg = .ok jsonDemoView ∧ fromBytes .pe32 .file jsonDemoImg = .ok jsonDemoFile ∧
    jsonDemoImg.bytes.size < 4294967296 := by
  have h : Accept .pe32 jsonDemoImg ∧ imageBaseField .pe32 jsonDemoImg.bytes = 0x400000 ∧
      jsonDemoImg.bytes.size < 4294967296 := by simp only [Accept, hdr_toNat, le16_toNat, le32_toNat]; decide +kernel
  refine ⟨(fromBytes_ok_iff _ _ _ _).2 ⟨h.1, ?_⟩, (fromBytes_ok_iff _ _ _ _).2 ⟨h.1, ?_⟩, h.2.2⟩ <;> rw [h.2.1] <;> rfl

theorem jsonDemo_imports :
    jsonDemoView.importsJson = .ok (some [⟨some (asc "k.dll"), some [.byName 7 (asc "g"), .byOrdinal 9]⟩]) := by
  obtain ⟨e1, -, e3, -⟩ := Imports.C09_model_eq_spec jsonDemoView (by decide +kernel)
  rw [(importsJson_is _).ret (by decide +kernel), e1, Imports.specTryFrom]
  delta descSpec cstrText importJson
  simp only [Imports.int, e3, Imports.specThunks, Imports.specCStr, View.dataDir_toNat, hdr_toNat, Imports.specDescCount_eq,
    Imports.specThunkCount_eq, Imports.ftAt, Imports.thunkVal, Imports.Desc.oft, Imports.Desc.name, Exports.cstrBytes,
    byteAt_toNat, le32_toNat, leN_toNat]
  decide +kernel

/-- the document of the mapped view: eight directory members are not `null`, with these values (a theorem, so that
the printed-text example below can start from them) -/
theorem jsonDemoView_members :
    (match jsonDemoView.serializePe with
     | .ok j =>
       j.richStructure == some ⟨0x11223344, 48796385, [⟨0x1234, 0x5d, 3⟩]⟩ &&
       j.exports == some ⟨some (asc "d.dll"), 0x5f000001, (1, 2), 5, [0x100, 0], [(asc "f", 0)]⟩ &&
       j.imports == some [⟨some (asc "k.dll"), some [.byName 7 (asc "g"), .byOrdinal 9]⟩] &&
       j.baseRelocs == some ⟨[0x1004, 0x1008], [3, 10]⟩ &&
       j.debug.map (·.map (·.type)) == some [some "IMAGE_DEBUG_TYPE_CODEVIEW"] &&
       j.tls == some ⟨some [0xAA, 0xBB, 0xCC, 0xDD], some [0x400100]⟩ &&
       j.loadConfig == some ⟨some 0xBB40E64E, some [0x101, 0x102]⟩ &&
       j.security == none &&
       (match j.resources with | .arr [_, _] => true | _ => false)
     | _ => false) = true := by
  -- the kernel evaluates the record of `serializePe_eq` lazily: "debug" is asked for its types only, so it is put on
  -- its closed form; the two members that copy their directory out are put on the `drop` / `take` form; exports, TLS
  -- and load config on their closed forms, the Rich header on `wordsGo_eq_map`, and every read becomes a digit of the
  -- image's number (`le32_toNat` …), also where its reference is bound (`delta` for the helpers that stand unapplied
  -- under a `map`, where `simp` does not unfold them)
  have hj := serializePe_eq jsonDemoView rfl (by decide +kernel)
  rw [(debugJson_is _).ret trivial, Dirs.debugTryFrom_eq, Dirs.tableTryFrom, (exportsJson_is _).ret trivial, Exports.tryFrom,
    (tlsJson_is _).ret trivial, Dirs.tlsTryFrom_eq, Dirs.structTryFrom, (loadConfigJson_is _).ret trivial,
    Dirs.lcTryFrom_eq, Dirs.structTryFrom, jsonDemo_imports, View.resourcesJson, Resources.ofView_window, View.baseRelocsJson,
    View.baseRelocsBytes, baseRelocsRef_eq] at hj
  delta bySpec bytesOf nameEntry cstrText Exports.By.fnAt at hj
  simp only [View.richJson, Rich.ofImage, Rich.words, Rich.wordsGo_eq_map, extract_eq_window, valsOf, exportNameStr,
    View.dataDir_toNat, hdr_toNat, View.dervaCStr, cstrFromBytes, findNul_eq, View.dervaSliceS_eq_I, dervaSliceFI_eq _ _ _ _ (show 1 ≤ jsonDemoView.fmt.ptrSize by decide),
    Exports.Exports.by, Exports.Exports.functions, Exports.Exports.names, Exports.Exports.nameIndices,
    Exports.Exports.nFns, Exports.Exports.nNames, Exports.Exports.aFns, Exports.Exports.aNames, Exports.Exports.aOrds,
    Exports.Exports.dllName, Exports.Exports.nameRva, Exports.Exports.base, Exports.Exports.ordinalBase,
    Exports.By.idxAt, Exports.By.nameOfHint, Exports.By.nameAt, Exports.cstrBytes, debugDirSpec, Dirs.ddType, Dirs.debugEntryOff,
    Dirs.tlsRawData, Dirs.tlsCallbacks, Dirs.tlsStart, Dirs.tlsEnd, Dirs.tlsCallBacks, Dirs.lcSecurityCookie,
    Dirs.lcSeHandlerTable, Dirs.lcCookieVa, Dirs.lcTableVa, Dirs.lcCount, Dirs.ptrAt, byteAt_toNat, le16_toNat,
    le32_toNat, leN_toNat] at hj
  rw [hj]
  decide +kernel

example :
    (match jsonDemoView.serializePe with
     | .ok j =>
       j.richStructure == some ⟨0x11223344, 48796385, [⟨0x1234, 0x5d, 3⟩]⟩ &&
       j.exports == some ⟨some (asc "d.dll"), 0x5f000001, (1, 2), 5, [0x100, 0], [(asc "f", 0)]⟩ &&
       j.imports == some [⟨some (asc "k.dll"), some [.byName 7 (asc "g"), .byOrdinal 9]⟩] &&
       j.baseRelocs == some ⟨[0x1004, 0x1008], [3, 10]⟩ &&
       j.debug.map (·.map (·.type)) == some [some "IMAGE_DEBUG_TYPE_CODEVIEW"] &&
       j.tls == some ⟨some [0xAA, 0xBB, 0xCC, 0xDD], some [0x400100]⟩ &&
       j.loadConfig == some ⟨some 0xBB40E64E, some [0x101, 0x102]⟩ &&
       j.security == none &&
       (match j.resources with | .arr [_, _] => true | _ => false)
     | _ => false) = true :=
  jsonDemoView_members

/-- the same bytes opened as a file: the certificate is serialized, the RVA-addressed directories are `null` -/
example :
    (match jsonDemoFile.serializePe with
     | .ok j => j.security == some ⟨2, [1, 2, 3, 4, 0, 0, 0, 0]⟩ && j.exports == none && j.richStructure.isSome
     | _ => false) = true := by
  have hj := serializePe_eq jsonDemoFile rfl (by decide +kernel)
  rw [View.securityJson, Dirs.securityTryFrom, (exportsJson_is _).ret trivial, Exports.tryFrom] at hj
  simp only [View.richJson, Rich.ofImage, Rich.words, Rich.wordsGo_eq_map, View.dataDir_toNat, hdr_toNat, serializeSecurity,
    Dirs.secCertType, Dirs.secCertData, bytesOf, byteAt_toNat, le16_toNat, le32_toNat] at hj
  rw [hj]
  decide +kernel

/-- the text of the "exports" and "imports" members of the demo view, as serde_json prints them -/
example :
    (match jsonDemoView.serializePe with
     | .ok j =>
       (j.toJson.field "exports").map (fun x => String.ofList (x.print.map Char.ofNat)) ==
         some "{\"dll_name\":\"d.dll\",\"time_date_stamp\":1593835521,\"version\":\"1.2\",\"ordinal_base\":5,\"functions\":[256,0],\"names\":{\"f\":0}}" &&
       (j.toJson.field "imports").map (fun x => String.ofList (x.print.map Char.ofNat)) ==
         some "[{\"dll_name\":\"k.dll\",\"int\":[{\"ByName\":{\"hint\":7,\"name\":\"g\"}},{\"ByOrdinal\":{\"ord\":9}}]}]"
     | _ => false) = true := by
  -- only the text of the two members is computed here
  have h := jsonDemoView_members
  cases hs : jsonDemoView.serializePe with
  | ok j =>
    rw [hs] at h
    simp only [Bool.and_eq_true, beq_iff_eq] at h
    simp only [(PeJson.toJson_field j).1, (PeJson.toJson_field j).2, h.1.1.1.1.1.1.1.2, h.1.1.1.1.1.1.2]
    decide +kernel
  | _ => rw [hs] at h; cases h

end Pelite.Pe
