import PeliteModel.Model.Dirs
import PeliteModel.Generated.ImageLayout
/-!
C15 — the literal sizes, alignments and offsets of `Model/Dirs.lean` are the layouts of the *current source*
(`Generated/ImageLayout.lean`, rewritten on every check run from `size_of` / `align_of` / `offset_of!` of the structs
of `src/image.rs`): `IMAGE_DEBUG_DIRECTORY`, `IMAGE_DEBUG_CV_INFO_PDB20/70`, `GUID`, `IMAGE_DEBUG_MISC`,
`IMAGE_TLS_DIRECTORY32/64`, `IMAGE_LOAD_CONFIG_DIRECTORY32/64`, `RUNTIME_FUNCTION`, `UNWIND_INFO`, `UNWIND_CODE`,
`WIN_CERTIFICATE`.  Where the model has a named definition the definition is tied; where it writes the number inline
the tie is stated through the function that contains it (the function equals, on every input, its transcription over
the named constants).

Literals that are literals in the Rust code too are stated as the struct quantity they stand for: `code_view`'s
`bytes.len() < 16` / `&bytes[16..]` / `< 24` / `&bytes[24..]` (= `size_of` of the two CodeView structs = the offset
of their `PdbFileName`), its `aligned_to(4)` (their alignment), `Security::new`'s `image.len() >= 8` and
`get_unchecked(8..)` (= `size_of::<WIN_CERTIFICATE>()` = offset of `bCertificate`).

Not tied (no struct of `image.rs` behind them): the POGO payload (`pgoEntry`, `pgoIterStart`, `pgoNext`: `u32` words
— signature, then `rva, size, name…` — decoded by index in `wrap/debug.rs`); the `u32`s behind
`Tls::slot` / `LoadConfig::security_cookie` (`derva::<u32>`: 4 / 4); `IMAGE_VERSION<u16>` (generic, not in the table:
`ddMinor` reads 2 bytes after `ddMajor`); the quadword alignment `8` of the security directory entry (`aligned_to(8)`,
a rule of the format); the data directory indices 3, 4, 6, 9, 10 and the debug types 2, 4, 13 (constants); the bit
fields of `UNWIND_INFO` (`% 8`, `/ 8`, `% 16`, `/ 16`).  Not tied although a struct stands behind them: the
offsets +0 / +4 / +8 of `miscDataType` / `miscLength` / `miscUnicode`, and the `+2` that `uwCountOfCodes` reads itself.
-/
namespace Pelite.Dirs
open Pelite Pelite.Pe Pelite.Generated.Layout

/-! names for the quantities of the two-format structs, by format -/
namespace Src
def tlsStart : Fmt → Nat
  | .pe32 => IMAGE_TLS_DIRECTORY32__StartAddressOfRawData | .pe64 => IMAGE_TLS_DIRECTORY64__StartAddressOfRawData
def tlsEnd : Fmt → Nat
  | .pe32 => IMAGE_TLS_DIRECTORY32__EndAddressOfRawData | .pe64 => IMAGE_TLS_DIRECTORY64__EndAddressOfRawData
def tlsIndex : Fmt → Nat
  | .pe32 => IMAGE_TLS_DIRECTORY32__AddressOfIndex | .pe64 => IMAGE_TLS_DIRECTORY64__AddressOfIndex
def tlsCallBacks : Fmt → Nat
  | .pe32 => IMAGE_TLS_DIRECTORY32__AddressOfCallBacks | .pe64 => IMAGE_TLS_DIRECTORY64__AddressOfCallBacks
def tlsZeroFill : Fmt → Nat
  | .pe32 => IMAGE_TLS_DIRECTORY32__SizeOfZeroFill | .pe64 => IMAGE_TLS_DIRECTORY64__SizeOfZeroFill
def tlsChars : Fmt → Nat
  | .pe32 => IMAGE_TLS_DIRECTORY32__Characteristics | .pe64 => IMAGE_TLS_DIRECTORY64__Characteristics
def lcSizeField : Fmt → Nat
  | .pe32 => IMAGE_LOAD_CONFIG_DIRECTORY32__Size | .pe64 => IMAGE_LOAD_CONFIG_DIRECTORY64__Size
end Src

/-- **The named layout constants of the directory model are the source's.** -/
theorem C15_model_offsets :
    tlsSize .pe32 = IMAGE_TLS_DIRECTORY32__size ∧ tlsSize .pe64 = IMAGE_TLS_DIRECTORY64__size ∧
    tlsAlign .pe32 = IMAGE_TLS_DIRECTORY32__align ∧ tlsAlign .pe64 = IMAGE_TLS_DIRECTORY64__align ∧
    lcSize .pe32 = IMAGE_LOAD_CONFIG_DIRECTORY32__size ∧ lcSize .pe64 = IMAGE_LOAD_CONFIG_DIRECTORY64__size ∧
    lcAlign .pe32 = IMAGE_LOAD_CONFIG_DIRECTORY32__align ∧ lcAlign .pe64 = IMAGE_LOAD_CONFIG_DIRECTORY64__align ∧
    lcOffCookie .pe32 = IMAGE_LOAD_CONFIG_DIRECTORY32__SecurityCookie ∧
    lcOffCookie .pe64 = IMAGE_LOAD_CONFIG_DIRECTORY64__SecurityCookie ∧
    lcOffTable .pe32 = IMAGE_LOAD_CONFIG_DIRECTORY32__SEHandlerTable ∧
    lcOffTable .pe64 = IMAGE_LOAD_CONFIG_DIRECTORY64__SEHandlerTable ∧
    lcOffCount .pe32 = IMAGE_LOAD_CONFIG_DIRECTORY32__SEHandlerCount ∧
    lcOffCount .pe64 = IMAGE_LOAD_CONFIG_DIRECTORY64__SEHandlerCount ∧
    cv20OffOffset = IMAGE_DEBUG_CV_INFO_PDB20__Offset ∧
    cv20OffTimeDateStamp = IMAGE_DEBUG_CV_INFO_PDB20__TimeDateStamp ∧
    cv20OffAge = IMAGE_DEBUG_CV_INFO_PDB20__Age ∧
    cv70OffSignature = IMAGE_DEBUG_CV_INFO_PDB70__Signature ∧
    cv70OffAge = IMAGE_DEBUG_CV_INFO_PDB70__Age :=
  ⟨rfl, rfl, rfl, rfl, rfl, rfl, rfl, rfl, rfl, rfl, rfl, rfl, rfl, rfl, rfl, rfl, rfl, rfl, rfl⟩

/-- **Debug directory**: the array is cut into `size_of::<IMAGE_DEBUG_DIRECTORY>()` records of that struct's alignment,
every field is read at its offset, and the three typed payloads (`CodeView` PDB 2.0 / 7.0, `IMAGE_DEBUG_MISC`) are
cast with the size and alignment of their structs, the file name starting at the struct's `PdbFileName`. -/
theorem C15_model_debug_offsets (v : View) (t : Ref) (b : Bytes) (d i : Nat) (cv : CodeView) :
    debugTryFrom v =
      (match v.dataDir 6 with
       | none => .err .null
       | some (va, size) =>
         if size % IMAGE_DEBUG_DIRECTORY__size ≠ 0 then .err .invalid
         else v.dervaSlice (.rva va) IMAGE_DEBUG_DIRECTORY__size IMAGE_DEBUG_DIRECTORY__align
                (size / IMAGE_DEBUG_DIRECTORY__size)) ∧
    debugCount t = t.len / IMAGE_DEBUG_DIRECTORY__size ∧
    debugEntryOff t i = t.off + IMAGE_DEBUG_DIRECTORY__size * i ∧
    ddCharacteristics b d = le32 b (d + IMAGE_DEBUG_DIRECTORY__Characteristics) ∧
    ddTimeDateStamp b d = le32 b (d + IMAGE_DEBUG_DIRECTORY__TimeDateStamp) ∧
    ddMajor b d = le16 b (d + IMAGE_DEBUG_DIRECTORY__Version) ∧           -- `IMAGE_VERSION<u16>`: Major, then Minor
    ddMinor b d = le16 b (d + IMAGE_DEBUG_DIRECTORY__Version + 2) ∧
    ddType b d = le32 b (d + IMAGE_DEBUG_DIRECTORY__Type) ∧
    ddSizeOfData b d = le32 b (d + IMAGE_DEBUG_DIRECTORY__SizeOfData) ∧
    ddAddressOfRawData b d = le32 b (d + IMAGE_DEBUG_DIRECTORY__AddressOfRawData) ∧
    ddPointerToRawData b d = le32 b (d + IMAGE_DEBUG_DIRECTORY__PointerToRawData) ∧
    -- `code_view`
    codeView v d =
      (match dirData v d with
       | none => .err .bounds
       | some bytes =>
         if bytes.len < IMAGE_DEBUG_CV_INFO_PDB20__size then .err .bounds
         else if (v.img.base + bytes.off) % IMAGE_DEBUG_CV_INFO_PDB20__align ≠ 0 then .err .misaligned
         else
           rawRef "code_view:cv_signature" v.img bytes.off
             (IMAGE_DEBUG_CV_INFO_PDB20__Offset - IMAGE_DEBUG_CV_INFO_PDB20__CvSignature) 1 >>= fun sig =>
           if le32 v.b sig.off = sigNB10 then
             if bytes.len < IMAGE_DEBUG_CV_INFO_PDB20__size then .err .bounds
             else
               rawRef "code_view:IMAGE_DEBUG_CV_INFO_PDB20" v.img bytes.off IMAGE_DEBUG_CV_INFO_PDB20__size
                 IMAGE_DEBUG_CV_INFO_PDB20__align >>= fun image =>
               cstrTail v bytes IMAGE_DEBUG_CV_INFO_PDB20__PdbFileName "code_view:bytes[16..]" >>= fun name =>
               .ok (.cv20 image name)
           else if le32 v.b sig.off = sigRSDS then
             if bytes.len < IMAGE_DEBUG_CV_INFO_PDB70__size then .err .bounds
             else
               rawRef "code_view:IMAGE_DEBUG_CV_INFO_PDB70" v.img bytes.off IMAGE_DEBUG_CV_INFO_PDB70__size
                 IMAGE_DEBUG_CV_INFO_PDB70__align >>= fun image =>
               cstrTail v bytes IMAGE_DEBUG_CV_INFO_PDB70__PdbFileName "code_view:bytes[24..]" >>= fun name =>
               .ok (.cv70 image name)
           else .err .badMagic) ∧
    -- the fields of the two CodeView structs
    cv.cvSignature b = le32 b (cv.image.off + IMAGE_DEBUG_CV_INFO_PDB20__CvSignature) ∧
    IMAGE_DEBUG_CV_INFO_PDB70__CvSignature = IMAGE_DEBUG_CV_INFO_PDB20__CvSignature ∧
    cv.format = ⟨cv.image.off + IMAGE_DEBUG_CV_INFO_PDB20__CvSignature,
                 IMAGE_DEBUG_CV_INFO_PDB20__Offset - IMAGE_DEBUG_CV_INFO_PDB20__CvSignature, 1⟩ ∧
    cv.age b = (match cv with
      | .cv20 im _ => le32 b (im.off + IMAGE_DEBUG_CV_INFO_PDB20__Age)
      | .cv70 im _ => le32 b (im.off + IMAGE_DEBUG_CV_INFO_PDB70__Age)) ∧
    cv.guidRef = (match cv with
      | .cv20 _ _ => none
      | .cv70 im _ => some ⟨im.off + IMAGE_DEBUG_CV_INFO_PDB70__Signature, GUID__size, GUID__align⟩) ∧
    cv.timestamp b = (match cv with
      | .cv20 im _ => some (le32 b (im.off + IMAGE_DEBUG_CV_INFO_PDB20__TimeDateStamp))
      | .cv70 _ _ => none) ∧
    cv.offset b = (match cv with
      | .cv20 im _ => some (le32 b (im.off + IMAGE_DEBUG_CV_INFO_PDB20__Offset))
      | .cv70 _ _ => none) ∧
    -- `dbg`
    dbgEntry v d =
      (match dirData v d with
       | none => .err .bounds
       | some data =>
         if data.len < IMAGE_DEBUG_MISC__size then .err .bounds
         else if (v.img.base + data.off) % IMAGE_DEBUG_MISC__align ≠ 0 then .err .misaligned
         else rawRef "dbg:IMAGE_DEBUG_MISC" v.img data.off IMAGE_DEBUG_MISC__size IMAGE_DEBUG_MISC__align) := by
  unfold debugTryFrom codeView dbgEntry
  cases v.dataDir 6 <;> cases dirData v d <;>
    refine ⟨rfl, rfl, rfl, rfl, rfl, rfl, rfl, rfl, rfl, rfl, rfl, rfl, ?_, rfl, ?_, ?_, ?_, ?_, ?_, rfl⟩ <;>
    cases cv <;> rfl

/-- the GUID of a PDB 7.0 record fills the gap between `Signature` and `Age`; the dword fields are 4 bytes wide -/
theorem C15_model_debug_widths :
    IMAGE_DEBUG_CV_INFO_PDB70__Age - IMAGE_DEBUG_CV_INFO_PDB70__Signature = GUID__size ∧
    IMAGE_DEBUG_CV_INFO_PDB70__PdbFileName - IMAGE_DEBUG_CV_INFO_PDB70__Age = 4 ∧
    IMAGE_DEBUG_CV_INFO_PDB20__PdbFileName - IMAGE_DEBUG_CV_INFO_PDB20__Age = 4 ∧
    IMAGE_DEBUG_CV_INFO_PDB20__PdbFileName = IMAGE_DEBUG_CV_INFO_PDB20__size ∧
    IMAGE_DEBUG_CV_INFO_PDB70__PdbFileName = IMAGE_DEBUG_CV_INFO_PDB70__size ∧
    IMAGE_DEBUG_DIRECTORY__size - IMAGE_DEBUG_DIRECTORY__PointerToRawData = 4 ∧
    IMAGE_DEBUG_DIRECTORY__Type - IMAGE_DEBUG_DIRECTORY__Version = 2 * 2 := by decide

/-- **TLS and load config**: every field is read at the offset of the struct of the view's format
(`IMAGE_TLS_DIRECTORY32/64`, `IMAGE_LOAD_CONFIG_DIRECTORY32/64`), pointer-sized where it is a `Va`. -/
theorem C15_model_tls_lc_offsets (v : View) (t : Ref) :
    tlsTryFrom v = (match v.dataDir 9 with
      | none => .err .null
      | some (va, _) => v.derva (.rva va) (tlsSize v.fmt) (tlsAlign v.fmt)) ∧
    tlsStart v t = ptrAt v (t.off + Src.tlsStart v.fmt) ∧
    tlsEnd v t = ptrAt v (t.off + Src.tlsEnd v.fmt) ∧
    tlsIndex v t = ptrAt v (t.off + Src.tlsIndex v.fmt) ∧
    tlsCallBacks v t = ptrAt v (t.off + Src.tlsCallBacks v.fmt) ∧
    tlsZeroFill v t = le32 v.b (t.off + Src.tlsZeroFill v.fmt) ∧
    tlsChars v t = le32 v.b (t.off + Src.tlsChars v.fmt) ∧
    lcTryFrom v = (match v.dataDir 10 with
      | none => .err .null
      | some (va, _) => v.derva (.rva va) (lcSize v.fmt) (lcAlign v.fmt)) ∧
    lcDeclaredSize v t = le32 v.b (t.off + Src.lcSizeField v.fmt) ∧
    lcCookieVa v t = ptrAt v (t.off + lcOffCookie v.fmt) ∧
    lcTableVa v t = ptrAt v (t.off + lcOffTable v.fmt) ∧
    lcCount v t = ptrAt v (t.off + lcOffCount v.fmt) ∧
    -- a `Va` field is as wide as the gap to the next field
    Src.tlsEnd v.fmt - Src.tlsStart v.fmt = v.fmt.ptrSize ∧
    lcOffTable v.fmt - lcOffCookie v.fmt = v.fmt.ptrSize ∧ lcOffCount v.fmt - lcOffTable v.fmt = v.fmt.ptrSize ∧
    lcSize v.fmt - lcOffCount v.fmt = v.fmt.ptrSize := by
  unfold tlsTryFrom lcTryFrom
  cases v.dataDir 9 <;> cases v.dataDir 10 <;> obtain ⟨img, f, k, ib⟩ := v <;>
    cases f <;> exact ⟨rfl, rfl, rfl, rfl, rfl, rfl, rfl, rfl, rfl, rfl, rfl, rfl, rfl, rfl, rfl, rfl⟩

/-- **Exception directory and unwind info**: `RUNTIME_FUNCTION` records of the struct's size and alignment with
the three fields at their offsets; `UNWIND_INFO` of its size and alignment, `CountOfCodes` at its offset, followed at
`UnwindCode` by that many `UNWIND_CODE`s. -/
theorem C15_model_exception_offsets (v : View) (t image : Ref) (b : Bytes) (i pc : Nat) :
    excTryFrom v =
      (match v.dataDir 3 with
       | none => .err .null
       | some (va, size) =>
         if size % RUNTIME_FUNCTION__size ≠ 0 then .err .invalid
         else v.dervaSlice (.rva va) RUNTIME_FUNCTION__size RUNTIME_FUNCTION__align (size / RUNTIME_FUNCTION__size)) ∧
    excCount t = t.len / RUNTIME_FUNCTION__size ∧
    rfOff t i = t.off + RUNTIME_FUNCTION__size * i ∧
    rfBegin b t i = le32 b (rfOff t i + RUNTIME_FUNCTION__BeginAddress) ∧
    rfEnd b t i = le32 b (rfOff t i + RUNTIME_FUNCTION__EndAddress) ∧
    rfUnwind b t i = le32 b (rfOff t i + RUNTIME_FUNCTION__UnwindData) ∧
    lookupFunctionEntry b t pc =
      (match indexOf b t pc with
       | .found i =>
         if i < excCount t then .ok (some ⟨rfOff t i, RUNTIME_FUNCTION__size, RUNTIME_FUNCTION__align⟩)
         else .panic "lookup_function_entry:image[index]"
       | .notFound _ => .ok none) ∧
    unwindInfo v t i =
      (match v.slice (rfUnwind v.b t i) UNWIND_INFO__size UNWIND_INFO__align with
       | .ok bytes =>
         rawRef "unwind_info:UNWIND_INFO" v.img bytes.off UNWIND_INFO__size UNWIND_INFO__align >>= fun image =>
         let minSize := UNWIND_INFO__size + UNWIND_CODE__size * byteAt v.b (image.off + UNWIND_INFO__CountOfCodes)
         if bytes.len < minSize then .err .bounds else .ok image
       | .err e => .err e | .panic s => .panic s | .ub s => .ub s | .diverge => .diverge) ∧
    unwindCodes v image =
      rawRef "unwind_codes:from_raw_parts" v.img (image.off + UNWIND_INFO__UnwindCode)
        (UNWIND_CODE__size * byteAt v.b (image.off + UNWIND_INFO__CountOfCodes)) UNWIND_CODE__align ∧
    uwVersion b image = byteAt b (image.off + UNWIND_INFO__VersionFlags) % 8 ∧
    uwFlags b image = byteAt b (image.off + UNWIND_INFO__VersionFlags) / 8 ∧
    uwSizeOfProlog b image = byteAt b (image.off + UNWIND_INFO__SizeOfProlog) ∧
    uwFrameRegister b image = byteAt b (image.off + UNWIND_INFO__FrameRegisterOffset) % 16 ∧
    uwFrameOffset b image = byteAt b (image.off + UNWIND_INFO__FrameRegisterOffset) / 16 :=
  ⟨rfl, rfl, rfl, rfl, rfl, rfl, rfl, rfl, rfl, rfl, rfl, rfl, rfl, rfl⟩

/-- **Security directory**: the certificate header is a `WIN_CERTIFICATE` (size, alignment, fields at their
offsets), the certificate bytes start at its `bCertificate`. -/
theorem C15_model_security_offsets (v : View) (s : Ref) (b : Bytes) :
    securityTryFrom v =
      (if v.kind ≠ .file then .err .unmapped
       else match v.dataDir 4 with
         | none => .err .null
         | some (va, size) =>
           if va = 0 then .err .null
           else if va % 8 ≠ 0 ∨ size % 8 ≠ 0 then .err .misaligned
           else if size = 0 then .err .bounds
           else match cadd64 va size with
             | none => .err .overflow
             | some stop =>
               if va ≤ stop ∧ stop ≤ v.b.size then
                 if (v.img.base + va) % WIN_CERTIFICATE__align ≠ 0 then .panic "Security::new:aligned"
                 else if stop - va < WIN_CERTIFICATE__size then .panic "Security::new:len"
                 else .ok ⟨va, stop - va, 1⟩
               else .err .bounds) ∧
    secImage v s = rawRef "Security::image" v.img s.off WIN_CERTIFICATE__size WIN_CERTIFICATE__align ∧
    secLength b s = le32 b (s.off + WIN_CERTIFICATE__dwLength) ∧
    secRevision b s = le16 b (s.off + WIN_CERTIFICATE__wRevision) ∧
    secCertType v s = (secImage v s >>= fun im => .ok (le16 v.b (im.off + WIN_CERTIFICATE__wCertificateType))) ∧
    secCertData v s =
      (if s.len < WIN_CERTIFICATE__bCertificate then .ub "certificate_data:get_unchecked(8..)"
       else rawRef "certificate_data:get_unchecked(8..)" v.img (s.off + WIN_CERTIFICATE__bCertificate)
              (s.len - WIN_CERTIFICATE__bCertificate) 1) ∧
    WIN_CERTIFICATE__bCertificate = WIN_CERTIFICATE__size :=
  ⟨rfl, rfl, rfl, rfl, rfl, rfl, rfl⟩

/-- non-vacuity of the tie: a few of the constants by value -/
example : IMAGE_DEBUG_DIRECTORY__size = 28 ∧ IMAGE_TLS_DIRECTORY64__size = 40 ∧
    IMAGE_LOAD_CONFIG_DIRECTORY64__SEHandlerCount = 104 ∧ RUNTIME_FUNCTION__size = 12 ∧ UNWIND_INFO__UnwindCode = 4 ∧
    WIN_CERTIFICATE__wCertificateType = 6 ∧ IMAGE_DEBUG_CV_INFO_PDB70__Age = 20 := by decide

end Pelite.Dirs
