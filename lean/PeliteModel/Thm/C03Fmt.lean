import PeliteModel.Model.CStrFmt
/-!
C03 (formatting terminates) for the hand-written formatters of `util::CStr`.
Termination itself is the kernel-checked well-founded recursion of `debugLoop` / `displayLoop`
(every arm consumes at least one byte; the first example below is the regression input of /repo 0e1db5a);
stated here: the output length bounds.
-/
namespace Pelite.CStrFmt

theorem escX_length (b : Nat) : (escX b).length = 4 := rfl

theorem flatMap_escX_length (l : List Nat) : (l.flatMap escX).length = 4 * l.length := by
  simp only [List.length_flatMap, escX_length, List.map_const', List.sum_replicate_nat, Nat.mul_comm]

/-- work bound: the Debug rendering writes at most 4 bytes per input byte (plus the two quotes) -/
theorem C03_debug_length (bytes : List Nat) : (debug bytes).length ≤ 4 * bytes.length + 2 := by
  have h : ∀ l : List Nat, (debugLoop l).length ≤ 4 * l.length := by
    intro l
    fun_induction debugLoop l with
    | case1 => simp
    | case2 bs ih => simp only [List.length_append, List.length_cons, List.length_nil]; omega
    | case3 bs h0 ih => simp only [List.length_append, List.length_cons, List.length_nil]; omega
    | case4 bs h0 h1 ih => simp only [List.length_append, List.length_cons, List.length_nil]; omega
    | case5 bs h0 h1 h2 ih => simp only [List.length_append, List.length_cons, List.length_nil]; omega
    | case6 bs h0 h1 h2 h3 ih => simp only [List.length_append, List.length_cons, List.length_nil]; omega
    | case7 bs h0 h1 h2 h3 h4 ih => simp only [List.length_append, List.length_cons, List.length_nil]; omega
    | case8 b bs h0 h1 h2 h3 h4 h5 hp n ih =>
      have := splitAt_le dbgStopPrintable bs
      simp only [List.length_append, List.length_cons, List.length_take, List.length_drop] at *
      omega
    | case9 b bs h0 h1 h2 h3 h4 h5 hp n ih =>
      have := splitAt_le dbgStopEscape bs
      simp only [List.length_append, flatMap_escX_length, List.length_cons, List.length_take, List.length_drop] at *
      omega
  have := h bytes
  simp only [debug, List.length_append, List.length_cons, List.length_nil]
  omega

theorem C03_display_length (bytes : List Nat) : (display bytes).length ≤ 4 * bytes.length := by
  unfold display
  fun_induction displayLoop bytes with
  | case1 => simp
  | case2 b bs hb n ih =>
    have := splitAt_le (fun x => decide (x ≥ 0x80)) bs
    simp only [List.length_append, List.length_cons, List.length_take, List.length_drop] at *
    omega
  | case3 b bs hb n ih =>
    have := splitAt_le (fun x => decide (x < 0x80)) bs
    simp only [List.length_append, flatMap_escX_length, List.length_cons, List.length_take, List.length_drop] at *
    omega

/-- Non-vacuity / regression: the input on which the unfixed Debug loop hung (`b"\x7fa"`) and a mixed string. -/
example : debug [0x7f, 0x61] = [34, 92, 120, 55, 70, 97, 34] := by decide +kernel
example : display [0x41, 0xff, 0x42] = [0x41, 92, 120, 70, 70, 0x42] := by decide +kernel

end Pelite.CStrFmt
