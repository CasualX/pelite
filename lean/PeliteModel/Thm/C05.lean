import PeliteModel.Lemmas.Typed
/-!
C05 — VA-based, RVA-based and typed reads are consistent views of the same bytes.
`v` ranges over every constructed view (any format, file or mapped, any overridden base address);
addresses and lengths over all naturals in the ranges of their Rust types.
-/
namespace Pelite.Pe

-- the statements are fixed; `hw` of `C05_read_eq_slice*` makes `imageBase + r` a representable `Va`
-- but is not needed by the proof (the model computes on `Nat`)
set_option linter.unusedVariables false

/-- the view's VA space does not wrap: `image_base + SizeOfImage` is representable in `Va` -/
def View.NoWrap (v : View) : Prop := v.imageBase + sizeOfImage v.b < v.fmt.vaLimit

/-- rva → va → rva is the identity on (0, SizeOfImage). -/
theorem C05_rva_va_rva (v : View) (hw : v.NoWrap) (r : Nat) (h0 : 0 < r) (h1 : r < sizeOfImage v.b) :
    v.rvaToVa r = .ok (v.imageBase + r) ∧ v.vaToRva (v.imageBase + r) = .ok r := by
  unfold View.NoWrap at hw
  unfold View.rvaToVa View.vaToRva
  refine ⟨?_, ?_⟩
  · rw [if_neg (by omega), if_pos h1, if_pos (by omega)]
  · rw [if_neg (by omega), if_neg (by omega), Nat.add_sub_cancel_left]

/-- va → rva → va is the identity on (base, base + SizeOfImage). -/
theorem C05_va_rva_va (v : View) (hw : v.NoWrap) (va r : Nat) (h : v.vaToRva va = .ok r)
    (h0 : 0 < r) (h1 : r < sizeOfImage v.b) : v.rvaToVa r = .ok va := by
  unfold View.NoWrap at hw
  rw [View.vaToRva, ite_err_eq_ok, ite_err_eq_ok, Out.ok.injEq] at h
  obtain ⟨hz, hb, rfl⟩ := h
  have e : v.imageBase + (va - v.imageBase) = va := by omega
  rw [View.rvaToVa, if_neg (by omega), if_pos h1, e, if_pos (by omega)]

/-- When the VA space would wrap, `rva_to_va` reports `Overflow` (it neither panics nor wraps). -/
theorem C05_rva_to_va_total (v : View) (r : Nat) :
    (∃ va, v.rvaToVa r = .ok va ∧ va < v.fmt.vaLimit) ∨ (∃ e, v.rvaToVa r = .err e) := by
  unfold View.rvaToVa
  by_cases hz : r = 0
  · rw [if_pos hz]; exact .inr ⟨_, rfl⟩
  · rw [if_neg hz]
    by_cases h1 : r < sizeOfImage v.b
    · rw [if_pos h1]
      by_cases h2 : v.imageBase + r < v.fmt.vaLimit
      · rw [if_pos h2]; exact .inl ⟨_, rfl, h2⟩
      · rw [if_neg h2]; exact .inr ⟨_, rfl⟩
    · rw [if_neg h1]; exact .inr ⟨_, rfl⟩

/-- A mapped view slices the buffer at offset `rva`: exact success condition and result. -/
theorem C05_view_slice_iff (v : View) (hk : v.kind = .view) (r n a : Nat) (ref : Ref) :
    v.slice r n a = .ok ref ↔
      r ≠ 0 ∧ isPow2 a = true ∧ (v.img.base + r) % a = 0 ∧ r ≤ v.img.bytes.size ∧
      n ≤ v.img.bytes.size - r ∧ ref = ⟨r, v.img.bytes.size - r, a⟩ := by
  rw [View.slice_view hk]
  exact sliceSection_ok_iff ..

/-- Reading at virtual address B + r returns exactly what slicing at RVA r returns — same reference,
same error — for file views and mapped views.  When `a` is not a power of two both primitives panic
(the `debug_assert!` of `aligned_to`); the model's panic *site strings* differ (`read_*:aligned_to`
vs `slice_*:aligned_to`), a diagnostic that the property does not compare: hence the second disjunct.
Plain equality fails there only for that reason, e.g. on
`v = ⟨⟨Array.replicate 80 0 ++ #[2], 0⟩, .pe32, .view, 0⟩` (SizeOfImage = 2), `r = 1, n = 0, a = 0`
(`C05_read_eq_slice_sites_differ`). -/
theorem C05_read_eq_slice (v : View) (hw : v.NoWrap) (r n a : Nat) (h0 : 0 < r) (h1 : r < sizeOfImage v.b) :
    v.read (v.imageBase + r) n a = v.slice r n a ∨
    (∃ s1 s2, v.read (v.imageBase + r) n a = .panic s1 ∧ v.slice r n a = .panic s2) := by
  by_cases hp : isPow2 a = true
  · exact .inl ((v.read_vs_slice r n a h0 (by omega)).1 hp)
  · exact .inr ((v.read_vs_slice r n a h0 (by omega)).2 hp)

/-- For every alignment a Rust type can have (a power of two) the two answers are equal outright. -/
theorem C05_read_eq_slice_pow2 (v : View) (hw : v.NoWrap) (r n a : Nat) (h0 : 0 < r)
    (h1 : r < sizeOfImage v.b) (hp : isPow2 a = true) :
    v.read (v.imageBase + r) n a = v.slice r n a :=
  (v.read_vs_slice r n a h0 (by omega)).1 hp

/-- The instance on which the panic site strings differ (so plain equality without `isPow2 a` is false
of the model; both sides are panics). -/
theorem C05_read_eq_slice_sites_differ :
    let v : View := ⟨⟨Array.replicate 80 0 ++ #[2], 0⟩, .pe32, .view, 0⟩
    v.NoWrap ∧ sizeOfImage v.b = 2 ∧ v.read (v.imageBase + 1) 0 0 = .panic "read_section:aligned_to" ∧
    v.slice 1 0 0 = .panic "slice_section:aligned_to" := by
  intro v
  unfold View.NoWrap
  decide

/-- Whatever `slice` / `read` hand out lies inside the buffer, is aligned as requested and holds at
least the requested number of bytes (C01 obligation of the two primitives, every view kind). -/
theorem C05_at_sound (f : Fmt) (k : Kind) (img : Img) (v : View) (hv : fromBytes f k img = .ok v)
    (a : Addr) (min align : Nat) (ha : match a with | .rva r => r < 4294967296 | .va x => x < v.fmt.vaLimit)
    (ref : Ref) (h : v.at a min align = .ok ref) :
    RefOK v.img ref ∧ min ≤ ref.len ∧ ref.align = align := by
  obtain ⟨-, rfl⟩ := (fromBytes_ok_iff _ _ _ _).1 hv
  exact View.at_sound _ a min align ref h

/-- A zero address always yields the null error, for every typed read. -/
theorem C05_null (v : View) (min align : Nat) :
    v.at (.rva 0) min align = .err .null ∧ v.at (.va 0) min align = .err .null :=
  ⟨at_zero_null v (.rva 0) rfl min align, at_zero_null v (.va 0) rfl min align⟩

/-- Aligned struct read: the reference is the first `size` bytes of the untyped slice. -/
theorem C05_derva (v : View) (a : Addr) (size align : Nat) (ref : Ref) :
    v.derva a size align = .ok ref ↔
      ∃ s, v.at a size align = .ok s ∧ ref = ⟨s.off, size, align⟩ := by
  unfold View.derva
  cases h : v.at a size align <;> simp [eq_comm]

/-- Unaligned copy: the little-endian value of the first `size` bytes of the untyped slice. -/
theorem C05_derva_copy (v : View) (a : Addr) (size : Nat) (x : Nat) :
    v.dervaCopy a size = .ok x ↔ ∃ s, v.at a size 1 = .ok s ∧ x = leN v.b s.off size := by
  unfold View.dervaCopy
  cases h : v.at a size 1 <;> simp [eq_comm]

/-- Copy-into: exactly the first `len` bytes of the untyped slice, or an error (never fewer). -/
theorem C05_derva_into (v : View) (a : Addr) (len : Nat) (out : List UInt8) :
    v.dervaInto a len = .ok out ↔
      ∃ s, v.at a len 1 = .ok s ∧ out.length = len ∧ ∀ i, i < len → out[i]? = some (v.b.getD (s.off + i) 0) := by
  unfold View.dervaInto
  cases h : v.at a len 1 with
  | ok r => simp only [Out.ok.injEq, exists_eq_left']; exact map_range_eq_iff _ _ _
  | _ => simp

/-- Fixed-length array: `len` elements, only if all of them are inside the slice. -/
theorem C05_derva_slice (v : View) (a : Addr) (size align len : Nat) (ref : Ref) :
    v.dervaSlice a size align len = .ok ref ↔
      size * len < 18446744073709551616 ∧ ∃ s, v.at a (size * len) align = .ok s ∧ ref = ⟨s.off, size * len, align⟩ := by
  rw [dervaSlice_unfold]
  by_cases ho : size * len ≥ 18446744073709551616
  · rw [if_pos ho]
    exact ⟨nofun, fun h => by omega⟩
  · rw [if_neg ho]
    cases h : v.at a (size * len) align <;> simp [eq_comm] <;> omega

/-- "A zero address always yields the null error": every typed read, whatever the element size, length,
sentinel or alignment (for the fixed-length array this needed a repair of the Rust code: the length
overflow check used to come first). -/
theorem C05_null_typed (v : View) (size align len sentinel : Nat) :
    (v.derva (.rva 0) size align = .err .null ∧ v.derva (.va 0) size align = .err .null) ∧
    (v.dervaCopy (.rva 0) size = .err .null ∧ v.dervaCopy (.va 0) size = .err .null) ∧
    (v.dervaInto (.rva 0) len = .err .null ∧ v.dervaInto (.va 0) len = .err .null) ∧
    (v.dervaSlice (.rva 0) size align len = .err .null ∧ v.dervaSlice (.va 0) size align len = .err .null) ∧
    (v.dervaSliceS (.rva 0) size align sentinel = .err .null ∧ v.dervaSliceS (.va 0) size align sentinel = .err .null) ∧
    (v.dervaCStr (.rva 0) = .err .null ∧ v.dervaCStr (.va 0) = .err .null) ∧
    (v.dervaWStr (.rva 0) = .err .null ∧ v.dervaWStr (.va 0) = .err .null) := by
  have h1 := fun m a => (C05_null v m a).1
  have h2 := fun m a => (C05_null v m a).2
  simp [View.derva, View.dervaCopy, View.dervaInto, View.dervaSlice, View.dervaSliceS, View.dervaSliceF,
    View.dervaCStr, View.dervaWStr, Addr.isZero, h1, h2]

/-! ### predicate-terminated arrays; the sentinel read is the instance `|e| *e == sentinel` -/

/-- **Exact characterisation, any callable.**  With `s` the untyped slice (`slice(rva, 0, align)` /
`read(va, 0, align)`): `Ok(ref)` iff `ref` is the `n` elements before the first call that answers `true`,
and element `n` — the one that call looks at — lies inside `s`. -/
theorem C05_derva_slice_fi_iff (v : View) (a : Addr) (size align : Nat) (stop : Nat → Nat → Bool)
    (hs : 1 ≤ size) (s : Ref) (hat : v.at a 0 align = .ok s) (ref : Ref) :
    v.dervaSliceFI a size align stop = .ok ref ↔
      ∃ n, ref = ⟨s.off, n * size, align⟩ ∧ (n + 1) * size ≤ s.len ∧
        stop n (leN v.b (s.off + n * size) size) = true ∧
        ∀ j, j < n → stop j (leN v.b (s.off + j * size) size) = false := by
  rw [dervaSliceFI_eq v a align stop hs, hat, Out.bind, ofOption_bind_eq_ok]
  refine exists_congr fun n => ?_
  rw [List.find?_range_eq_some, Out.ok.injEq, List.mem_range, Nat.lt_iff_add_one_le,
    Nat.le_div_iff_mul_le (by omega)]
  simp only [Bool.not_eq_eq_eq_not, Bool.not_true]
  constructor
  · rintro ⟨⟨h1, h2, h3⟩, rfl⟩; exact ⟨rfl, h2, h1, h3⟩
  · rintro ⟨rfl, h1, h2, h3⟩; exact ⟨⟨h2, h1, h3⟩, rfl⟩

/-- **Failure direction.**  `Bounds` iff no call on a whole element inside the slice answers `true` —
never a truncated table, never a read beyond the slice. -/
theorem C05_derva_slice_fi_bounds_iff (v : View) (a : Addr) (size align : Nat) (stop : Nat → Nat → Bool)
    (hs : 1 ≤ size) (s : Ref) (hat : v.at a 0 align = .ok s) :
    v.dervaSliceFI a size align stop = .err .bounds ↔
      ∀ j, (j + 1) * size ≤ s.len → stop j (leN v.b (s.off + j * size) size) = false := by
  rw [dervaSliceFI_eq v a align stop hs, hat, Out.bind]
  cases h : (List.range (s.len / size)).find? fun i => stop i (leN v.b (s.off + i * size) size) with
  | none =>
    simp only [List.find?_eq_none, List.mem_range, Nat.lt_iff_add_one_le, Nat.le_div_iff_mul_le (show 0 < size by omega),
      Bool.not_eq_true] at h
    exact iff_of_true rfl h
  | some n =>
    obtain ⟨h1, h2, -⟩ := List.find?_range_eq_some.1 h
    rw [List.mem_range, Nat.lt_iff_add_one_le, Nat.le_div_iff_mul_le (by omega)] at h2
    exact iff_of_false (fun h => by cases h) fun hn => by rw [hn n h2] at h1; cases h1

/-- **Totality of the description**: an `at` failure is the answer; otherwise the answer is `Ok` (described
by `C05_derva_slice_fi_iff`) or `Bounds` (described by `C05_derva_slice_fi_bounds_iff`) — nothing else,
in particular the loop terminates. -/
theorem C05_derva_slice_fi_total (v : View) (a : Addr) (size align : Nat) (stop : Nat → Nat → Bool)
    (hs : 1 ≤ size) :
    (∀ e, v.at a 0 align = .err e → v.dervaSliceFI a size align stop = .err e) ∧
    (∀ s, v.at a 0 align = .ok s →
      (∃ ref, v.dervaSliceFI a size align stop = .ok ref) ∨ v.dervaSliceFI a size align stop = .err .bounds) := by
  rw [dervaSliceFI_eq v a align stop hs]
  refine ⟨fun e he => by rw [he]; rfl, fun s hat => ?_⟩
  rw [hat, Out.bind]
  cases (List.range (s.len / size)).find? fun i => stop i (leN v.b (s.off + i * size) size)
  · exact .inr rfl
  · exact .inl ⟨_, rfl⟩

/-- Sentinel-terminated array: the elements before the FIRST element equal to the sentinel, and the
sentinel itself lies inside the slice; if the slice ends first the read fails with `Bounds` — never a
truncated table, never an over-read; the loop terminates (no `diverge`). -/
theorem C05_derva_slice_s (v : View) (a : Addr) (size align sentinel : Nat) (hs : 1 ≤ size) (s : Ref)
    (hat : v.at a 0 align = .ok s) :
    (∀ ref, v.dervaSliceS a size align sentinel = .ok ref →
        ∃ n, ref = ⟨s.off, n * size, align⟩ ∧ (n + 1) * size ≤ s.len ∧
          leN v.b (s.off + n * size) size = sentinel ∧
          ∀ j, j < n → leN v.b (s.off + j * size) size ≠ sentinel) ∧
    ((∀ j, (j + 1) * size ≤ s.len → leN v.b (s.off + j * size) size ≠ sentinel) →
        v.dervaSliceS a size align sentinel = .err .bounds) ∧
    v.dervaSliceS a size align sentinel ≠ .diverge := by
  rw [v.dervaSliceS_eq_I]
  refine ⟨fun ref h => ?_, fun hns => ?_, fun h => ?_⟩
  · simpa using (C05_derva_slice_fi_iff v a size align _ hs s hat ref).1 h
  · exact (C05_derva_slice_fi_bounds_iff v a size align _ hs s hat).2 (by simpa using hns)
  · rcases (C05_derva_slice_fi_total v a size align _ hs).2 s hat with ⟨r, hr⟩ | hr <;> rw [hr] at h <;> cases h

/-- Completeness of the sentinel read: if the `n`-th element
of the slice is the first one equal to the sentinel and lies inside the slice, the read succeeds with
exactly the `n` elements before it. -/
theorem C05_derva_slice_s_complete (v : View) (a : Addr) (size align sentinel : Nat) (hs : 1 ≤ size) (s : Ref)
    (hat : v.at a 0 align = .ok s) (n : Nat) (hin : (n + 1) * size ≤ s.len)
    (hsen : leN v.b (s.off + n * size) size = sentinel)
    (hbefore : ∀ j, j < n → leN v.b (s.off + j * size) size ≠ sentinel) :
    v.dervaSliceS a size align sentinel = .ok ⟨s.off, n * size, align⟩ := by
  rw [v.dervaSliceS_eq_I]
  exact (C05_derva_slice_fi_iff v a size align _ hs s hat _).2
    ⟨n, rfl, hin, by simpa using hsen, fun j hj => by simpa using hbefore j hj⟩

/-- C string: up to and including the first NUL of the slice; no NUL in the slice → `Encoding`. -/
theorem C05_derva_cstr (v : View) (a : Addr) (s : Ref) (hat : v.at a 0 1 = .ok s) :
    (∀ ref, v.dervaCStr a = .ok ref →
        ref.off = s.off ∧ 1 ≤ ref.len ∧ ref.len ≤ s.len ∧ byteAt v.b (s.off + ref.len - 1) = 0 ∧
        ∀ j, j + 1 < ref.len → byteAt v.b (s.off + j) ≠ 0) ∧
    ((∀ j, j < s.len → byteAt v.b (s.off + j) ≠ 0) → v.dervaCStr a = .err .encoding) := by
  rw [dervaCStr_eq_bind, hat, Out.bind]
  refine ⟨fun ref h => ?_, fun hnn => by rw [cstrFromBytes_eq_none.2 hnn]; rfl⟩
  obtain ⟨n, rfl, h1, h2, h3⟩ := cstrFromBytes_eq_some.1 (ofOption_eq_ok.1 h)
  exact ⟨rfl, Nat.le_add_left 1 n, h1, h2, fun j hj => h3 j (Nat.lt_of_add_lt_add_right hj)⟩

/-- Length-prefixed wide string (type not exported by the crate; stated on the model of
`WideStr::from_bytes`): the length word plus that many words, only if they fit. -/
theorem C05_wstr (b : Bytes) (off len : Nat) (ref : Ref) :
    wstrFromBytes b off len = some ref ↔
      (le16 b off + 1) * 2 ≤ len ∧ ref = ⟨off, (le16 b off + 1) * 2, 2⟩ := by
  unfold wstrFromBytes
  simp only
  by_cases hc : (le16 b off + 1) * 2 > len
  · rw [if_pos hc]
    constructor
    · intro h; cases h
    · intro h; omega
  · rw [if_neg hc]
    constructor
    · intro h; cases h; exact ⟨by omega, rfl⟩
    · intro h; rw [h.2]

/-- Prefix monotonicity: a C-string / sentinel scan that succeeds inside a window returns the same
result inside every longer window starting at the same place (used by C06: file → mapped view). -/
theorem C05_cstr_prefix_mono (b : Bytes) (off len len' : Nat) (hl : len ≤ len') (ref : Ref)
    (h : cstrFromBytes b off len = some ref) : cstrFromBytes b off len' = some ref := by
  obtain ⟨n, rfl, h2, h3⟩ := cstrFromBytes_eq_some.1 h
  exact cstrFromBytes_eq_some.2 ⟨n, rfl, by omega, h3⟩

theorem C05_sentinel_prefix_mono (b : Bytes) (off blen blen' size : Nat) (stop : Nat → Bool) (hl : blen ≤ blen')
    (fuel fuel' n : Nat) (hf : fuel ≤ fuel') (h : sliceFLoop b off blen size stop fuel 0 = .ok n) :
    sliceFLoop b off blen' size stop fuel' 0 = .ok n := by
  exact sliceFLoop_mono hl fuel fuel' 0 n hf h

/-! ### non-vacuity: a minimal accepted PE32 image (200 bytes, no sections, mapped), data after the headers -/

/-- DOS header, `e_lfanew = 64`, NT headers (PE32, ImageBase 0x400000, SizeOfImage 200, SizeOfHeaders 184),
then `"ab\0"` at 184 and the u16 table `1, 2, 0xffff` at 188 -/
def demoImg : Img := ⟨
    #[77, 90, 0, 0, 0, 0, 0, 0, 0, 0, 0, 0, 0, 0, 0, 0, 0, 0, 0, 0, 0, 0, 0, 0, 0, 0, 0, 0, 0, 0, 0, 0,
    0, 0, 0, 0, 0, 0, 0, 0, 0, 0, 0, 0, 0, 0, 0, 0, 0, 0, 0, 0, 0, 0, 0, 0, 0, 0, 0, 0, 64, 0, 0, 0, 80,
    69, 0, 0, 0, 0, 0, 0, 0, 0, 0, 0, 0, 0, 0, 0, 0, 0, 0, 0, 96, 0, 0, 0, 11, 1, 0, 0, 0, 0, 0, 0, 0,
    0, 0, 0, 0, 0, 0, 0, 0, 0, 0, 0, 0, 0, 0, 0, 0, 0, 0, 0, 0, 0, 64, 0, 0, 0, 0, 0, 0, 0, 0, 0, 0, 0,
    0, 0, 0, 0, 0, 0, 0, 0, 0, 0, 0, 0, 0, 0, 200, 0, 0, 0, 184, 0, 0, 0, 0, 0, 0, 0, 0, 0, 0, 0, 0, 0,
    0, 0, 0, 0, 0, 0, 0, 0, 0, 0, 0, 0, 0, 0, 0, 0, 0, 0, 0, 0, 0, 0, 97, 98, 0, 0, 1, 0, 2, 0, 255,
    255, 0, 0, 0, 0, 0, 0], 0⟩

def demoView : View := ⟨demoImg, .pe32, .view, 0x400000⟩

theorem demoView_ok : fromBytes .pe32 .view demoImg = .ok demoView :=
  fromBytes_ok_and (P := True) (by simp only [Accept, hdr_toNat, le16_toNat, le32_toNat]; decide +kernel) |>.1

example : fromBytes .pe32 .view demoImg = .ok demoView ∧ demoView.NoWrap ∧ sizeOfImage demoView.b = 200 ∧
    demoView.rvaToVa 184 = .ok 0x4000b8 ∧ demoView.vaToRva 0x4000b8 = .ok 184 ∧
    demoView.at (.rva 184) 0 1 = .ok ⟨184, 16, 1⟩ ∧ demoView.at (.va 0x4000b8) 0 1 = .ok ⟨184, 16, 1⟩ ∧
    demoView.dervaCStr (.rva 184) = .ok ⟨184, 3, 1⟩ ∧
    demoView.at (.rva 188) 0 2 = .ok ⟨188, 12, 2⟩ ∧
    demoView.dervaSliceS (.rva 188) 2 2 0xffff = .ok ⟨188, 4, 2⟩ ∧
    demoView.dervaSliceS (.va 0x4000bc) 2 2 0x1234 = .err .bounds ∧
    demoView.dervaCopy (.rva 190) 2 = .ok 2 ∧
    demoView.derva (.rva 189) 2 2 = .err .misaligned := by
  refine fromBytes_ok_and ?_
  unfold View.NoWrap
  simp only [View.dervaSliceS_eq_I, dervaSliceFI_eq _ _ _ _ (show 1 ≤ 2 by decide), leN_toNat]
  decide +kernel

/-! ### endpoint asymmetry of the two address conversions -/

/-- `va_to_rva` accepts the one-past-the-end address `image_base + SizeOfImage` (its test is
`va - image_base > size_of_image`, pe.rs:213) while `rva_to_va` rejects the rva `SizeOfImage` (its test
is `rva < size_of_image`, pe.rs:187): the round trip of C05 holds on `(0, SizeOfImage)` only, and the
two functions disagree at exactly one point.  Stated as the model and the Rust code behave. -/
theorem C05_va_rva_endpoint (v : View) (h : 0 < sizeOfImage v.b) :
    v.vaToRva (v.imageBase + sizeOfImage v.b) = .ok (sizeOfImage v.b) ∧
    v.rvaToVa (sizeOfImage v.b) = .err .bounds ∧
    (∀ d, 0 < d → v.vaToRva (v.imageBase + sizeOfImage v.b + d) = .err .bounds) ∧
    (∀ d, v.rvaToVa (sizeOfImage v.b + d) = .err .bounds) := by
  unfold View.vaToRva View.rvaToVa
  refine ⟨?_, ?_, ?_, ?_⟩
  · rw [if_neg (by omega), if_neg (by omega), Nat.add_sub_cancel_left]
  · rw [if_neg (by omega), if_neg (by omega)]
  · intro d hd
    rw [if_neg (by omega), if_pos (by omega)]
  · intro d
    rw [if_neg (by omega), if_neg (by omega)]

/-- the endpoint on the 200-byte PE32 view and on the PE32+ file (answers confirmed with the harness:
`v2r f64 0x140000120` = `ok 288`, `r2v f64 288` = `err Bounds`) -/
example : demoView.vaToRva (0x400000 + 200) = .ok 200 ∧ demoView.rvaToVa 200 = .err .bounds ∧
    demoView.rvaToVa 199 = .ok (0x400000 + 199) ∧
    demo64File.vaToRva (0x140000000 + 288) = .ok 288 ∧ demo64File.rvaToVa 288 = .err .bounds := by
  decide +kernel

/-! ### the wide string read itself -/

/-- Length-prefixed wide string through `derva_string::<WideStr>` / `deref_string::<WideStr>`: with
`s` the untyped slice (`slice(rva, 2, 2)` / `read(va, 2, 2)`) and `n` its first (length) word, the
result is the first `2 + 2 * n` bytes of `s` (2-aligned) exactly when they fit into `s`; when they do
not fit the answer is `Encoding` (`T::from_bytes(bytes).ok_or(Error::Encoding)`, pe.rs:383) — never a
truncated string.  (When fewer than two bytes are available `slice` itself fails: `C05_derva_wstr_err`.) -/
theorem C05_derva_wstr (v : View) (a : Addr) (s : Ref) (hat : v.at a 2 2 = .ok s) :
    (∀ ref, v.dervaWStr a = .ok ref ↔
        2 + 2 * le16 v.b s.off ≤ s.len ∧ ref = ⟨s.off, 2 + 2 * le16 v.b s.off, 2⟩) ∧
    (s.len < 2 + 2 * le16 v.b s.off → v.dervaWStr a = .err .encoding) := by
  have e : (le16 v.b s.off + 1) * 2 = 2 + 2 * le16 v.b s.off := by omega
  rw [dervaWStr_eq_bind, hat, Out.bind, ← e]
  refine ⟨fun ref => by rw [ofOption_eq_ok, C05_wstr], fun h => ?_⟩
  cases hw : wstrFromBytes v.b s.off s.len with
  | none => rfl
  | some r => exact absurd ((C05_wstr ..).1 hw).1 (by omega)

/-- whatever error the untyped primitive reports (Null, Misaligned, Bounds, ZeroFill, …) is the answer -/
theorem C05_derva_wstr_err (v : View) (a : Addr) (e : Err) (hat : v.at a 2 2 = .err e) :
    v.dervaWStr a = .err e := by
  unfold View.dervaWStr
  rw [hat]

/-- on the PE32+ file: the wide string `2, 'a', 'b'` at rva 266; a length word of 7 (rva 260) does not
fit the 12 bytes left → `Encoding`; an odd rva → `Misaligned`; the zero-filled tail → `ZeroFill` -/
example : demo64File.at (.rva 266) 2 2 = .ok ⟨250, 6, 2⟩ ∧ demo64File.dervaWStr (.rva 266) = .ok ⟨250, 6, 2⟩ ∧
    demo64File.dervaWStr (.va 0x14000010a) = .ok ⟨250, 6, 2⟩ ∧
    demo64File.dervaWStr (.rva 260) = .err .encoding ∧ demo64File.dervaWStr (.rva 267) = .err .misaligned ∧
    demo64File.dervaWStr (.rva 272) = .err .zeroFill := by
  simp only [dervaWStr_eq_bind, demo64File_at_rva, demo64File_at_va]
  decide +kernel

/-! ### `leN` against `leValue` -/

/-- `leN` — the value the model hands to the sentinel predicate and returns from `derva_copy` — is the
little-endian value of the element exactly for the sizes of the integer types; for every other size
it is 0 (`leN_other`), so `C05_derva_copy` / `C05_derva_slice_s` speak about the element VALUE only for
sizes 1, 2, 4, 8 (the driver never evaluates it for the struct element types).  The two theorems
below restate them against the size-independent specification `leValue`. -/
theorem C05_leN_is_le_value (b : Bytes) (off size : Nat) :
    (size = 1 ∨ size = 2 ∨ size = 4 ∨ size = 8 → leN b off size = leValue b off size) ∧
    (¬ (size = 1 ∨ size = 2 ∨ size = 4 ∨ size = 8) → leN b off size = 0) :=
  ⟨leN_eq_leValue b off size, leN_other b off size⟩

/-- the limitation is real: three bytes `01 02 03` -/
example : leN #[1, 2, 3] 0 3 = 0 ∧ leValue #[1, 2, 3] 0 3 = 0x030201 ∧ leN #[1, 2, 3] 0 2 = 0x0201 ∧
    leValue #[1, 2, 3] 0 2 = 0x0201 := by decide

/-- Unaligned copy of an integer: the little-endian value of the first `size` bytes of the untyped slice. -/
theorem C05_derva_copy_le (v : View) (a : Addr) (size : Nat) (hs : size = 1 ∨ size = 2 ∨ size = 4 ∨ size = 8)
    (x : Nat) :
    v.dervaCopy a size = .ok x ↔ ∃ s, v.at a size 1 = .ok s ∧ x = leValue v.b s.off size := by
  rw [C05_derva_copy]
  simp only [leN_eq_leValue _ _ _ hs]

/-- Sentinel-terminated array of integers, against `leValue`; with the completeness direction: the
elements before the first sentinel inside the slice ARE returned. -/
theorem C05_derva_slice_s_le (v : View) (a : Addr) (size align sentinel : Nat)
    (hs : size = 1 ∨ size = 2 ∨ size = 4 ∨ size = 8) (s : Ref) (hat : v.at a 0 align = .ok s) :
    (∀ ref, v.dervaSliceS a size align sentinel = .ok ref →
        ∃ n, ref = ⟨s.off, n * size, align⟩ ∧ (n + 1) * size ≤ s.len ∧
          leValue v.b (s.off + n * size) size = sentinel ∧
          ∀ j, j < n → leValue v.b (s.off + j * size) size ≠ sentinel) ∧
    (∀ n, (n + 1) * size ≤ s.len → leValue v.b (s.off + n * size) size = sentinel →
        (∀ j, j < n → leValue v.b (s.off + j * size) size ≠ sentinel) →
        v.dervaSliceS a size align sentinel = .ok ⟨s.off, n * size, align⟩) ∧
    ((∀ j, (j + 1) * size ≤ s.len → leValue v.b (s.off + j * size) size ≠ sentinel) →
        v.dervaSliceS a size align sentinel = .err .bounds) := by
  have h1 : 1 ≤ size := by omega
  simp only [← leN_eq_leValue _ _ _ hs]
  obtain ⟨hA, hB, -⟩ := C05_derva_slice_s v a size align sentinel h1 s hat
  exact ⟨hA, C05_derva_slice_s_complete v a size align sentinel h1 s hat, hB⟩

/-! ### `NoWrap` — instances for both formats and both kinds, and what fails without it -/

/-- the PE32+ image of `demo64File` handed to `PeView::from_bytes` (the constructors do not look at the
section contents: the same bytes are accepted as a mapped image of 256 of its declared 288 bytes) -/
def demo64View : View := ⟨demo64Img, .pe64, .view, 0x140000000⟩
/-- `twoSecPe32` (Lemmas/PeHdr.lean) as a PE32 file view -/
def twoSec32File : View := ⟨⟨twoSecPe32, 0⟩, .pe32, .file, 0x400000⟩

/-- hypotheses of `C05_rva_va_rva`, `C05_va_rva_va`, `C05_read_eq_slice(_pow2)` on a PE32+ FILE, a PE32+
mapped VIEW and a PE32 FILE (the PE32 view is the example above), with the identities they give -/
example :
    (fromBytes .pe64 .file demo64Img = .ok demo64File ∧ demo64File.NoWrap ∧ 260 < sizeOfImage demo64File.b ∧
      demo64File.rvaToVa 260 = .ok 0x140000104 ∧ demo64File.vaToRva 0x140000104 = .ok 260 ∧
      demo64File.read 0x140000104 2 2 = .ok ⟨244, 12, 2⟩ ∧ demo64File.slice 260 2 2 = .ok ⟨244, 12, 2⟩) ∧
    (fromBytes .pe64 .view demo64Img = .ok demo64View ∧ demo64View.NoWrap ∧ 240 < sizeOfImage demo64View.b ∧
      demo64View.rvaToVa 240 = .ok 0x1400000f0 ∧ demo64View.vaToRva 0x1400000f0 = .ok 240 ∧
      demo64View.read 0x1400000f0 8 8 = .ok ⟨240, 16, 8⟩ ∧ demo64View.slice 240 8 8 = .ok ⟨240, 16, 8⟩) ∧
    (fromBytes .pe32 .file ⟨twoSecPe32, 0⟩ = .ok twoSec32File ∧ twoSec32File.NoWrap ∧
      288 < sizeOfImage twoSec32File.b ∧
      twoSec32File.rvaToVa 288 = .ok 0x400120 ∧ twoSec32File.vaToRva 0x400120 = .ok 288 ∧
      twoSec32File.read 0x400120 2 2 = .ok ⟨284, 4, 2⟩ ∧ twoSec32File.slice 288 2 2 = .ok ⟨284, 4, 2⟩) := by
  have hs : twoSec32File.secs = _ := twoSecPe32_hdr.secs
  have hi : sizeOfImage twoSec32File.b = 296 := twoSecPe32_hdr.soi
  refine ⟨⟨demo64File_ok, ?_⟩, ⟨fromBytes_ok_of demo64Img_accept.1 demo64Img_accept.2, ?_⟩,
    fromBytes_ok_and ⟨twoSecPe32_hdr.accept, ?_⟩⟩ <;> unfold View.NoWrap
  · simp only [View.rvaToVa, View.vaToRva, View.read, View.slice, demo64File_layout.eqs]
    decide +kernel
  · decide +kernel
  · simp only [View.rvaToVa, View.vaToRva, View.read, View.slice, hs, hi]
    decide +kernel

/-- **`NoWrap` is necessary** (PE32).  The PE32 view relocated with `set_base_address(0xffffff80)`:
`base + SizeOfImage` exceeds the 32-bit address space.  For the rva 184 (inside the image, beyond the wrap)
`rva_to_va` answers `Overflow` (`checked_add`), the wrapped address `base + 184 mod 2^32 = 0x38` is `Bounds`
for `va_to_rva` and for `read`, while `slice 184` succeeds: the conclusions of `C05_rva_va_rva` and
`C05_read_eq_slice` fail.  Below the wrap (rva 100) they still hold.  The real code answers the same
(`r2v v32@0xffffff80 184` = `err Overflow`, `read v32@0xffffff80 0x38 0 1` = `err Bounds`). -/
theorem C05_rva_va_rva_wrap_false :
    let v := demoView.setBase 0xffffff80
    ¬ v.NoWrap ∧ 0 < 184 ∧ 184 < sizeOfImage v.b ∧
    v.rvaToVa 184 = .err .overflow ∧ v.vaToRva 0x38 = .err .bounds ∧
    v.slice 184 0 1 = .ok ⟨184, 16, 1⟩ ∧ v.read 0x38 0 1 = .err .bounds ∧
    v.rvaToVa 100 = .ok 0xffffffe4 ∧ v.vaToRva 0xffffffe4 = .ok 100 ∧
    v.read 0xffffffe4 0 1 = v.slice 100 0 1 := by
  intro v
  unfold View.NoWrap
  decide +kernel

/-- the same for PE32+: `set_base_address(0xffffffffffffff00)` on the PE32+ view; rva 256 sits exactly at
the wrap (`base + 256 = 2^64`) -/
theorem C05_rva_va_rva_wrap_false_64 :
    let v := demo64View.setBase 0xffffffffffffff00
    ¬ v.NoWrap ∧ 0 < 256 ∧ 256 < sizeOfImage v.b ∧
    v.rvaToVa 256 = .err .overflow ∧ v.rvaToVa 255 = .ok 0xffffffffffffffff ∧
    v.vaToRva 0xffffffffffffffff = .ok 255 := by
  intro v
  unfold View.NoWrap
  decide +kernel

end Pelite.Pe
