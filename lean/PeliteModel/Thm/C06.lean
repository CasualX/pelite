import PeliteModel.Lemmas.Convert
import PeliteModel.Thm.C04
/-!
C06 — file and mapped representations of one image are interchangeable.
Both conversions are a fold (`cfold`) of one section-copy step over `initVec`: `Lemmas/Convert.lean`.
-/
namespace Pelite.Pe

-- some statements carry hypotheses (`hi`, `hr`) the proofs do not need
set_option linter.unusedVariables false

/-- Shape, for EVERY accepted file (no layout assumption): the converted buffer has SizeOfImage bytes. -/
theorem C06_to_view_size (f : Fmt) (img : Img) (v : View) (hv : fromBytes f .file img = .ok v) :
    v.toView.size = sizeOfImage v.b := by
  obtain ⟨h1, h2⟩ := accept_soh hv
  rw [toView_eq, cfold_size, initVec_size _ _ _ h2 h1]

/-- Shape of the reverse conversion for every accepted mapped image. -/
theorem C06_to_file_size (f : Fmt) (img : Img) (v : View) (hv : fromBytes f .view img = .ok v) :
    v.toFile.size = v.fileSize := by
  obtain ⟨h1, h2⟩ := accept_soh hv
  rw [toFile_eq, cfold_size, initVec_size _ _ _ (soh_le_fileSize hv) h1]

/-- The headers appear unchanged at offset 0. -/
theorem C06_to_view_headers (f : Fmt) (img : Img) (v : View) (hv : fromBytes f .file img = .ok v)
    (hl : Loadable v) (i : Nat) (hi : i < sizeOfHeaders v.b) :
    byteAt v.toView i = byteAt v.b i := by
  obtain ⟨h1, h2⟩ := accept_soh hv
  rw [toView_eq, cfold_out _ _ _ _ _ _ endExact_le, initVec_hdr _ _ _ h2 h1 _ hi]
  intro s hs
  have := (hl.1 s hs).2.2.2.2
  omega

/-- Each section's stored bytes appear at their virtual addresses. -/
theorem C06_to_view_section (f : Fmt) (img : Img) (v : View) (hv : fromBytes f .file img = .ok v)
    (hl : Loadable v) (s : Sec) (hs : s ∈ v.secs) (j : Nat) (hj : j < min s.vs s.rs) :
    byteAt v.toView (s.va + j) = byteAt v.b (s.prd + j) := by
  obtain ⟨h1, h2⟩ := accept_soh hv
  obtain ⟨a1, a2, a3, a4, a5⟩ := hl.1 s hs
  rw [toView_eq]
  -- `to_view` takes the destination range as is: all of it must fit the vector
  apply cfold_in endExact v.b Sec.va Sec.vs Sec.prd Sec.rs endExact_le v.secs _ s hs hl.2 a1 a2 a4
  · rw [initVec_size _ _ _ h2 h1]
    exact a3
  · exact Nat.le_add_right _ _
  · show j < min (s.va + s.vs - s.va) s.rs
    omega

/-- The virtual-only tail of every section and every byte outside all sections is zero. -/
theorem C06_to_view_zero (f : Fmt) (img : Img) (v : View) (hv : fromBytes f .file img = .ok v)
    (hl : Loadable v) (i : Nat) (hi : i < sizeOfImage v.b) (hh : sizeOfHeaders v.b ≤ i)
    (hout : ∀ s ∈ v.secs, ¬ (s.va ≤ i ∧ i < s.va + min s.vs s.rs)) :
    byteAt v.toView i = 0 := by
  obtain ⟨h1, h2⟩ := accept_soh hv
  rw [toView_eq, cfold_out _ _ _ _ _ _ endExact_le, initVec_zero _ _ _ h2 h1 _ hh]
  intro s hs
  have := hout s hs
  omega

/-- For every RVA whose byte is stored in the file and mapped, the file view and the view over the
converted buffer denote the same byte: `file.slice(rva)` starts at the byte that sits at offset
`rva` of the converted buffer. -/
theorem C06_same_byte (f : Fmt) (img : Img) (v : View) (hv : fromBytes f .file img = .ok v)
    (hl : Loadable v) (rva : Nat) (hr : rva < 4294967296) (r : Ref)
    (hslice : v.slice rva 1 1 = .ok r)
    (hmapped : ∀ s, firstV v.secs rva = some s → rva - s.va < s.vs) :
    byteAt v.toView rva = byteAt v.b r.off := by
  have hk : v.kind = .file := by
    rw [((fromBytes_ok_iff _ _ _ _).1 hv).2]
  have hsl : sliceFile v.img v.secs rva 1 1 = .ok r := by
    unfold View.slice at hslice
    rw [hk] at hslice
    exact hslice
  obtain ⟨_, _, _, s, hf, _, _, h3, h4, _, rfl⟩ :=
    (C04_slice_file_ok_iff v.img v.secs (sections_in_range v.b) rva 1 1 hr r).1 hsl
  obtain ⟨hmem, hc⟩ := firstV_some hf
  have hva := (containsRva_nowrap (sections_in_range v.b s hmem) hc).1
  have hm := hmapped s hf
  have := C06_to_view_section f img v hv hl s hmem (rva - s.va) (by omega)
  have e : s.va + (rva - s.va) = rva := by omega
  rw [e] at this
  exact this

/-- Non-vacuity: a concrete PE32 file (`tinyPe`, one section of two stored and mapped bytes) is
accepted, is `Loadable`, and `slice(224, 1, 1)` succeeds on it with the byte mapped — all
hypotheses of the theorems above hold together. -/
example : fromBytes .pe32 .file ⟨tinyPe 2 226, 0⟩ = .ok (tinyView 2 226) ∧ Loadable (tinyView 2 226) ∧
    (tinyView 2 226).secs = [⟨0, 0, 2, 224, 2, 224, 0⟩] ∧
    (tinyView 2 226).slice 224 1 1 = .ok ⟨224, 2, 1⟩ ∧
    firstV (tinyView 2 226).secs 224 = some ⟨0, 0, 2, 224, 2, 224, 0⟩ := by
  have he := tinyView_2_226.eqs
  refine ⟨tinyView_ok _ _ tinyView_2_226.accept, ?_⟩
  have g3' := tinyView_2_226.size
  unfold View.b at g3'
  simp only [Loadable, View.slice, sliceFile, he, g3', show (tinyView 2 226).img.base = 0 from rfl]
  decide

/-- **`hmapped` is necessary: stored-but-unmapped bytes are NOT "the same through both views".**
The file `tinyPe 1 226` has a section with `SizeOfRawData = 2 > VirtualSize = 1`: the byte at rva 225 is
stored (file offset 225, value `bb`) but not mapped.  The file view serves it (`slice` / `derva_copy` look
at the raw data: `C04_slice_file_ok_iff` bounds the offset by `SizeOfRawData`), `to_view` copies only
`min(VirtualSize, SizeOfRawData)` bytes, so the converted buffer holds 0 there (`C06_to_view_zero`): all
other hypotheses of `C06_same_byte` hold and its conclusion fails.  The real code answers the same
(`derva_copy f32 u8 225` = 187, after `img_to_view`: `derva_copy v32 u8 225` = 0). -/
theorem C06_same_byte_unmapped_false :
    fromBytes .pe32 .file ⟨tinyPe 1 226, 0⟩ = .ok (tinyView 1 226) ∧ Loadable (tinyView 1 226) ∧
    (225 : Nat) < 4294967296 ∧ (tinyView 1 226).slice 225 1 1 = .ok ⟨225, 1, 1⟩ ∧
    firstV (tinyView 1 226).secs 225 = some ⟨0, 0, 1, 224, 2, 224, 0⟩ ∧
    ¬ (225 - (⟨0, 0, 1, 224, 2, 224, 0⟩ : Sec).va < (⟨0, 0, 1, 224, 2, 224, 0⟩ : Sec).vs) ∧
    byteAt (tinyView 1 226).b 225 = 187 ∧ byteAt (tinyView 1 226).toView 225 = 0 := by
  -- the last conjunct is `C06_to_view_zero` at 225
  have hdr : HdrIs (tinyView 1 226) [⟨0, 0, 1, 224, 2, 224, 0⟩] 224 226 226 184 1 184 0 := .of_and <| by
    unfold tinyView; rw [tinyPe_eq]; simp only [Accept, View.secs, sections, secAt, hdr_toNat, le16_toNat, le32_toNat]; decide +kernel
  have he := hdr.eqs
  have g3' := hdr.size
  unfold View.b at g3'
  have hb : byteAt (tinyView 1 226).b 225 = 187 := by unfold tinyView; rw [tinyPe_eq, byteAt_toNat]; decide +kernel
  have h : Loadable (tinyView 1 226) ∧
      (tinyView 1 226).slice 225 1 1 = .ok ⟨225, 1, 1⟩ ∧
      firstV (tinyView 1 226).secs 225 = some ⟨0, 0, 1, 224, 2, 224, 0⟩ ∧
      225 < sizeOfImage (tinyView 1 226).b ∧ sizeOfHeaders (tinyView 1 226).b ≤ 225 ∧
      ∀ s ∈ (tinyView 1 226).secs, ¬ (s.va ≤ 225 ∧ 225 < s.va + min s.vs s.rs) := by
    simp only [Loadable, View.slice, sliceFile, he, g3', show (tinyView 1 226).img.base = 0 from rfl]
    decide
  obtain ⟨hl, hs, hf, hi, hh, hout⟩ := h
  have hv := tinyView_ok _ _ hdr.accept
  exact ⟨hv, hl, by decide, hs, hf, by decide, hb, C06_to_view_zero _ _ _ hv hl 225 hi hh hout⟩

end Pelite.Pe
