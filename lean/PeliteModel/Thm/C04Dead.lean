import PeliteModel.Model.Pe
import PeliteModel.Spec.Pe
/-!
C04: two branches of the address conversions are DEAD — the final `Err(Bounds)` inside the matched section of
`rva_to_file_offset` and of `file_offset_to_rva` (src/pe64/pe.rs).  The line-coverage run of the operation streams never
executed them; here is why no input can: once the section test has passed, the offset into the section is below
`max(VirtualSize, SizeOfRawData)` (resp. below `SizeOfRawData`), so one of the two earlier branches is taken.
Stated as: the conversions equal their variants WITHOUT that branch, for every section table with 32-bit fields and
every address.  (So the error kinds a matched section can produce are exactly Overflow, ZeroFill / Unmapped.)
-/
namespace Pelite.Pe


/-- `r2fSecs` without the dead `Bounds` of the matched section -/
def r2fSecsLive : List Sec → Nat → Out Nat
  | [], _ => .err .bounds
  | s :: rest, rva =>
    let vend := wadd32 s.va (max s.vs s.rs)
    if s.va ≤ rva ∧ rva < vend then
      if (cadd32 s.prd s.rs).isNone then .err .overflow
      else if rva - s.va < s.rs then .ok (rva - s.va + s.prd) else .err .zeroFill
    else r2fSecsLive rest rva

/-- `f2rSecs` without the dead `Bounds` of the matched section -/
def f2rSecsLive : List Sec → Nat → Out Nat
  | [], _ => .err .bounds
  | s :: rest, fo =>
    let eord := wadd32 s.prd s.rs
    if s.prd ≤ fo ∧ fo < eord then
      if (cadd32 s.va s.vs).isNone then .err .overflow
      else if fo - s.prd < s.vs then .ok (fo - s.prd + s.va) else .err .unmapped
    else f2rSecsLive rest fo

theorem C04_r2f_matched_bounds_dead (secs : List Sec) (hs : ∀ s ∈ secs, s.InRange) (rva : Nat) :
    r2fSecs secs rva = r2fSecsLive secs rva := by
  induction secs with
  | nil => rfl
  | cons s rest ih =>
    simp only [r2fSecs, r2fSecsLive]
    rw [ih (fun t ht => hs t (by simp [ht]))]
    by_cases hm : s.va ≤ rva ∧ rva < wadd32 s.va (max s.vs s.rs)
    · simp only [hm, and_self, if_true]
      split
      · rfl
      · by_cases ha : rva - s.va < s.rs
        · simp [ha]
        · simp only [ha, if_false]
          have hlt : rva - s.va < s.vs := by
            have hv := hm.2
            unfold wadd32 at hv
            have : (s.va + max s.vs s.rs) % 4294967296 ≤ s.va + max s.vs s.rs := Nat.mod_le _ _
            have hmx : max s.vs s.rs = s.vs ∨ max s.vs s.rs = s.rs := by omega
            omega
          simp [hlt]
    · simp only [hm, if_false]

theorem C04_f2r_matched_bounds_dead (secs : List Sec) (hs : ∀ s ∈ secs, s.InRange) (fo : Nat) :
    f2rSecs secs fo = f2rSecsLive secs fo := by
  induction secs with
  | nil => rfl
  | cons s rest ih =>
    simp only [f2rSecs, f2rSecsLive]
    rw [ih (fun t ht => hs t (by simp [ht]))]
    by_cases hm : s.prd ≤ fo ∧ fo < wadd32 s.prd s.rs
    · simp only [hm, and_self, if_true]
      split
      · rfl
      · by_cases ha : fo - s.prd < s.vs
        · simp [ha]
        · simp only [ha, if_false]
          have hlt : fo - s.prd < s.rs := by
            have hv := hm.2
            unfold wadd32 at hv
            have : (s.prd + s.rs) % 4294967296 ≤ s.prd + s.rs := Nat.mod_le _ _
            omega
          simp [hlt]
    · simp only [hm, if_false]

end Pelite.Pe
