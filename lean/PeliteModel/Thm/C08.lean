import PeliteModel.Lemmas.Exports
/-!
C08 — Export lookups agree with the export tables for every table shape.

`y : By` ranges over every value of the model's `By` (any view: PE32 / PE32+, file / mapped, any
image bytes, any offsets and counts), `q` over all byte strings, ordinals / hints / indices over all
naturals.  `tablesOf y` are the abstract tables a `By` denotes (null sub-table = empty list),
`cstrOf v rva` the C string the view reads at `rva`, `Export.abs` forgets the reference,
`y.nameStr h` is the name of hint `h` as bytes.  The functional theorems need no hypothesis at all;
the reference theorems need `y.WF`, which `Exports::by` establishes (`C08_by`).  The format agnostic
wrappers run on the view chosen by `wrapFromBytes` (`C08_wrappers`); their own model — three of
their iterators are hand-written twins, not forwards — is `Model/WrapExports.lean`, proved equal to
the functions below in `Thm/C19Wrap.lean` (`C19_wrap_iter`, `C19_wrap_iter_names`,
`C19_wrap_iter_name_indices`, `C19_wrap_by_forwards`, `C19_wrap_get_export`).
-/
namespace Pelite.Exports
open Pelite.Pe

/-! ### the directory and its tables -/

/-- `Exports::try_from`: the directory header is a reference into the image, 4-aligned, 40 bytes;
the extent used for forwarders is data directory entry 0. -/
theorem C08_try_from (v : View) (e : Exports) (h : tryFrom v = .ok e) :
    e.v = v ∧ RefOK v.img e.image ∧ v.dataDir 0 = some (e.ddVA, e.ddSize) := tryFrom_ok h

/-- `Exports::by`: the three tables are `functions()`, `names()`, `name_indices()` — or empty when
that accessor answers Null — and each lies inside the buffer, aligned for its element type. -/
theorem C08_by (e : Exports) (y : By) (h : e.by = .ok y) :
    y.exp = e ∧ y.WF ∧
    mkTab e.functions e.nFns = .ok y.fns ∧ mkTab e.names e.nNames = .ok y.names ∧
    mkTab e.nameIndices e.nNames = .ok y.idx :=
  ⟨(by_ok h).1, (by_ok h).2, (by_tables h).2⟩

/-- the table accessors hand out references inside the buffer, aligned, of exactly count × size bytes -/
theorem C08_table_refs (e : Exports) (r : Ref) :
    (e.functions = .ok r → RefOK e.v.img r ∧ r.len = 4 * e.nFns ∧ r.align = 4) ∧
    (e.names = .ok r → RefOK e.v.img r ∧ r.len = 4 * e.nNames ∧ r.align = 4) ∧
    (e.nameIndices = .ok r → RefOK e.v.img r ∧ r.len = 2 * e.nNames ∧ r.align = 2) ∧
    (e.dllName = .ok r → RefOK e.v.img r ∧ 1 ≤ r.len) :=
  ⟨fun h => dervaSlice_sound e.v h, fun h => dervaSlice_sound e.v h, fun h => dervaSlice_sound e.v h,
   fun h => ⟨(dervaCStr_sound e.v h).1, (dervaCStr_sound e.v h).2.1⟩⟩

/-- A null sub-table (address 0, whatever its count) behaves as an empty one. -/
theorem C08_null_tables_empty (e : Exports) (y : By) (h : e.by = .ok y) :
    (e.aFns = 0 → (tablesOf y).fns = []) ∧ (e.aNames = 0 → (tablesOf y).names = []) ∧
    (e.aOrds = 0 → (tablesOf y).idx = []) := by
  obtain ⟨_, hf, hn, hi⟩ := by_tables h
  -- a null address makes the accessor answer Null, which `by` turns into the empty static table
  have null : ∀ {size cnt : Nat} {t : Tab}, mkTab (e.v.dervaSlice (.rva 0) size size cnt) cnt = .ok t → t.cnt = 0 := by
    intro size cnt t ht
    rw [dervaSlice_null, mkTab_null] at ht
    cases ht
    rfl
  have fns : mkTab (e.v.dervaSlice (.rva e.aFns) 4 4 e.nFns) e.nFns = .ok y.fns := hf
  have names : mkTab (e.v.dervaSlice (.rva e.aNames) 4 4 e.nNames) e.nNames = .ok y.names := hn
  have idx : mkTab (e.v.dervaSlice (.rva e.aOrds) 2 2 e.nNames) e.nNames = .ok y.idx := hi
  exact ⟨fun h0 => congrArg (fun c => (List.range c).map y.fnAt) (null (h0 ▸ fns)),
    fun h0 => congrArg (fun c => (List.range c).map y.nameAt) (null (h0 ▸ names)),
    fun h0 => congrArg (fun c => (List.range c).map y.idxAt) (null (h0 ▸ idx))⟩

/-! ### lookups: the entry the tables denote -/

/-- index i: Bounds beyond the table, Null for a zero entry, the forwarder string iff the entry's RVA
lies in the directory's extent `[VA, VA + Size)` (no wrap-around), else the symbol. -/
theorem C08_index (y : By) (i : Nat) :
    mapOut (Export.abs y.b) (y.index i) = Spec.index (tablesOf y) (cstrOf y.exp.v) i :=
  (index_lookup y i).abs (spec_index_dec y i)

/-- … and which reference it is: a symbol is the table entry itself; a forwarder is the C string
read at the entry's RVA; `Forward` is answered iff the RVA is inside the extent. -/
theorem C08_index_refs (y : By) (i : Nat) (x : Export) (h : y.index i = .ok x) :
    i < y.fns.cnt ∧ y.fnAt i ≠ 0 ∧
    ((x = .symbol ⟨y.fns.off + 4 * i, 4, 4⟩ ∧ ¬ (y.exp.ddVA ≤ y.fnAt i ∧ y.fnAt i < y.exp.ddVA + y.exp.ddSize)) ∨
     (∃ c, x = .forward c ∧ y.exp.v.dervaCStr (.rva (y.fnAt i)) = .ok c ∧
       y.exp.ddVA ≤ y.fnAt i ∧ y.fnAt i < y.exp.ddVA + y.exp.ddSize)) := by
  revert h
  refine index_split y i (P := fun r _ => r = .ok x → _) nofun nofun (fun hi h0 hin o ho h => ?_) (fun hi h0 hin h => ?_)
  · obtain ⟨c, rfl, h⟩ := Out.bind_eq_ok h
    cases h
    exact ⟨hi, h0, .inr ⟨c, rfl, ho, hin⟩⟩
  · cases h
    exact ⟨hi, h0, .inl ⟨rfl, hin⟩⟩

/-- ordinal o: Bounds below the base, else index (o − base). -/
theorem C08_ordinal (y : By) (o : Nat) :
    y.ordinal o = (if o < y.exp.base then .err .bounds else y.index (o - y.exp.base)) ∧
    mapOut (Export.abs y.b) (y.ordinal o) = Spec.ordinal (tablesOf y) (cstrOf y.exp.v) o :=
  ⟨rfl, (ordinal_lookup y o).abs (spec_ordinal_dec y o)⟩

/-- hint h: index name_indices[h], Bounds beyond the ordinal table. -/
theorem C08_hint (y : By) (h : Nat) :
    y.hint h = (if h < y.idx.cnt then y.index (y.idxAt h) else .err .bounds) ∧
    mapOut (Export.abs y.b) (y.hint h) = Spec.hint (tablesOf y) (cstrOf y.exp.v) h :=
  ⟨rfl, (hint_lookup y h).abs (spec_hint_dec y h)⟩

/-- name_of_hint h: the string at names[h]. -/
theorem C08_name_of_hint (y : By) (h : Nat) :
    mapOut (cstrBytes y.b) (y.nameOfHint h) = Spec.nameOfHint (tablesOf y) (cstrOf y.exp.v) h :=
  nameStr_eq_spec y h

/-- name_linear q: the hint of the FIRST h whose name reads as q (unreadable names are skipped),
Null when there is none — on any table, sorted or not. -/
theorem C08_name_linear (y : By) (q : List Nat) :
    mapOut (Export.abs y.b) (y.nameLinear q) = Spec.nameLinear (tablesOf y) (cstrOf y.exp.v) q ∧
    ((∀ h, y.nameStr h ≠ .ok q) → y.nameLinear q = .err .null) ∧
    (∀ h, y.nameStr h = .ok q → (∀ h', h' < h → y.nameStr h' ≠ .ok q) → y.nameLinear q = y.hint h) := by
  refine ⟨(nameLinear_lookup y q).abs (spec_nameLinear_dec y q), fun hne => ?_,
    fun h hq hfirst => ?_⟩
  · rw [nameLinear_dec, Dec.nameLinear_none _ fun h => nameStr_dec y h ▸ hne h]
    rfl
  · rw [nameLinear_dec, hint_dec,
      Dec.nameLinear_first _ (nameStr_dec y h ▸ hq) fun h' hlt => nameStr_dec y h' ▸ hfirst h' hlt]

/-- `check_sorted` = `Ok(true)` iff every name is readable and the names are non-decreasing
(bytewise lexicographic). -/
theorem C08_check_sorted (y : By) :
    y.checkSorted = .ok true ↔ Spec.sorted (tablesOf y) (cstrOf y.exp.v) = true :=
  by rw [checkSorted_dec, Dec.checkSorted_true_iff, sorted_chain]

/-- Binary search (`By::name`).  When `check_sorted` answers `Ok(true)`: if no name equals `q` the
answer is Null; otherwise it is `hint h` for an `h` whose name is `q`. -/
theorem C08_name_sorted (y : By) (q : List Nat) (hs : y.checkSorted = .ok true) :
    ((∀ h, y.nameStr h ≠ .ok q) → y.name q = .err .null) ∧
    ((∃ h, y.nameStr h = .ok q) → ∃ h, h < y.names.cnt ∧ y.nameStr h = .ok q ∧ y.name q = y.hint h) := by
  rcases name_sorted y q ((C08_check_sorted y).1 hs) with ⟨hne, hnull⟩ | ⟨h, hh, he, hres⟩
  · exact ⟨fun _ => hnull, fun ⟨h, hq⟩ => absurd hq (hne h)⟩
  · exact ⟨fun hne => absurd he (hne h), fun _ => ⟨h, hh, he, hres⟩⟩

/-- On ANY table — unsorted, duplicated, with unreadable names — the binary search never answers an
entry of a different name: an `Ok` answer is `hint h` for an `h` whose name is `q`.  (What an unsorted
table loses is completeness only: an existing name may be reported as Null.) -/
theorem C08_name_sound (y : By) (q : List Nat) (x : Export) (h : y.name q = .ok x) :
    ∃ hn, hn < y.names.cnt ∧ y.nameStr hn = .ok q ∧ y.hint hn = .ok x :=
  by
  rw [name_dec] at h
  simp only [nameStr_dec, hint_dec, ← decOf_names_length]
  rcases Dec.name_answer (decOf_nameStr_okOrErr y) q with h' | ⟨hn, hlt, hq, h'⟩ | ⟨_, _, _, _, h'⟩ <;> rw [h'] at h
  · cases h
  · exact ⟨hn, hlt, hq, h⟩
  · cases h

/-- The literal reading "`name q` = Null ↔ `q` ∉ names" holds from right to left only
(`C08_name_sorted`): a name whose entry is a hole (RVA 0) is found, and its *entry* is reported as
Null (`C08_name_null_iff_counterexample`).  Strongest true variant of the left-to-right direction. -/
theorem C08_name_null_partial (y : By) (q : List Nat) (hs : y.checkSorted = .ok true)
    (hn : y.name q = .err .null) :
    (∀ h, y.nameStr h ≠ .ok q) ∨ ∃ h, h < y.names.cnt ∧ y.nameStr h = .ok q ∧ y.hint h = .err .null := by
  rcases name_sorted y q ((C08_check_sorted y).1 hs) with ⟨hne, _⟩ | ⟨h, hh, he, hres⟩
  · exact .inl hne
  · exact .inr ⟨h, hh, he, by rw [← hres]; exact hn⟩

/-- Sorted without duplicates (`Spec.nameDetermined`): binary search and linear search are the same
function, so lookup by name is the function `Spec.name` of the tables. -/
theorem C08_name_eq_linear (y : By) (q : List Nat)
    (hd : Spec.nameDetermined (tablesOf y) (cstrOf y.exp.v) = true) :
    y.name q = y.nameLinear q ∧
    mapOut (Export.abs y.b) (y.name q) = Spec.name (tablesOf y) (cstrOf y.exp.v) q :=
  have he := Dec.name_eq_nameLinear ((determined_chain y).1 hd) q
  ⟨by rw [name_dec, nameLinear_dec, he],
   (name_lookup y q).abs (he ▸ spec_nameLinear_dec y q)⟩

/-- hint_name h q: the hint's entry when the hint resolves and its name is `q`, else lookup by name. -/
theorem C08_hint_name (y : By) (h : Nat) (q : List Nat) :
    y.hintName h q = (if (y.hint h).isOk = true ∧ y.nameStr h = .ok q then y.hint h else y.name q) ∧
    (Spec.nameDetermined (tablesOf y) (cstrOf y.exp.v) = true →
      mapOut (Export.abs y.b) (y.hintName h q) = Spec.hintName (tablesOf y) (cstrOf y.exp.v) h q) :=
  ⟨hintName_eq y h q, fun hd => (hintName_lookup y h q).abs (spec_hintName_dec y h q ((determined_chain y).1 hd))⟩

/-- import descriptor: `ByName { hint, name }` = hint_name, `ByOrdinal { ord }` = ordinal. -/
theorem C08_import (y : By) (i : ImportQ) :
    y.import i = (match i with | .byName h q => y.hintName h q | .byOrdinal o => y.ordinal o) ∧
    (Spec.nameDetermined (tablesOf y) (cstrOf y.exp.v) = true →
      mapOut (Export.abs y.b) (y.import i) =
        match i with
        | .byName h q => Spec.hintName (tablesOf y) (cstrOf y.exp.v) h q
        | .byOrdinal o => Spec.ordinal (tablesOf y) (cstrOf y.exp.v) o) :=
  ⟨by cases i <;> rfl, fun hd => by
    cases i with
    | byName h q => exact (C08_hint_name y h q).2 hd
    | byOrdinal o => exact (C08_ordinal y o).2⟩

/-- On ANY table — no `Spec.nameDetermined`, no sortedness — `hint_name` never answers an entry of a
different name: an `Ok` answer is `hint h'` for an `h'` whose name is `q` (`h' = h` when the hint was
right, else the entry the binary search found, `C08_name_sound`). -/
theorem C08_hint_name_sound (y : By) (h : Nat) (q : List Nat) (x : Export) (hx : y.hintName h q = .ok x) :
    ∃ h', h' < y.names.cnt ∧ y.nameStr h' = .ok q ∧ y.hint h' = .ok x := by
  rw [hintName_eq] at hx
  split at hx
  next hc => exact ⟨h, nameStr_ok_lt hc.2, hc.2, hx⟩
  next => exact C08_name_sound y q x hx

/-- … and so for an import descriptor, on any table: `ByName` answers an entry named `q`, `ByOrdinal`
the entry `o − base` of the address table. -/
theorem C08_import_sound (y : By) (i : ImportQ) (x : Export) (hx : y.import i = .ok x) :
    match i with
    | .byName _ q => ∃ h', h' < y.names.cnt ∧ y.nameStr h' = .ok q ∧ y.hint h' = .ok x
    | .byOrdinal o => y.exp.base ≤ o ∧ o - y.exp.base < y.fns.cnt ∧ y.index (o - y.exp.base) = .ok x := by
  cases i with
  | byName h q => exact C08_hint_name_sound y h q x hx
  | byOrdinal o =>
    have h1 : y.ordinal o = .ok x := hx
    rw [(C08_ordinal y o).1] at h1
    split at h1
    · cases h1
    next hb => exact ⟨by omega, (C08_index_refs y _ x h1).1, h1⟩

/-- name_lookup i: `ByName` of the first hint whose index is `i` (with the name at that hint; Bounds
if the name table is shorter), else `ByOrdinal((i + base) mod 2^16)`. -/
theorem C08_name_lookup (y : By) (i : Nat) :
    mapOut (Import.abs y.b) (y.nameLookup i) = Spec.nameLookup (tablesOf y) (cstrOf y.exp.v) i :=
  nameLookup_abs y i

/-- get_export: `exports()?.by()?` followed by the lookup. -/
theorem C08_get_export (v : View) (q : Query) (x : Export) (h : getExport v q = .ok x) :
    ∃ e y, tryFrom v = .ok e ∧ e.by = .ok y ∧ y.exp.v = v ∧ y.WF ∧
      (match q with
       | .name n => y.name n
       | .ordinal o => y.ordinal o
       | .import i => y.import i) = .ok x := by
  unfold getExport at h
  obtain ⟨e, he, h⟩ := Out.bind_eq_ok h
  obtain ⟨y, hy, h⟩ := Out.bind_eq_ok h
  exact ⟨e, y, he, hy, (by_of_view he hy).1, (by_of_view he hy).2, h⟩

/-- Which answer an entry of the address table gets — all four cases, as equalities (so both
directions): beyond the table Bounds; a hole (RVA 0) Null; an RVA inside the directory's extent the
forwarder string read there, or the error of that read (`C08_forwarder_error`); any other RVA the symbol. -/
theorem C08_index_cases (y : By) (i : Nat) :
    (y.fns.cnt ≤ i → y.index i = .err .bounds) ∧
    (i < y.fns.cnt → y.fnAt i = 0 → y.index i = .err .null) ∧
    (i < y.fns.cnt → y.fnAt i ≠ 0 → (y.exp.ddVA ≤ y.fnAt i ∧ y.fnAt i < y.exp.ddVA + y.exp.ddSize) →
      y.index i = (y.exp.v.dervaCStr (.rva (y.fnAt i))).bind fun c => .ok (.forward c)) ∧
    (i < y.fns.cnt → y.fnAt i ≠ 0 → ¬ (y.exp.ddVA ≤ y.fnAt i ∧ y.fnAt i < y.exp.ddVA + y.exp.ddSize) →
      y.index i = .ok (.symbol ⟨y.fns.off + 4 * i, 4, 4⟩)) := by
  rw [index_eq]
  exact ⟨fun hi => if_neg (by omega), fun hi h0 => by rw [if_pos hi, if_pos h0],
    fun hi h0 hin => by rw [if_pos hi, if_neg h0, if_pos hin],
    fun hi h0 hin => by rw [if_pos hi, if_neg h0, if_neg hin]⟩

/-- a forwarder whose string cannot be read reports the error of the string read (never a symbol) -/
theorem C08_forwarder_error (y : By) (i : Nat) (hi : i < y.fns.cnt) (h0 : y.fnAt i ≠ 0)
    (hin : y.exp.ddVA ≤ y.fnAt i ∧ y.fnAt i < y.exp.ddVA + y.exp.ddSize) (er : Err)
    (hc : y.exp.v.dervaCStr (.rva (y.fnAt i)) = .err er) : y.index i = .err er := by
  rw [(C08_index_cases y i).2.2.1 hi h0 hin, hc]
  rfl

/-- an ordinal: Bounds below the base and beyond the table, Null for a hole -/
theorem C08_ordinal_errors (y : By) (o : Nat) :
    (o < y.exp.base → y.ordinal o = .err .bounds) ∧
    (y.exp.base ≤ o → y.fns.cnt ≤ o - y.exp.base → y.ordinal o = .err .bounds) ∧
    (y.exp.base ≤ o → o - y.exp.base < y.fns.cnt → y.fnAt (o - y.exp.base) = 0 → y.ordinal o = .err .null) ∧
    (∀ er, y.ordinal o = .err er → er = .bounds ∨ er = .null ∨
      (o - y.exp.base < y.fns.cnt ∧ y.exp.v.dervaCStr (.rva (y.fnAt (o - y.exp.base))) = .err er)) :=
  by
  obtain ⟨h1, h2, _, _⟩ := C08_index_cases y (o - y.exp.base)
  refine ⟨fun hb => if_pos hb, fun hb hi => (if_neg (by omega)).trans (h1 hi),
    fun hb hi h0 => (if_neg (by omega)).trans (h2 hi h0), fun er h => ?_⟩
  rw [(C08_ordinal y o).1] at h
  split at h
  · cases h; exact .inl rfl
  · exact index_err y _ er h

/-- get_export, the failure direction: the answer is the first failure of `exports()`, `by()`, the
lookup — in that order — as equalities (with `C08_get_export`: the complete behaviour). -/
theorem C08_get_export_cases (v : View) (q : Query) :
    (∀ er, tryFrom v = .err er → getExport v q = .err er) ∧
    (∀ e er, tryFrom v = .ok e → e.by = .err er → getExport v q = .err er) ∧
    (∀ e y, tryFrom v = .ok e → e.by = .ok y →
      getExport v q = match q with
        | .name n => y.name n
        | .ordinal o => y.ordinal o
        | .import i => y.import i) := by
  unfold getExport
  refine ⟨?_, ?_, ?_⟩
  · intro er h; rw [h]; rfl
  · intro e er h1 h2; rw [h1]; show e.by.bind _ = _; rw [h2]; rfl
  · exact fun e y h1 h2 => getExport_eq h1 h2 q

/-- … and conversely every error of `get_export` is one of those three. -/
theorem C08_get_export_err (v : View) (q : Query) (er : Err) (h : getExport v q = .err er) :
    tryFrom v = .err er ∨ (∃ e, tryFrom v = .ok e ∧ e.by = .err er) ∨
    (∃ e y, tryFrom v = .ok e ∧ e.by = .ok y ∧ y.exp.v = v ∧ y.WF ∧
      (match q with
       | .name n => y.name n
       | .ordinal o => y.ordinal o
       | .import i => y.import i) = .err er) := by
  rcases tryFrom_okOrErr v with ⟨e, he⟩ | ⟨e', he⟩
  · rcases by_okOrErr e with ⟨y, hy⟩ | ⟨e'', hy⟩
    · right; right
      refine ⟨e, y, he, hy, (by_of_view he hy).1, (by_of_view he hy).2, ?_⟩
      rw [← (C08_get_export_cases v q).2.2 e y he hy]; exact h
    · right; left
      rw [(C08_get_export_cases v q).2.1 e e'' he hy] at h
      cases h
      exact ⟨e, he, hy⟩
  · left
    rw [(C08_get_export_cases v q).1 e' he] at h
    cases h
    exact he

/-- No export directory — no entry 0 in the data-directory array, or entry 0 with RVA 0 — answers
Null for every query; an ordinal that is below the base or beyond the table answers Bounds, a hole
Null (through `get_export`, whatever the view). -/
theorem C08_get_export_errors (v : View) (q : Query) :
    (v.dataDir 0 = none → getExport v q = .err .null) ∧
    (∀ sz, v.dataDir 0 = some (0, sz) → getExport v q = .err .null) ∧
    (∀ e y o, tryFrom v = .ok e → e.by = .ok y →
      (o < y.exp.base ∨ y.fns.cnt ≤ o - y.exp.base → getExport v (.ordinal o) = .err .bounds) ∧
      (y.exp.base ≤ o → o - y.exp.base < y.fns.cnt → y.fnAt (o - y.exp.base) = 0 →
        getExport v (.ordinal o) = .err .null)) := by
  refine ⟨?_, ?_, ?_⟩
  · intro hd
    apply (C08_get_export_cases v q).1
    unfold tryFrom; rw [hd]
  · intro sz hd
    apply (C08_get_export_cases v q).1
    unfold tryFrom; rw [hd]
    show (v.derva (.rva 0) 40 4).bind _ = _
    rw [derva_eq_bind, at_zero_null v (.rva 0) rfl]
    rfl
  · intro e y o he hy
    have hq := (C08_get_export_cases v (.ordinal o)).2.2 e y he hy
    obtain ⟨h1, h2, h3, _⟩ := C08_ordinal_errors y o
    refine ⟨?_, ?_⟩
    · intro hc
      rw [hq]
      rcases hc with hc | hc
      · exact h1 hc
      · by_cases hb : o < y.exp.base
        · exact h1 hb
        · exact h2 (by omega) hc
    · intro hb hi h0
      rw [hq]
      exact h3 hb hi h0

/-- get_proc_address: `rva_to_va` of the symbol's RVA; Null for a forwarder; the lookup's error otherwise. -/
theorem C08_get_proc_address (v : View) (q : Query) :
    getProcAddress v q =
      Spec.procAddress v.imageBase (sizeOfImage v.b) v.fmt.vaLimit (mapOut (Export.abs v.b) (getExport v q)) :=
  by
  unfold getProcAddress
  cases getExport v q with
  | ok e =>
    cases e with
    | symbol r => rfl
    | forward r => rfl
  | _ => rfl

/-- … so an address is answered for real symbols only, and it is image base + rva. -/
theorem C08_get_proc_address_ok (v : View) (q : Query) (va : Nat) (h : getProcAddress v q = .ok va) :
    ∃ r, getExport v q = .ok (.symbol r) ∧ va = v.imageBase + le32 v.b r.off ∧
      0 < le32 v.b r.off ∧ le32 v.b r.off < sizeOfImage v.b ∧ va < v.fmt.vaLimit := by
  unfold getProcAddress at h
  obtain ⟨x, hx, h⟩ := Out.bind_eq_ok h
  cases x with
  | forward c => cases h
  | symbol r =>
    obtain ⟨h0, h1, h2, rfl⟩ := rvaToVa_eq_ok.1 h
    exact ⟨r, hx, rfl, by omega, h1, h2⟩

/-! ### C01: every reference handed out lies inside the buffer and is aligned for its type -/

theorem C08_refs_ok (y : By) (hw : y.WF) (x : Export) :
    (∀ i, y.index i = .ok x → RefOK y.exp.v.img x.ref) ∧
    (∀ o, y.ordinal o = .ok x → RefOK y.exp.v.img x.ref) ∧
    (∀ h, y.hint h = .ok x → RefOK y.exp.v.img x.ref) ∧
    (∀ q, y.nameLinear q = .ok x → RefOK y.exp.v.img x.ref) ∧
    (∀ q, y.name q = .ok x → RefOK y.exp.v.img x.ref) ∧
    (∀ h q, y.hintName h q = .ok x → RefOK y.exp.v.img x.ref) ∧
    (∀ i, y.import i = .ok x → RefOK y.exp.v.img x.ref) ∧
    (.ok x ∈ y.iter → RefOK y.exp.v.img x.ref) ∧
    (∀ n, (n, .ok x) ∈ y.iterNames → RefOK y.exp.v.img x.ref) :=
  ⟨fun _ h => index_sound hw h, fun o => (ordinal_lookup y o).sound hw, fun h => (hint_lookup y h).sound hw,
   fun q => (nameLinear_lookup y q).sound hw, fun q => (name_lookup y q).sound hw,
   fun h q => (hintName_lookup y h q).sound hw, fun i => (import_lookup y i).sound hw,
   iter_sound hw, fun _ => iterNames_sound hw⟩

theorem C08_name_refs_ok (y : By) (c : Ref) :
    (∀ h, y.nameOfHint h = .ok c → RefOK y.exp.v.img c ∧ h < y.names.cnt) ∧
    (∀ i h, y.nameLookup i = .ok (.byName h c) → RefOK y.exp.v.img c ∧ h < y.names.cnt) ∧
    (∀ x, (.ok c, x) ∈ y.iterNames → RefOK y.exp.v.img c) ∧
    (∀ i, .ok (.ok c, i) ∈ y.iterNameIndices → RefOK y.exp.v.img c) :=
  ⟨fun _ h => nameOfHint_sound h, fun i hn h => (by
     rw [nameLookup_dec] at h
     unfold Dec.nameLookup at h
     split at h
     · obtain ⟨p, hp, h⟩ := mapOut_ok_iff.1 h
       cases h
       exact nameOfHint_sound ((nameOfHint_dec y hn).trans (by rw [hp]; rfl))
     · cases h),
   fun x h => by
     unfold By.iterNames at h
     obtain ⟨i, _, he⟩ := List.mem_map.1 h
     exact (nameOfHint_sound (congrArg Prod.fst he)).1,
   fun i h => by
     obtain ⟨hn, _, _, he⟩ := iterNameIndices_ok y _ h
     have := Out.ok.inj he
     exact (nameOfHint_sound (congrArg Prod.fst this).symm).1⟩

theorem C08_get_export_ref_ok (v : View) (q : Query) (x : Export) (h : getExport v q = .ok x) :
    RefOK v.img x.ref := by
  obtain ⟨e, y, _, _, hv, hw, h⟩ := C08_get_export v q x h
  exact hv ▸ (query_lookup y q).sound hw h

/-! ### C02 / C03: no panic, no unchecked access, no divergence — for ANY image bytes -/

/-- Every operation of the module answers a value or a typed error on every view whatsoever: the
binary search never indexes outside `names`, `upper - lower` never underflows and the loop ends;
`is_forwarded` and `name_lookup` never overflow or index out of range.  (The iterators: `C08_iter_total`.) -/
theorem C08_total (v : View) (e : Exports) (y : By) (q : List Nat) (n : Nat) (i : ImportQ) (g : Query) :
    OkOrErr (tryFrom v) ∧ OkOrErr e.dllName ∧ OkOrErr e.functions ∧ OkOrErr e.names ∧
    OkOrErr e.nameIndices ∧ OkOrErr e.by ∧ OkOrErr y.checkSorted ∧
    OkOrErr (y.ordinal n) ∧ OkOrErr (y.index n) ∧ OkOrErr (y.hint n) ∧ OkOrErr (y.nameLinear q) ∧
    OkOrErr (y.name q) ∧ OkOrErr (y.hintName n q) ∧ OkOrErr (y.import i) ∧
    OkOrErr (y.nameOfHint n) ∧ OkOrErr (y.nameLookup n) ∧
    OkOrErr (getExport v g) ∧ OkOrErr (getProcAddress v g) :=
  ⟨tryFrom_okOrErr v, dllName_okOrErr e, functions_okOrErr e, names_okOrErr e, nameIndices_okOrErr e,
   by_okOrErr e, checkSorted_okOrErr y, (ordinal_lookup y n).okOrErr, index_okOrErr y n, hint_okOrErr y n,
   (nameLinear_lookup y q).okOrErr, (name_lookup y q).okOrErr, (hintName_lookup y n q).okOrErr,
   (import_lookup y i).okOrErr,
   nameOfHint_okOrErr y n, nameLookup_okOrErr y n, getExport_okOrErr v g, getProcAddress_okOrErr v g⟩

/-- … and every item of the three iterators. -/
theorem C08_iter_total (y : By) :
    (∀ x ∈ y.iter, OkOrErr x) ∧ (∀ x ∈ y.iterNames, OkOrErr x.1 ∧ OkOrErr x.2) ∧
    (∀ x ∈ y.iterNameIndices, ∃ h, h < y.names.cnt ∧ h < y.idx.cnt ∧ x = .ok (y.nameOfHint h, y.idxAt h)) :=
  ⟨fun x hx => by
     rw [iter_eq] at hx
     obtain ⟨i, _, rfl⟩ := List.mem_map.1 hx
     exact index_okOrErr y i,
   fun x hx => by
     obtain ⟨i, _, rfl⟩ := List.mem_map.1 hx
     exact ⟨nameOfHint_okOrErr _ _, hint_okOrErr _ _⟩,
   iterNameIndices_ok y⟩

/-- The iterators enumerate the tables in order: `iter` is index 0, 1, …; `iter_names` is
(name_of_hint h, hint h); `iter_name_indices` is (name_of_hint h, name_indices[h]) for the hints both
tables have. -/
theorem C08_iter (y : By) :
    y.iter = (List.range y.fns.cnt).map y.index ∧
    y.iterNames = (List.range y.names.cnt).map (fun h => (y.nameOfHint h, y.hint h)) ∧
    y.iterNameIndices =
      (List.range (min y.names.cnt y.idx.cnt)).map (fun h => .ok (y.nameOfHint h, y.idxAt h)) :=
  ⟨iter_eq y, rfl, iterNameIndices_eq y⟩

/-- The wrappers (`src/wrap/exports.rs`) dispatch on the format of the view `wrapFromBytes` chose and
call the code above: a wrapped view is a format specific view of the same buffer. -/
theorem C08_wrappers (k : Kind) (img : Img) (v : View) (h : wrapFromBytes k img = .ok v) :
    fromBytes v.fmt k img = .ok v := wrap_ok_imp k img v h

/-! ### non-vacuity: a 278-byte PE32 image with an export directory at 192
(base 5; functions `[0x10, 0 (hole), 274 → "k.f" (forwarder, inside the extent 192..278), 0x20]`;
names `"a","b","c"` with indices `[0, 1, 3]`) -/

def demoImg : Img := ⟨#[
    77, 90, 0, 0, 0, 0, 0, 0, 0, 0, 0, 0, 0, 0, 0, 0, 0, 0, 0, 0, 0, 0, 0, 0, 0, 0, 0, 0, 0, 0, 0,
    0, 0, 0, 0, 0, 0, 0, 0, 0, 0, 0, 0, 0, 0, 0, 0, 0, 0, 0, 0, 0, 0, 0, 0, 0, 0, 0, 0, 0, 64, 0, 0,
    0, 80, 69, 0, 0, 76, 1, 0, 0, 0, 0, 0, 0, 0, 0, 0, 0, 0, 0, 0, 0, 104, 0, 2, 33, 11, 1, 0, 0, 0,
    0, 0, 0, 0, 0, 0, 0, 0, 0, 0, 0, 0, 0, 0, 0, 0, 0, 0, 0, 0, 0, 0, 0, 0, 0, 64, 0, 0, 0, 0, 0, 0,
    0, 0, 0, 0, 0, 0, 0, 0, 0, 0, 0, 0, 0, 0, 0, 0, 0, 0, 0, 22, 1, 0, 0, 192, 0, 0, 0, 0, 0, 0, 0,
    0, 0, 0, 0, 0, 0, 0, 0, 0, 0, 0, 0, 0, 0, 0, 0, 0, 0, 0, 0, 0, 0, 0, 0, 1, 0, 0, 0, 192, 0, 0,
    0, 86, 0, 0, 0, 0, 0, 0, 0, 0, 0, 0, 0, 0, 0, 0, 0, 10, 1, 0, 0, 5, 0, 0, 0, 4, 0, 0, 0, 3, 0,
    0, 0, 232, 0, 0, 0, 248, 0, 0, 0, 4, 1, 0, 0, 16, 0, 0, 0, 0, 0, 0, 0, 18, 1, 0, 0, 32, 0, 0, 0,
    12, 1, 0, 0, 14, 1, 0, 0, 16, 1, 0, 0, 0, 0, 1, 0, 3, 0, 100, 0, 97, 0, 98, 0, 99, 0, 107, 46,
    102, 0], 0⟩

def demoView : View := ⟨demoImg, .pe32, .view, 0x400000⟩
def demoExp : Exports := ⟨demoView, 192, 86, 192⟩
def demoBy : By := ⟨demoExp, ⟨232, 4, false⟩, ⟨248, 3, false⟩, ⟨260, 3, false⟩⟩

theorem demo_by : tryFrom demoView = .ok demoExp ∧ demoExp.by = .ok demoBy :=
  by_of_fields rfl rfl (by
    simp only [tryFrom_bind, View.dataDir_toNat, hdr_toNat, Exports.by, Exports.functions, Exports.names, Exports.nameIndices, Exports.nFns,
      Exports.nNames, Exports.aFns, Exports.aNames, Exports.aOrds, le32_toNat]
    decide +kernel)

/-- the image is accepted, and `exports()?.by()?` yields `demoBy` -/
example : (fromBytes .pe32 .view demoImg).isOk = true ∧
    (tryFrom demoView).bind (fun e => e.by.bind fun y => .ok (e.ddVA, e.ddSize, e.off, y.fns, y.names, y.idx)) =
      .ok (192, 86, 192, ⟨232, 4, false⟩, ⟨248, 3, false⟩, ⟨260, 3, false⟩) :=
  ⟨fromBytes_isOk (by simp only [Accept, hdr_toNat, le16_toNat, le32_toNat]; decide +kernel), fields_of_by demo_by.1 demo_by.2⟩

example : demoBy.WF := by
  refine ⟨?_, ?_, ?_⟩ <;> unfold Tab.OK <;> decide +kernel

/-- The directory decoded: every example below is a computation on these four lists. -/
theorem demoBy_dec : decOf demoBy =
    ⟨5, [.ok (.symbol ⟨232, 4, 4⟩, .symbol 16), .err .null, .ok (.forward ⟨274, 4, 1⟩, .forward [107, 46, 102]),
         .ok (.symbol ⟨244, 4, 4⟩, .symbol 32)],
        [.ok (⟨268, 2, 1⟩, [97]), .ok (⟨270, 2, 1⟩, [98]), .ok (⟨272, 2, 1⟩, [99])], [0, 1, 3]⟩ := by
  simp only [decOf, By.fnAt, By.nameAt, By.idxAt, Exports.base, View.dervaCStr, cstrFromBytes, findNul_eq, cstrBytes,
    le32_toNat, le16_toNat, byteAt_toNat]
  decide +kernel

/-- the hypotheses of the name theorems hold on it, and the lookups give the expected entries -/
example : demoBy.checkSorted = .ok true ∧ Spec.nameDetermined (tablesOf demoBy) (cstrOf demoView) = true ∧
    demoBy.ordinal 4 = .err .bounds ∧ demoBy.ordinal 5 = .ok (.symbol ⟨232, 4, 4⟩) ∧
    demoBy.ordinal 6 = .err .null ∧ demoBy.ordinal 7 = .ok (.forward ⟨274, 4, 1⟩) ∧
    demoBy.ordinal 9 = .err .bounds ∧
    demoBy.name [97] = .ok (.symbol ⟨232, 4, 4⟩) ∧ demoBy.name [99] = .ok (.symbol ⟨244, 4, 4⟩) ∧
    demoBy.name [98, 98] = .err .null ∧ demoBy.nameLinear [99] = .ok (.symbol ⟨244, 4, 4⟩) ∧
    demoBy.hintName 0 [99] = .ok (.symbol ⟨244, 4, 4⟩) ∧ demoBy.hintName 2 [99] = .ok (.symbol ⟨244, 4, 4⟩) ∧
    demoBy.nameLookup 3 = .ok (.byName 2 ⟨272, 2, 1⟩) ∧ demoBy.nameLookup 2 = .ok (.byOrdinal 7) ∧
    getProcAddress demoView (.name [97]) = .ok 0x400010 ∧
    getProcAddress demoView (.ordinal 7) = .err .null ∧
    mapOut (Export.abs demoView.b) (demoBy.ordinal 7) = .ok (.forward [107, 46, 102]) := by
  have hs : Spec.nameOfHint (tablesOf demoBy) (cstrOf demoView) = _ ∧ _ := spec_dec demoBy
  have ha : mapOut (Export.abs demoView.b) (demoBy.ordinal 7) = _ := (ordinal_lookup demoBy 7).abs rfl
  rw [ha]
  simp only [getProcAddress, getExport_of_by demo_by.1 demo_by.2, Spec.nameDetermined, hs.1, tablesOf_names_length,
    checkSorted_dec, ordinal_dec, name_dec, nameLinear_dec, hintName_dec, nameLookup_dec, demoBy_dec]
  decide +kernel

/-- "`name q` = Null ↔ `q` ∉ names" is false as written: `"b"` is a name (hint 1) of this sorted
table, its entry is the hole functions[1] = 0, and `name "b"` answers Null. -/
theorem C08_name_null_iff_counterexample :
    demoBy.checkSorted = .ok true ∧ demoBy.nameStr 1 = .ok [98] ∧ demoBy.name [98] = .err .null ∧
    demoBy.hint 1 = .err .null := by
  simp only [checkSorted_dec, nameStr_dec, name_dec, hint_dec, demoBy_dec]
  decide +kernel

/-! ### non-vacuity of the "any table" theorems: an UNSORTED table with a DUPLICATE name

`demoImg` with the name pointer table `[272 "c", 272 "c", 268 "a"]` and the ordinal table `[0, 3, 2]`:
not sorted ("c" before "a"), "c" twice (entries 0 and 3), "a" a forwarder (entry 2). -/

def demoImg2 : Img :=
  ⟨((((demoImg.bytes.set! 248 16).set! 252 16).set! 256 12).set! 262 3).set! 264 2, 0⟩
def demoView2 : View := ⟨demoImg2, .pe32, .view, 0x400000⟩
def demoBy2 : By := ⟨⟨demoView2, 192, 86, 192⟩, ⟨232, 4, false⟩, ⟨248, 3, false⟩, ⟨260, 3, false⟩⟩

theorem demoBy2_dec : decOf demoBy2 =
    ⟨5, [.ok (.symbol ⟨232, 4, 4⟩, .symbol 16), .err .null, .ok (.forward ⟨274, 4, 1⟩, .forward [107, 46, 102]),
         .ok (.symbol ⟨244, 4, 4⟩, .symbol 32)],
        [.ok (⟨272, 2, 1⟩, [99]), .ok (⟨272, 2, 1⟩, [99]), .ok (⟨268, 2, 1⟩, [97])], [0, 3, 2]⟩ := by
  simp only [decOf, By.fnAt, By.nameAt, By.idxAt, Exports.base, View.dervaCStr, cstrFromBytes, findNul_eq, cstrBytes,
    le32_toNat, le16_toNat, byteAt_toNat]
  decide +kernel

/-- the image is accepted and `exports()?.by()?` yields `demoBy2`; its tables are as described:
`check_sorted` answers false, `Spec.nameDetermined` fails -/
example : (fromBytes .pe32 .view demoImg2).isOk = true ∧
    (tryFrom demoView2).bind (fun e => e.by.bind fun y => .ok (e.ddVA, e.ddSize, e.off, y.fns, y.names, y.idx)) =
      .ok (192, 86, 192, ⟨232, 4, false⟩, ⟨248, 3, false⟩, ⟨260, 3, false⟩) ∧
    (tablesOf demoBy2).names = [272, 272, 268] ∧ (tablesOf demoBy2).idx = [0, 3, 2] ∧
    demoBy2.nameStr 0 = .ok [99] ∧ demoBy2.nameStr 1 = .ok [99] ∧ demoBy2.nameStr 2 = .ok [97] ∧
    demoBy2.checkSorted = .ok false ∧ Spec.sorted (tablesOf demoBy2) (cstrOf demoView2) = false ∧
    Spec.nameDetermined (tablesOf demoBy2) (cstrOf demoView2) = false := by
  have hs : Spec.nameOfHint (tablesOf demoBy2) (cstrOf demoView2) = _ ∧ _ := spec_dec demoBy2
  refine ⟨fromBytes_isOk (by simp only [Accept, hdr_toNat, le16_toNat, le32_toNat]; decide +kernel), ?_, ?_, congrArg Dec.idx demoBy2_dec, ?_⟩
  · simp only [tryFrom_bind, View.dataDir_toNat, hdr_toNat, Exports.by, Exports.functions, Exports.names, Exports.nameIndices, Exports.nFns,
      Exports.nNames, Exports.aFns, Exports.aNames, Exports.aOrds, le32_toNat]
    decide +kernel
  · show (List.range 3).map (fun i => le32 demoBy2.b (248 + 4 * i)) = _
    simp only [le32_toNat]
    decide +kernel
  simp only [Spec.sorted, Spec.nameDetermined, hs.1, tablesOf_names_length, checkSorted_dec, nameStr_dec, demoBy2_dec]
  decide +kernel

/-- `C08_name_linear` on it: the FIRST of the two "c" (hint 0, entry 0); `C08_name_sound`: the binary
search answers the OTHER "c" (hint 1, entry 3) — a different entry, but one named "c" all the same;
completeness is what the unsorted table loses: "a" is a name (hint 2, found by the linear search as
the forwarder) and the binary search reports Null; `hint_name` with the right hint needs no search,
with a wrong hint it inherits the binary search's answer. -/
example :
    demoBy2.nameLinear [99] = demoBy2.hint 0 ∧ demoBy2.hint 0 = .ok (.symbol ⟨232, 4, 4⟩) ∧
    demoBy2.name [99] = demoBy2.hint 1 ∧ demoBy2.hint 1 = .ok (.symbol ⟨244, 4, 4⟩) ∧
    demoBy2.nameLinear [97] = .ok (.forward ⟨274, 4, 1⟩) ∧ demoBy2.name [97] = .err .null ∧
    demoBy2.hintName 2 [97] = .ok (.forward ⟨274, 4, 1⟩) ∧ demoBy2.hintName 0 [97] = .err .null ∧
    demoBy2.hintName 0 [99] = .ok (.symbol ⟨232, 4, 4⟩) ∧ demoBy2.hintName 2 [99] = .ok (.symbol ⟨244, 4, 4⟩) ∧
    demoBy2.import (.byName 2 [99]) = .ok (.symbol ⟨244, 4, 4⟩) := by
  simp only [nameLinear_dec, hint_dec, name_dec, hintName_dec, import_dec, demoBy2_dec]
  decide +kernel

theorem demoBy2_lookups :
    demoBy2.name [99] = .ok (.symbol ⟨244, 4, 4⟩) ∧ demoBy2.nameStr 0 = .ok [99] ∧
    demoBy2.hintName 2 [99] = .ok (.symbol ⟨244, 4, 4⟩) ∧
    demoBy2.import (.byName 2 [97]) = .ok (.forward ⟨274, 4, 1⟩) := by
  simp only [nameStr_dec, name_dec, hintName_dec, import_dec, demoBy2_dec]
  decide +kernel

/-- the theorems instantiated (no hypothesis about the table to discharge) -/
example : ∃ hn, hn < demoBy2.names.cnt ∧ demoBy2.nameStr hn = .ok [99] ∧
    demoBy2.hint hn = .ok (.symbol ⟨244, 4, 4⟩) :=
  C08_name_sound demoBy2 [99] _ demoBy2_lookups.1

example : demoBy2.nameLinear [99] = demoBy2.hint 0 :=
  (C08_name_linear demoBy2 [99]).2.2 0 demoBy2_lookups.2.1 (fun h' hlt => by omega)

example : ∃ h', h' < demoBy2.names.cnt ∧ demoBy2.nameStr h' = .ok [99] ∧
    demoBy2.hint h' = .ok (.symbol ⟨244, 4, 4⟩) :=
  C08_hint_name_sound demoBy2 2 [99] _ demoBy2_lookups.2.2.1

example : ∃ h', h' < demoBy2.names.cnt ∧ demoBy2.nameStr h' = .ok [97] ∧
    demoBy2.hint h' = .ok (.forward ⟨274, 4, 1⟩) :=
  C08_import_sound demoBy2 (.byName 2 [97]) _ demoBy2_lookups.2.2.2

/-- the failure direction on `demoBy` (base 5, four entries, entry 1 a hole, entry 2 a forwarder) and on
an image without export directory -/
example :
    getExport demoView (.ordinal 4) = .err .bounds ∧ getExport demoView (.ordinal 9) = .err .bounds ∧
    getExport demoView (.ordinal 6) = .err .null ∧ getExport demoView (.ordinal 7) = .ok (.forward ⟨274, 4, 1⟩) ∧
    getProcAddress demoView (.ordinal 7) = .err .null ∧ getExport demoView (.name [98]) = .err .null ∧
    getExport demoView (.name [100]) = .err .null := by
  simp only [getProcAddress, getExport_of_by demo_by.1 demo_by.2, demoBy_dec]
  decide +kernel

/-! ### lookup by name on ANY table: the answer is a member of the acceptable-answer set

`Spec.acceptName T cstr q` (Spec/Exports.lean) is written from the format: what any hint named `q`
denotes; Null when there is none; on a table that is not sorted additionally Null and the failure of
reading a name.  The model driver prints it (`accept=[…]`) for every `name` / `hint_name` /
`import byname` / `get name` / `get byname` operation and the Python oracle requires the REAL code's
answer to be a member — also where `Spec.nameDetermined` fails (`hyp=0`). -/

/-- `By::name` on ANY table — unsorted, duplicated, unreadable names, short ordinal table: the answer
(value or error, references forgotten) is a member of the acceptable-answer set of the tables.
No hypothesis.  (On a sorted table neither the extra Null nor a read failure is in the set.) -/
theorem C08_name_in_accept (y : By) (q : List Nat) :
    mapOut (Export.abs y.b) (y.name q) ∈ Spec.acceptName (tablesOf y) (cstrOf y.exp.v) q := by
  have hn := decOf_nameStr_okOrErr y
  rw [name_abs_dec]
  -- sorted: the search answers Null only when no name reads as `q`, else an entry named `q`.  Unsorted: Null, an entry
  -- named `q`, or the failure of reading some name — all three are in the set because `sorted = false`.
  by_cases hs : Spec.sorted (tablesOf y) (cstrOf y.exp.v) = true
  · rcases Dec.name_sorted ((sorted_chain y).1 hs) q with ⟨hne, hnull⟩ | ⟨h, _, he, hres⟩
    · rw [hnull]
      exact mem_acceptName.2 (.inr (.inl ⟨rfl, .inl (namedEntries_eq_nil y q hne)⟩))
    · rw [hres]
      exact mem_acceptName.2 (.inl (hint_mem_namedEntries y q h he))
  · have hb : Spec.sorted (tablesOf y) (cstrOf y.exp.v) = false := by
      cases hv : Spec.sorted (tablesOf y) (cstrOf y.exp.v)
      · rfl
      · exact absurd hv hs
    rcases Dec.name_answer hn q with h0 | ⟨h, _, he, hres⟩ | ⟨h, e, hh, he, hres⟩
    · rw [h0]
      exact mem_acceptName.2 (.inr (.inl ⟨rfl, .inr hb⟩))
    · rw [hres]
      exact mem_acceptName.2 (.inl (hint_mem_namedEntries y q h he))
    · rw [hres]
      refine mem_acceptName.2 (.inr (.inr ⟨hb, ?_⟩))
      unfold Spec.nameReadFailures
      refine List.mem_filterMap.2 ⟨h, List.mem_range.2 (tablesOf_names_length y ▸ hh), ?_⟩
      rw [spec_nameOfHint_dec, he]
      rfl

/-- `By::hint_name` on ANY table: the same set — a right hint answers one of the entries named `q`
directly (`C08_hint_name_sound`), a wrong one inherits the binary search's answer. -/
theorem C08_hint_name_in_accept (y : By) (h : Nat) (q : List Nat) :
    mapOut (Export.abs y.b) (y.hintName h q) ∈ Spec.acceptName (tablesOf y) (cstrOf y.exp.v) q := by
  rw [hintName_abs_dec]
  unfold Dec.hintName
  split
  next hc => exact mem_acceptName.2 (.inl (hint_mem_namedEntries y q h hc.2))
  next => exact name_abs_dec y q ▸ C08_name_in_accept y q

/-- … and `By::import` with a `ByName` descriptor, `get_export` by name / by `ByName` descriptor
(whenever `exports()?.by()?` yields `y`). -/
theorem C08_import_in_accept (y : By) (h : Nat) (q : List Nat) :
    mapOut (Export.abs y.b) (y.import (.byName h q)) ∈ Spec.acceptName (tablesOf y) (cstrOf y.exp.v) q :=
  C08_hint_name_in_accept y h q

theorem C08_get_export_in_accept (v : View) (e : Exports) (y : By) (h : Nat) (q : List Nat)
    (he : tryFrom v = .ok e) (hy : e.by = .ok y) :
    mapOut (Export.abs y.b) (getExport v (.name q)) ∈ Spec.acceptName (tablesOf y) (cstrOf y.exp.v) q ∧
    mapOut (Export.abs y.b) (getExport v (.import (.byName h q))) ∈
      Spec.acceptName (tablesOf y) (cstrOf y.exp.v) q := by
  rw [(C08_get_export_cases v (.name q)).2.2 e y he hy,
      (C08_get_export_cases v (.import (.byName h q))).2.2 e y he hy]
  exact ⟨C08_name_in_accept y q, C08_import_in_accept y h q⟩

/-- What the set contains, read off its definition: every Ok member is what a hint named `q` denotes
(so membership of an Ok answer is exactly the soundness of `C08_name_sound`), and on a sorted table
the set is nothing but the named entries, or Null alone when there are none. -/
theorem C08_accept_members (T : Spec.Tables) (cs : Nat → Out (List Nat)) (q : List Nat) :
    (∀ s, .ok s ∈ Spec.acceptName T cs q →
      ∃ h, h < T.names.length ∧ Spec.nameOfHint T cs h = .ok q ∧ Spec.hint T cs h = .ok s) ∧
    (Spec.sorted T cs = true →
      Spec.acceptName T cs q =
        Spec.namedEntries T cs q ++ (if (Spec.namedEntries T cs q).isEmpty then [.err .null] else [])) := by
  refine ⟨?_, ?_⟩
  · intro s hs
    rcases mem_acceptName.1 hs with h1 | ⟨h2, _⟩ | ⟨_, h3⟩
    · unfold Spec.namedEntries Spec.hintsOf at h1
      obtain ⟨h, hh, he⟩ := List.mem_map.1 h1
      obtain ⟨hr, hq⟩ := List.mem_filter.1 hh
      exact ⟨h, List.mem_range.1 hr, of_decide_eq_true hq, he⟩
    · cases h2
    · unfold Spec.nameReadFailures at h3
      obtain ⟨h, _, hf⟩ := List.mem_filterMap.1 h3
      cases hn : Spec.nameOfHint T cs h <;> rw [hn] at hf <;> cases hf
  · intro hs
    unfold Spec.acceptName
    rw [hs, if_pos rfl, List.append_nil, Bool.not_true, Bool.or_false]

/-- non-vacuity on the UNSORTED table with a DUPLICATE name (`demoBy2`: names "c","c","a", indices
0, 3, 2): the set for "c" is both entries named "c" plus the Null an unsorted table may answer — the
binary search answers the second of them (the linear search the first); the set for "a" is the
forwarder plus Null — the binary search misses it and answers Null; a name that is not in the table
has Null alone.  None of the three is `Spec.nameDetermined`. -/
example :
    Spec.acceptName (tablesOf demoBy2) (cstrOf demoView2) [99] =
      [.ok (.symbol 16), .ok (.symbol 32), .err .null] ∧
    mapOut (Export.abs demoBy2.b) (demoBy2.name [99]) = .ok (.symbol 32) ∧
    mapOut (Export.abs demoBy2.b) (demoBy2.nameLinear [99]) = .ok (.symbol 16) ∧
    Spec.acceptName (tablesOf demoBy2) (cstrOf demoView2) [97] =
      [.ok (.forward [107, 46, 102]), .err .null] ∧
    demoBy2.name [97] = .err .null ∧
    mapOut (Export.abs demoBy2.b) (demoBy2.hintName 2 [97]) = .ok (.forward [107, 46, 102]) ∧
    Spec.acceptName (tablesOf demoBy2) (cstrOf demoView2) [98] = [.err .null] := by
  have hs : Spec.nameOfHint (tablesOf demoBy2) (cstrOf demoView2) = _ ∧ Spec.hint _ (cstrOf demoView2) = _ :=
    spec_dec demoBy2
  simp only [Spec.acceptName, Spec.namedEntries, Spec.hintsOf, Spec.sorted, Spec.nameReadFailures, hs.1, hs.2,
    tablesOf_names_length, name_abs_dec, nameLinear_abs_dec, hintName_abs_dec]
  simp only [name_dec, demoBy2_dec]
  decide +kernel

/-- a SORTED table with a duplicate name: `demoImg` with the name pointer table `[268 "a", 272 "c",
272 "c"]` (indices 0, 1, 3; entry 1 is a hole).  `check_sorted` answers true, `Spec.nameDetermined`
fails.  The set for "c" is `[Null (the hole), Symbol(32)]` with no further Null; the binary search
answers the hole's Null, `hint_name 2 "c"` the symbol; "b" is no longer a name: Null alone. -/
def demoImg3 : Img := ⟨demoImg.bytes.set! 252 16, 0⟩
def demoView3 : View := ⟨demoImg3, .pe32, .view, 0x400000⟩
def demoBy3 : By := ⟨⟨demoView3, 192, 86, 192⟩, ⟨232, 4, false⟩, ⟨248, 3, false⟩, ⟨260, 3, false⟩⟩

theorem demoBy3_dec : decOf demoBy3 =
    ⟨5, [.ok (.symbol ⟨232, 4, 4⟩, .symbol 16), .err .null, .ok (.forward ⟨274, 4, 1⟩, .forward [107, 46, 102]),
         .ok (.symbol ⟨244, 4, 4⟩, .symbol 32)],
        [.ok (⟨268, 2, 1⟩, [97]), .ok (⟨272, 2, 1⟩, [99]), .ok (⟨272, 2, 1⟩, [99])], [0, 1, 3]⟩ := by
  simp only [decOf, By.fnAt, By.nameAt, By.idxAt, Exports.base, View.dervaCStr, cstrFromBytes, findNul_eq, cstrBytes,
    le32_toNat, le16_toNat, byteAt_toNat]
  decide +kernel

example : (fromBytes .pe32 .view demoImg3).isOk = true ∧
    (tryFrom demoView3).bind (fun e => e.by.bind fun y => .ok (e.ddVA, e.ddSize, e.off, y.fns, y.names, y.idx)) =
      .ok (192, 86, 192, ⟨232, 4, false⟩, ⟨248, 3, false⟩, ⟨260, 3, false⟩) ∧
    demoBy3.checkSorted = .ok true ∧ Spec.sorted (tablesOf demoBy3) (cstrOf demoView3) = true ∧
    Spec.nameDetermined (tablesOf demoBy3) (cstrOf demoView3) = false ∧
    Spec.acceptName (tablesOf demoBy3) (cstrOf demoView3) [99] = [.err .null, .ok (.symbol 32)] ∧
    demoBy3.name [99] = .err .null ∧
    mapOut (Export.abs demoBy3.b) (demoBy3.hintName 2 [99]) = .ok (.symbol 32) ∧
    Spec.acceptName (tablesOf demoBy3) (cstrOf demoView3) [98] = [.err .null] ∧
    Spec.acceptName (tablesOf demoBy3) (cstrOf demoView3) [97] = [.ok (.symbol 16)] := by
  have hs : Spec.nameOfHint (tablesOf demoBy3) (cstrOf demoView3) = _ ∧ Spec.hint _ (cstrOf demoView3) = _ :=
    spec_dec demoBy3
  refine ⟨fromBytes_isOk (by simp only [Accept, hdr_toNat, le16_toNat, le32_toNat]; decide +kernel), ?_, ?_⟩
  · simp only [tryFrom_bind, View.dataDir_toNat, hdr_toNat, Exports.by, Exports.functions, Exports.names, Exports.nameIndices, Exports.nFns,
      Exports.nNames, Exports.aFns, Exports.aNames, Exports.aOrds, le32_toNat]
    decide +kernel
  simp only [Spec.acceptName, Spec.namedEntries, Spec.hintsOf, Spec.sorted, Spec.nameDetermined, Spec.nameReadFailures,
    hs.1, hs.2, tablesOf_names_length, hintName_abs_dec, checkSorted_dec, name_dec, demoBy3_dec]
  decide +kernel

/-- the theorems instantiated on both (membership decided independently of the proof) -/
example : mapOut (Export.abs demoBy2.b) (demoBy2.name [99]) ∈
    Spec.acceptName (tablesOf demoBy2) (cstrOf demoView2) [99] := C08_name_in_accept demoBy2 [99]
example : (Out.ok (.symbol 32) : Out Spec.Sym) ∈ Spec.acceptName (tablesOf demoBy2) (cstrOf demoView2) [99] ∧
    (Out.ok (.symbol 48) : Out Spec.Sym) ∉ Spec.acceptName (tablesOf demoBy2) (cstrOf demoView2) [99] ∧
    (Out.err .null : Out Spec.Sym) ∉ Spec.acceptName (tablesOf demoBy3) (cstrOf demoView3) [97] := by
  have h2 : Spec.nameOfHint (tablesOf demoBy2) (cstrOf demoView2) = _ ∧ Spec.hint _ (cstrOf demoView2) = _ :=
    spec_dec demoBy2
  have h3 : Spec.nameOfHint (tablesOf demoBy3) (cstrOf demoView3) = _ ∧ Spec.hint _ (cstrOf demoView3) = _ :=
    spec_dec demoBy3
  simp only [Spec.acceptName, Spec.namedEntries, Spec.hintsOf, Spec.sorted, Spec.nameReadFailures, h2.1, h2.2, h3.1, h3.2,
    tablesOf_names_length, demoBy2_dec, demoBy3_dec]
  decide +kernel

end Pelite.Exports
