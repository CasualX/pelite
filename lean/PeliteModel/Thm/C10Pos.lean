import PeliteModel.Thm.C10
import PeliteModel.Lemmas.ExecFrame
import PeliteModel.Lemmas.ParseShape
/-!
C10, continued: the ghost position `Res.pos` of the scanner model is what a reported match leaves in `save[0]`;
a scan writes only below `save_len(pat)`; every parsed pattern satisfies the pattern half of `Hyp`; `Hyp` on a
file view with two sections, and `SecWF` cannot be dropped from it; the counter `Matches::hits` is bounded by
the progress of `range.start`, so its checked `u32` increment cannot overflow.
-/
namespace Pelite.Scan
open Pelite.Pattern Pelite.Exec

/-! ## the reported position is `save[0]` -/

/-- **`Res.pos` is observable.**  Let the pattern start with `Save(0)` and let no later atom write
slot 0 (`slot0Reserved pat`, decidable).  Then one call of `next` returns normally, hands back a save
array of the length it was given, and — when it reports a match and the caller's array has a slot 0 —
that slot holds the model's ghost position `r.pos`.  So everything `Thm/C10.lean` says about `r.pos` / the positions in `All.hits`
is a statement about the value the Rust caller reads from `save[0]`. -/
theorem C10_pos_is_save0 (v : Pe.View) (hsz : v.b.size < 4294967296) (pat : List Atom)
    (hok : pat.all Atom.ok = true) (hres : slot0Reserved pat = true)
    (m : MSt) (save : Array Nat) (hstop : m.stop < 4294967296) :
    ∃ r, next v pat m save = .ok r ∧ r.save.size = save.size ∧
      (r.found = true → 0 < save.size → r.save[0]? = some r.pos) :=
  next_pos_save0 v hsz pat hres m save

/-- the same for the documented loop `while matches.next(&mut save) { … }`: every recorded pair
`(position, save array)` has the position in slot 0 of the array -/
theorem C10_scan_positions_are_save0 (v : Pe.View) (hsz : v.b.size < 4294967296) (pat : List Atom)
    (hok : pat.all Atom.ok = true) (hres : slot0Reserved pat = true)
    (lo hi : Nat) (hhi : hi < 4294967296) (n : Nat) (save : Array Nat) (hpos : 0 < save.size) :
    ∃ a, scanAll (next v pat) n (matchesInit lo hi) save = .ok a ∧
      ∀ x ∈ a.hits, x.2.size = save.size ∧ x.2[0]? = some x.1 := by
  obtain ⟨a, ha, _, h2, _, _⟩ := scanAll_sound (ex := interp v pat) (nx := next v pat) hi
    (next_sound v hsz pat)
    n (matchesInit lo hi) save rfl
  refine ⟨a, ha, fun x hx => ?_⟩
  have hfr := ((scanAll_frame v pat n _ save a ha).2 x hx).1
  obtain ⟨_, _, s, hrun⟩ := h2 x hx
  obtain ⟨h1, h3⟩ := run_first_save (ofView v) pat hres x.1 s x.2 true hrun
  exact ⟨hfr, h3 (by rw [← h1, hfr]; exact hpos)⟩

/-- the hypotheses on a non-trivial instance (nested frames, alternatives, reads; slot 0 named once) -/
example : slot0Reserved [.save 0, .byte 0xe8, .push 4, .jump4, .save 1, .case 3, .byte 0x6a, .readU8 2, .brk 2,
    .nop, .byte 0x68, .pop, .zero 3, .check 0] = true ∧
    slot0Reserved [.save 0, .byte 1, .readU8 0] = false := by decide

/-- **every parsed pattern has that shape**: the parser emits `Save(0)` first and its slot counter
starts at 1 and never returns to 0 (`Thm/C11Frame.lean:C11_parse_slot0_only_first`) -/
theorem C10_parse_slot0_reserved (s : List UInt8) (pat : List Atom) (hp : parse s = .ok pat) :
    slot0Reserved pat = true := by
  have hsh := parse_shape hp
  refine slot0Reserved_of (parse_trimmedOK hp).first ?_
  intro j a hj ha hw'
  have := (hsh j a ha).2 0 (slotOf_of_wslot hw') hj
  omega

/-- … so for every pattern string that parses, a reported match leaves its position in `save[0]` — "the first entry in the save array is reserved for the rva where
the pattern was matched" (documentation of `pattern::parse`). -/
theorem C10_pos_is_save0_parsed (s : List UInt8) (pat : List Atom) (hp : parse s = .ok pat)
    (v : Pe.View) (hsz : v.b.size < 4294967296) (m : MSt) (save : Array Nat) (hstop : m.stop < 4294967296) :
    ∃ r, next v pat m save = .ok r ∧ r.save.size = save.size ∧
      (r.found = true → 0 < save.size → r.save[0]? = some r.pos) :=
  next_pos_save0 v hsz pat (C10_parse_slot0_reserved s pat hp) m save

/-! ## what a scan does to the rest of the save array -/

/-- one call of `next`, ANY atom list, any image: the caller's save array keeps its length, and every
index at or beyond `save_len(pat)` keeps its value — whether or not a match is reported, and however
many positions were tried and rejected on the way -/
theorem C10_next_writes_below_save_len (v : Pe.View) (pat : List Atom) (m : MSt) (save : Array Nat) (r : Res)
    (h : next v pat m save = .ok r) :
    r.save.size = save.size ∧ ∀ i : Nat, saveLen pat ≤ i → r.save[i]? = save[i]? := by
  obtain ⟨h1, h2⟩ := next_frame v pat m save r h
  exact ⟨h1, fun i hi => h2 i (not_written_of_saveLen_le hi)⟩

/-- … and a whole scan: every recorded save array and the final one -/
theorem C10_scan_writes_below_save_len (v : Pe.View) (pat : List Atom) (n : Nat) (m : MSt) (save : Array Nat)
    (a : All) (h : scanAll (next v pat) n m save = .ok a) :
    (a.save.size = save.size ∧ ∀ i : Nat, saveLen pat ≤ i → a.save[i]? = save[i]?) ∧
    ∀ x ∈ a.hits, x.2.size = save.size ∧ ∀ i : Nat, saveLen pat ≤ i → x.2[i]? = save[i]? := by
  obtain ⟨h1, h2⟩ := scanAll_frame v pat n m save a h
  exact ⟨⟨h1.1, fun i hi => h1.2 i (not_written_of_saveLen_le hi)⟩,
    fun x hx => ⟨(h2 x hx).1, fun i hi => (h2 x hx).2 i (not_written_of_saveLen_le hi)⟩⟩

/-! ## parsed patterns satisfy the pattern half of `Hyp` -/

/-- For a pattern that came out of `pattern::parse`, `Hyp` is a condition on the image and the range
only: buffer and range bounds below 4 GiB and, for file views, the `SecWF` section table.  No
documented pattern feature is outside the completeness theorems (the five atoms the parser never
emits — `Fuzzy`, `Back`, `Pir`, `VTypeName`, `Check` — are reachable through hand-written atom lists
only; of these `Pir` and `Check` are excluded by `noRead`). -/
theorem C10_hyp_of_parse (s : List UInt8) (pat : List Atom) (hp : parse s = .ok pat) (v : Pe.View) (lo hi : Nat)
    (hsz : v.b.size < 4294967296) (hlo : lo < 4294967296) (hhi : hi < 4294967296)
    (hwf : v.kind = .file → SecWF v.secs) : Hyp v pat lo hi :=
  ⟨(parse_scannable hp).1, (parse_scannable hp).2, hsz, hlo, hhi, hwf⟩

/-- **C10 for pattern strings.**  For every pattern string that parses, every image below 4 GiB (file
views: `SecWF` section table), every range and every save array with at least one slot: the
exhausted scan reports a strictly ascending list of positions of the range at which the pattern
executes, containing every candidate position at which it executes, and the caller finds each
reported position in `save[0]` of the array recorded with it. -/
theorem C10_scan_exact_parsed (s : List UInt8) (pat : List Atom) (hp : parse s = .ok pat) (v : Pe.View) (lo hi : Nat)
    (hsz : v.b.size < 4294967296) (hlo : lo < 4294967296) (hhi : hi < 4294967296)
    (hwf : v.kind = .file → SecWF v.secs) (n : Nat) (hn : hi - lo < n) (save : Array Nat) (hpos : 0 < save.size) :
    ∃ a, scanAll (next v pat) n (matchesInit lo hi) save = .ok a ∧ a.exhausted = true ∧
      (a.hits.map (·.1)).Pairwise (· < ·) ∧
      (∀ p ∈ a.hits.map (·.1), lo ≤ p ∧ p < hi ∧ execOK v pat p = true) ∧
      (∀ p ∈ specMatches v pat lo hi, p ∈ a.hits.map (·.1)) ∧
      ∀ x ∈ a.hits, x.2.size = save.size ∧ x.2[0]? = some x.1 := by
  have hH := C10_hyp_of_parse s pat hp v lo hi hsz hlo hhi hwf
  obtain ⟨a, ha, h1, h2, h3, h4⟩ := C10_scan_exact v pat lo hi hH n hn save
  obtain ⟨a', ha', h5⟩ := C10_scan_positions_are_save0 v hsz pat hH.1 (C10_parse_slot0_reserved s pat hp)
    lo hi hhi n save hpos
  rw [ha] at ha'
  cases ha'
  exact ⟨a, ha, h1, h2, h3, h4, h5⟩

/-! ## witnesses -/

/-- A PE32 file of 352 bytes with no data directories (`e_lfanew = 0x40`, `NumberOfSections = 2`,
`SizeOfOptionalHeader = 96`, `FileAlignment = 0x20`, `SizeOfHeaders = 0x120`, `SizeOfImage = 0x3000`); section
table at 184: `.text` (VirtualSize 0x20, VirtualAddress 0x1000, SizeOfRawData 0x20, PointerToRawData 0x120),
then `.data` (VirtualSize 0x18, VirtualAddress 0x2000, SizeOfRawData 0x20, PointerToRawData 0x140); raw data:
`aa bb 00 cc` at rva 0x1004, `aa bb 00 dd` at 0x1010, `aa bb 11 cc` at rva 0x2008 -/
def wSortedBytes : Bytes :=
  #[77, 90, 0, 0, 0, 0, 0, 0, 0, 0, 0, 0, 0, 0, 0, 0, 0, 0, 0, 0, 0, 0, 0, 0, 0, 0, 0, 0, 0, 0, 0, 0, 0, 0, 0, 0,
  0, 0, 0, 0, 0, 0, 0, 0, 0, 0, 0, 0, 0, 0, 0, 0, 0, 0, 0, 0, 0, 0, 0, 0, 64, 0, 0, 0, 80, 69, 0, 0, 76, 1, 2,
  0, 0, 0, 0, 95, 0, 0, 0, 0, 0, 0, 0, 0, 96, 0, 2, 33, 11, 1, 14, 0, 32, 0, 0, 0, 0, 2, 0, 0, 0, 0, 0, 0, 0,
  16, 0, 0, 0, 16, 0, 0, 0, 32, 0, 0, 0, 0, 64, 0, 0, 16, 0, 0, 32, 0, 0, 0, 6, 0, 0, 0, 0, 0, 0, 0, 6, 0, 0,
  0, 0, 0, 0, 0, 0, 48, 0, 0, 32, 1, 0, 0, 0, 0, 0, 0, 3, 0, 64, 129, 0, 0, 16, 0, 0, 16, 0, 0, 0, 0, 16, 0, 0,
  16, 0, 0, 0, 0, 0, 0, 0, 0, 0, 0, 46, 116, 101, 120, 116, 0, 0, 0, 32, 0, 0, 0, 0, 16, 0, 0, 32, 0, 0, 0, 32,
  1, 0, 0, 0, 0, 0, 0, 0, 0, 0, 0, 0, 0, 0, 0, 32, 0, 0, 96, 46, 100, 97, 116, 97, 0, 0, 0, 24, 0, 0, 0, 0, 32,
  0, 0, 32, 0, 0, 0, 64, 1, 0, 0, 0, 0, 0, 0, 0, 0, 0, 0, 0, 0, 0, 0, 64, 0, 0, 192, 0, 0, 0, 0, 0, 0, 0, 0, 0,
  0, 0, 0, 0, 0, 0, 0, 0, 0, 0, 0, 0, 0, 0, 0, 0, 0, 0, 0, 170, 187, 0, 204, 0, 0, 0, 0, 0, 0, 0, 0, 170, 187,
  0, 221, 0, 0, 0, 0, 0, 0, 0, 0, 0, 0, 0, 0, 0, 0, 0, 0, 0, 0, 0, 0, 170, 187, 17, 204, 0, 0, 0, 0, 0, 0, 0,
  0, 0, 0, 0, 0, 0, 0, 0, 0, 0, 0, 0, 0]
/-- the same file with the two 40-byte section headers exchanged: `.data` (0x2000) first, then `.text` (0x1000) -/
def wDescBytes : Bytes :=
  #[77, 90, 0, 0, 0, 0, 0, 0, 0, 0, 0, 0, 0, 0, 0, 0, 0, 0, 0, 0, 0, 0, 0, 0, 0, 0, 0, 0, 0, 0, 0, 0, 0, 0, 0, 0,
  0, 0, 0, 0, 0, 0, 0, 0, 0, 0, 0, 0, 0, 0, 0, 0, 0, 0, 0, 0, 0, 0, 0, 0, 64, 0, 0, 0, 80, 69, 0, 0, 76, 1, 2,
  0, 0, 0, 0, 95, 0, 0, 0, 0, 0, 0, 0, 0, 96, 0, 2, 33, 11, 1, 14, 0, 32, 0, 0, 0, 0, 2, 0, 0, 0, 0, 0, 0, 0,
  16, 0, 0, 0, 16, 0, 0, 0, 32, 0, 0, 0, 0, 64, 0, 0, 16, 0, 0, 32, 0, 0, 0, 6, 0, 0, 0, 0, 0, 0, 0, 6, 0, 0,
  0, 0, 0, 0, 0, 0, 48, 0, 0, 32, 1, 0, 0, 0, 0, 0, 0, 3, 0, 64, 129, 0, 0, 16, 0, 0, 16, 0, 0, 0, 0, 16, 0, 0,
  16, 0, 0, 0, 0, 0, 0, 0, 0, 0, 0, 46, 100, 97, 116, 97, 0, 0, 0, 24, 0, 0, 0, 0, 32, 0, 0, 32, 0, 0, 0, 64,
  1, 0, 0, 0, 0, 0, 0, 0, 0, 0, 0, 0, 0, 0, 0, 64, 0, 0, 192, 46, 116, 101, 120, 116, 0, 0, 0, 32, 0, 0, 0, 0,
  16, 0, 0, 32, 0, 0, 0, 32, 1, 0, 0, 0, 0, 0, 0, 0, 0, 0, 0, 0, 0, 0, 0, 32, 0, 0, 96, 0, 0, 0, 0, 0, 0, 0, 0,
  0, 0, 0, 0, 0, 0, 0, 0, 0, 0, 0, 0, 0, 0, 0, 0, 0, 0, 0, 0, 170, 187, 0, 204, 0, 0, 0, 0, 0, 0, 0, 0, 170,
  187, 0, 221, 0, 0, 0, 0, 0, 0, 0, 0, 0, 0, 0, 0, 0, 0, 0, 0, 0, 0, 0, 0, 170, 187, 17, 204, 0, 0, 0, 0, 0, 0,
  0, 0, 0, 0, 0, 0, 0, 0, 0, 0, 0, 0, 0, 0]

def wSorted : Pe.View := ⟨⟨wSortedBytes, 0⟩, .pe32, .file, 0x400000⟩
def wDesc : Pe.View := ⟨⟨wDescBytes, 0⟩, .pe32, .file, 0x400000⟩
/-- "the same file": the two images differ in the order of the two section headers only -/
example : wDescBytes.toList = wSortedBytes.toList.take 184 ++ (wSortedBytes.toList.drop 224).take 40 ++
    (wSortedBytes.toList.drop 184).take 40 ++ wSortedBytes.toList.drop 264 := by decide +kernel

/-- `aa bb ' ? cc` -/
def wPat : List Atom := [.save 0, .byte 0xAA, .byte 0xBB, .save 1, .skip 1, .byte 0xCC]

/-- acceptance, the image base and the section table of each, from one evaluation; the table is put in wherever it is
visible before an evaluation -/
theorem wSorted_hdr : Pe.Accept .pe32 wSorted.img ∧ Pe.imageBaseField .pe32 wSorted.b = 0x400000 ∧ wSorted.secs =
    [⟨0x7865742e, 0x74, 32, 0x1000, 32, 288, 0x60000020⟩, ⟨0x7461642e, 0x61, 24, 0x2000, 32, 320, 0xC0000040⟩] := by
  simp only [Pe.Accept, Pe.View.secs, Pe.sections, Pe.secAt, Pe.hdr_toNat, le32_toNat]; decide +kernel
theorem wDesc_hdr : Pe.Accept .pe32 wDesc.img ∧ Pe.imageBaseField .pe32 wDesc.b = 0x400000 ∧ wDesc.secs =
    [⟨0x7461642e, 0x61, 24, 0x2000, 32, 320, 0xC0000040⟩, ⟨0x7865742e, 0x74, 32, 0x1000, 32, 288, 0x60000020⟩] := by
  simp only [Pe.Accept, Pe.View.secs, Pe.sections, Pe.secAt, Pe.hdr_toNat, le32_toNat]; decide +kernel

/-- both are what `PeFile::from_bytes` constructs from those bytes (the headers validate) -/
theorem wSorted_from_bytes : Pe.fromBytes .pe32 .file wSorted.img = .ok wSorted :=
  Pe.fromBytes_ok_of wSorted_hdr.1 wSorted_hdr.2.1

theorem wDesc_from_bytes : Pe.fromBytes .pe32 .file wDesc.img = .ok wDesc :=
  Pe.fromBytes_ok_of wDesc_hdr.1 wDesc_hdr.2.1

/-- the pattern is what the parser makes of `aa bb ' ? cc` -/
theorem wPat_parsed : parse "aa bb ' ? cc".toUTF8.toList = .ok wPat := by decide +kernel

example : parse "aa bb ' ? cc".toUTF8.toList = .ok wPat := wPat_parsed

theorem wSorted_scan : wSorted.b.size < 4294967296 ∧ SecWF wSorted.secs ∧ wSorted.secs.length = 2 ∧
    scanAll (next wSorted wPat) 4 (matchesInit 0 0x3000) #[0, 0, 7] =
      .ok ⟨[(0x1004, #[0x1004, 0x1006, 7]), (0x2008, #[0x2008, 0x200a, 7])], ⟨0x2020, 0x3000, 3⟩, #[0x2008, 0x200a, 7], true⟩ ∧
    ∀ p ∈ [0x1004, 0x2008], IsCand wSorted (setup wPat).length 0 0x3000 p := by
  rw [next_eq_plan]
  simp only [interp, ofView_toNat, planV_file (v := wSorted) rfl, IsCand_file (v := wSorted) rfl,
    Pe.View.slice_file (v := wSorted) rfl, wSorted_hdr.2.2]
  decide +kernel

/-- **`Hyp` on a file view** with two sections (so `SecWF` is a real condition), and the reference
list is not empty: one match in each section (the reference list is what the exhausted scan reported,
`specMatches_eq_hits`) -/
example : Hyp wSorted wPat 0 0x3000 ∧ SecWF wSorted.secs ∧ wSorted.secs.length = 2 ∧
    specMatches wSorted wPat 0 0x3000 = [0x1004, 0x2008] := by
  obtain ⟨hsz, hwf, hlen, hscan, hcand⟩ := wSorted_scan
  have hH := C10_hyp_of_parse _ _ wPat_parsed wSorted 0 0x3000 hsz (by decide) (by decide) fun _ => hwf
  exact ⟨hH, hwf, hlen, specMatches_eq_hits hH hscan rfl hcand⟩

/-- … and the scan of that file reports exactly the reference list, with the positions in slot 0, the
bookmark in slot 1 and slot 2 (beyond `save_len = 2`) untouched -/
example : scanAll (next wSorted wPat) 4 (matchesInit 0 0x3000) #[0, 0, 7] =
    .ok ⟨[(0x1004, #[0x1004, 0x1006, 7]), (0x2008, #[0x2008, 0x200a, 7])], ⟨0x2020, 0x3000, 3⟩, #[0x2008, 0x200a, 7], true⟩ :=
  wSorted_scan.2.2.2.1

/-- **`SecWF` is needed.**  Every conjunct of `Hyp` other than `SecWF` holds for the file with the
descending section table, the scan runs to exhaustion, and yet the match at rva 0x1004 — a member of
the reference list — is not reported: after the `.data` section (listed first) the section loop has
moved `range.start` to 0x2020 and the overlap test then skips `.text`.  The real code behaves the
same (corpus file `corpus/C10/secwf_witnesses.txt`, replayed against the real code on every check:
answer `[8200{8200,8202,0}]`; `finds` over the same range even answers `true`). -/
theorem C10_scan_complete_needs_SecWF :
    ∃ (v : Pe.View) (pat : List Atom) (lo hi n : Nat) (save : Array Nat) (a : All),
      Pe.fromBytes .pe32 .file v.img = .ok v ∧
      pat.all Atom.ok = true ∧ pat.all noRead = true ∧ v.b.size < 4294967296 ∧ lo < 4294967296 ∧ hi < 4294967296 ∧
      ¬ SecWF v.secs ∧
      scanAll (next v pat) n (matchesInit lo hi) save = .ok a ∧ a.exhausted = true ∧
      ∃ p ∈ specMatches v pat lo hi, p ∉ a.hits.map (·.1) := by
  -- one evaluation of the image; membership in the reference list is decided at the one position
  have h : wDesc.b.size < 4294967296 ∧ ¬ SecWF wDesc.secs ∧
      scanAll (next wDesc wPat) 4 (matchesInit 0 0x3000) #[0, 0] =
        .ok ⟨[(0x2008, #[0x2008, 0x200a])], ⟨0x2020, 0x3000, 1⟩, #[0x2008, 0x200a], true⟩ ∧
      IsCand wDesc (setup wPat).length 0 0x3000 0x1004 ∧ execOK wDesc wPat 0x1004 = true := by
    rw [next_eq_plan]
    simp only [interp, ofView_toNat, planV_file (v := wDesc) rfl, IsCand_file (v := wDesc) rfl,
      Pe.View.slice_file (v := wDesc) rfl, wDesc_hdr.2.2]
    decide +kernel
  exact ⟨wDesc, wPat, 0, 0x3000, 4, #[0, 0], _, wDesc_from_bytes, by decide, by decide, h.1, by decide, by decide,
    h.2.1, h.2.2.1, rfl, 0x1004, (mem_specMatches ..).2 h.2.2.2, by decide⟩

/-- so the conclusion of `C10_scan_complete` is false for it: the hypothesis `SecWF` of `Hyp` cannot be removed -/
theorem C10_scan_complete_without_SecWF_false :
    ¬ ∀ (v : Pe.View) (pat : List Atom) (lo hi : Nat),
        (pat.all Atom.ok = true ∧ pat.all noRead = true ∧ v.b.size < 4294967296 ∧ lo < 4294967296 ∧ hi < 4294967296) →
        ∀ (n : Nat) (save : Array Nat) (a : All), scanAll (next v pat) n (matchesInit lo hi) save = .ok a →
          a.exhausted = true → ∀ p ∈ specMatches v pat lo hi, p ∈ a.hits.map (·.1) := by
  intro h
  obtain ⟨v, pat, lo, hi, n, save, a, _, h1, h2, h3, h4, h5, _, h7, h8, p, hp, hnp⟩ := C10_scan_complete_needs_SecWF
  exact hnp (h v pat lo hi ⟨h1, h2, h3, h4, h5⟩ n save a h7 h8 p hp)

/-! ## the performance counter `hits` and the progress of `range.start` -/

/-- **One returning call of `next`, ANY interpreter, any prefix list, any image** (file or mapped,
any section table), any `Matches` state and save array — no hypothesis besides "the call returns"
(a panic of the checked `u32` range arithmetic is a non-`ok` result; `C10_next_sound` shows when none
occurs).  `range.end` is untouched; `range.start` never decreases and never passes
`max range.start range.end`; `hits` never decreases and grows by at most the number of positions
`range.start` advanced; a reported position lies in `[range.start before, range.start after)` and
cost at least one interpreter call. -/
theorem C10_hits_bounded_with (ex : Interp) (v : Pe.View) (qs : List Nat) (m : MSt) (s : Array Nat) (r : Res)
    (h : nextWith ex v qs m s = .ok r) :
    r.m.stop = m.stop ∧ m.start ≤ r.m.start ∧ r.m.start ≤ max m.start m.stop ∧
    m.hits ≤ r.m.hits ∧ r.m.hits ≤ m.hits + (r.m.start - m.start) ∧
    (r.found = true → m.start ≤ r.pos ∧ r.pos < r.m.start ∧ m.hits + 1 ≤ r.m.hits) := by
  have A := (nextWith_returns (Interp.keeps_true ex) v qs m s r h).adv
  have := A.hits_le; have := A.start_le
  exact ⟨A.stop_eq, A.start_le, A.start_bound, A.hits_ge, by omega, A.found⟩

/-- **`hits` is bounded by the progress of `range.start`** — `Matches::next` itself, every image,
every atom list, no hypothesis besides "the call returns" -/
theorem C10_hits_bounded (v : Pe.View) (pat : List Atom) (m : MSt) (s : Array Nat) (r : Res)
    (h : next v pat m s = .ok r) : m.start ≤ r.m.start ∧ r.m.hits ≤ m.hits + (r.m.start - m.start) := by
  have A := next_advance h
  have := A.hits_le; have := A.start_le
  exact ⟨A.start_le, by omega⟩

/-- the remaining facts of `C10_hits_bounded_with` for `Matches::next` -/
theorem C10_next_advance (v : Pe.View) (pat : List Atom) (m : MSt) (s : Array Nat) (r : Res)
    (h : next v pat m s = .ok r) :
    r.m.stop = m.stop ∧ r.m.start ≤ max m.start m.stop ∧ m.hits ≤ r.m.hits ∧
    (r.found = true → m.start ≤ r.pos ∧ r.pos < r.m.start ∧ m.hits + 1 ≤ r.m.hits) := by
  have A := next_advance h
  exact ⟨A.stop_eq, A.start_bound, A.hits_ge, A.found⟩

/-- PE32 FILE (`wSorted`, two sections, first-byte scan): the first call examines rva 0x1004 only -/
example : (next wSorted wPat (matchesInit 0 0x3000) #[0, 0]).bind (fun r => .ok (r.found, r.pos, r.m)) =
    .ok (true, 0x1004, ⟨0x1005, 0x3000, 1⟩) := by
  rw [next_eq_plan]
  simp only [interp, ofView_toNat, planV_file (v := wSorted) rfl, Pe.View.slice_file (v := wSorted) rfl, wSorted_hdr.2.2]
  decide +kernel
/-- … the second call examines 0x1010 (`aa bb 00 dd`, rejected) in `.text` and reports 0x2008 in `.data` -/
example : (next wSorted wPat ⟨0x1005, 0x3000, 1⟩ #[0, 0]).bind (fun r => .ok (r.found, r.pos, r.m)) =
    .ok (true, 0x2008, ⟨0x2009, 0x3000, 3⟩) := by
  rw [next_eq_plan]
  simp only [interp, ofView_toNat, planV_file (v := wSorted) rfl, Pe.View.slice_file (v := wSorted) rfl, wSorted_hdr.2.2]
  decide +kernel

/-- A PE32+ image of 352 bytes whose file layout is its memory layout (`e_lfanew = 0x40`,
`NumberOfSections = 2`, `SizeOfOptionalHeader = 112`, no data directories, `SizeOfHeaders = 0x120`,
`SizeOfImage = 0x160`, `BaseOfCode = 0x120`, `SizeOfCode = 0x20`; section table at 0xC8: `.text`
VirtualSize 0x20, VirtualAddress = PointerToRawData = 0x120, SizeOfRawData 0x20; `.data` VirtualSize
0x18, VirtualAddress = PointerToRawData = 0x140, SizeOfRawData 0x20); `aa bb 00 cc` at 0x124,
`aa bb 00 dd` at 0x130, `aa bb 11 cc` at 0x148.  The real `PeFile::from_bytes` and
`PeView::from_bytes` (pe64) both accept these bytes. -/
def h64Bytes : Bytes :=
  #[77, 90, 0, 0, 0, 0, 0, 0, 0, 0, 0, 0, 0, 0, 0, 0, 0, 0, 0, 0, 0, 0, 0, 0, 0, 0, 0, 0, 0, 0, 0, 0, 0, 0,
  0, 0, 0, 0, 0, 0, 0, 0, 0, 0, 0, 0, 0, 0, 0, 0, 0, 0, 0, 0, 0, 0, 0, 0, 0, 0, 64, 0, 0, 0, 80, 69, 0, 0,
  100, 134, 2, 0, 0, 0, 0, 95, 0, 0, 0, 0, 0, 0, 0, 0, 112, 0, 34, 32, 11, 2, 14, 0, 32, 0, 0, 0, 32, 0, 0,
  0, 0, 0, 0, 0, 32, 1, 0, 0, 32, 1, 0, 0, 0, 0, 0, 64, 1, 0, 0, 0, 32, 0, 0, 0, 32, 0, 0, 0, 6, 0, 0, 0, 0,
  0, 0, 0, 6, 0, 0, 0, 0, 0, 0, 0, 96, 1, 0, 0, 32, 1, 0, 0, 0, 0, 0, 0, 3, 0, 64, 129, 0, 0, 16, 0, 0, 0,
  0, 0, 0, 16, 0, 0, 0, 0, 0, 0, 0, 0, 16, 0, 0, 0, 0, 0, 0, 16, 0, 0, 0, 0, 0, 0, 0, 0, 0, 0, 0, 0, 0, 0,
  46, 116, 101, 120, 116, 0, 0, 0, 32, 0, 0, 0, 32, 1, 0, 0, 32, 0, 0, 0, 32, 1, 0, 0, 0, 0, 0, 0, 0, 0, 0,
  0, 0, 0, 0, 0, 32, 0, 0, 96, 46, 100, 97, 116, 97, 0, 0, 0, 24, 0, 0, 0, 64, 1, 0, 0, 32, 0, 0, 0, 64, 1,
  0, 0, 0, 0, 0, 0, 0, 0, 0, 0, 0, 0, 0, 0, 64, 0, 0, 192, 0, 0, 0, 0, 0, 0, 0, 0, 0, 0, 0, 0, 170, 187, 0,
  204, 0, 0, 0, 0, 0, 0, 0, 0, 170, 187, 0, 221, 0, 0, 0, 0, 0, 0, 0, 0, 0, 0, 0, 0, 0, 0, 0, 0, 0, 0, 0, 0,
  170, 187, 17, 204, 0, 0, 0, 0, 0, 0, 0, 0, 0, 0, 0, 0, 0, 0, 0, 0, 0, 0, 0, 0]
def h64File : Pe.View := ⟨⟨h64Bytes, 0⟩, .pe64, .file, 0x140000000⟩
def h64View : Pe.View := ⟨⟨h64Bytes, 0⟩, .pe64, .view, 0x140000000⟩

theorem h64File_hdr : Pe.Accept .pe64 h64File.img ∧ Pe.imageBaseField .pe64 h64File.b = 0x140000000 ∧ h64File.secs =
    [⟨0x7865742e, 0x74, 32, 288, 32, 288, 0x60000020⟩, ⟨0x7461642e, 0x61, 24, 320, 32, 320, 0xC0000040⟩] := by
  simp only [Pe.Accept, Pe.View.secs, Pe.sections, Pe.secAt, Pe.hdr_toNat, le32_toNat]; decide +kernel

theorem h64_from_bytes : Pe.fromBytes .pe64 .file h64File.img = .ok h64File ∧
    Pe.fromBytes .pe64 .view h64View.img = .ok h64View :=
  ⟨Pe.fromBytes_ok_of h64File_hdr.1 h64File_hdr.2.1, Pe.fromBytes_ok_of h64File_hdr.1 h64File_hdr.2.1⟩

/-- PE32+ FILE, quick search (prefix `aa bb 00 dd` of 4 bytes): one window compares equal, one interpreter call,
`range.start = cursor + jump` -/
example : (next h64File [.save 0, .byte 0xAA, .byte 0xBB, .byte 0, .byte 0xDD] (matchesInit 0 0x160) #[0]).bind
    (fun r => .ok (r.found, r.pos, r.m)) = .ok (true, 0x130, ⟨0x134, 0x160, 1⟩) := by
  rw [next_eq_plan]
  simp only [interp, ofView_toNat, planV_file (v := h64File) rfl, Pe.View.slice_file (v := h64File) rfl, h64File_hdr.2.2]
  decide +kernel
/-- PE32+ VIEW, brute force (no literal prefix) -/
example : (next h64View [.save 0, .skip 1, .byte 0xBB, .byte 0x11] (matchesInit 0x120 0x150) #[0]).bind
    (fun r => .ok (r.found, r.pos, r.m)) = .ok (true, 0x148, ⟨0x149, 0x150, 41⟩) := by
  rw [next_eq_plan]; simp only [interp, ofView_toNat]; decide +kernel
/-- PE32 VIEW (the bytes of `wSorted` taken as a mapped image), first-byte scan over the headers and beyond -/
example : (next { wSorted with kind := .view } wPat (matchesInit 0 0x160) #[0, 0]).bind
    (fun r => .ok (r.found, r.pos, r.m)) = .ok (true, 0x124, ⟨0x125, 0x160, 1⟩) := by rw [next_eq_plan]; simp only [interp, ofView_toNat]; decide +kernel

/-- **A whole scan** `while matches.next(&mut save) { … }` (at most `n` calls), from any state: at
the end `range.end` is what it was, `range.start` has not decreased and is at most
`max range.start range.end`; the counter grew by at least the number of reported matches and by at
most the number of positions `range.start` advanced; every reported position lies in
`[range.start at the beginning, range.start at the end)`. -/
theorem C10_scan_hits (v : Pe.View) (pat : List Atom) (n : Nat) (m : MSt) (save : Array Nat) (a : All)
    (h : scanAll (next v pat) n m save = .ok a) :
    a.m.stop = m.stop ∧ m.start ≤ a.m.start ∧ a.m.start ≤ max m.start m.stop ∧
    m.hits + a.hits.length ≤ a.m.hits ∧ a.m.hits ≤ m.hits + (a.m.start - m.start) ∧
    ∀ x ∈ a.hits, m.start ≤ x.1 ∧ x.1 < a.m.start := by
  obtain ⟨h1, h2, h3, _, h5⟩ := Reach_hits (nx := next v pat) (fun _ _ _ => next_advance)
    (scanAll_reach n m m save a .refl h)
  obtain ⟨h4, h6⟩ := scanAll_hits (nx := next v pat) (fun _ _ _ => next_advance) n m save a h
  exact ⟨h1, h2, h3, h4, by omega, h6⟩

/-- **The checked `u32` increment `self.hits += 1` cannot overflow.**  Take a `Matches` object made
by `Scanner::matches(pat, lo..hi)` (`hi` a `u32`) and ANY finite sequence of returning calls of
`next` on it, each with a save array of the caller's choice (`Reach`).  In the state it is left in:
`range.start ≤ max lo hi`, and the counter is at most the number of positions `range.start` advanced,
hence at most `hi - lo` and below `2^32`.  (The counter only grows during a search — the loop lemma
`Lemmas/ScanPlan.lean:firstHit_asc` holds from every entry of the plan — so every value it
takes during a returning call is bounded by the value at the end of that call.) -/
theorem C10_hits_no_overflow (v : Pe.View) (pat : List Atom) (lo hi : Nat) (hhi : hi < 4294967296) (m : MSt)
    (h : Reach (next v pat) (matchesInit lo hi) m) :
    m.stop = hi ∧ lo ≤ m.start ∧ m.start ≤ max lo hi ∧ m.hits ≤ m.start - lo ∧ m.hits ≤ hi - lo ∧
    m.hits < 4294967296 := by
  obtain ⟨h1, h2, h3, _, h5⟩ := Reach_hits (nx := next v pat) (fun _ _ _ => next_advance) h
  simp only [matchesInit] at h1 h2 h3 h5
  exact ⟨h1, h2, h3, by omega, by omega, by omega⟩

/-- the same for `Scanner::matches_code` (`headers().code_range()`: its end is a `u32`,
`C10_matches_code_range`), no hypothesis at all -/
theorem C10_hits_no_overflow_code (v : Pe.View) (pat : List Atom) (m : MSt)
    (h : Reach (next v pat) (matchesCodeInit v) m) :
    m.stop = (matchesCodeInit v).stop ∧ (matchesCodeInit v).start ≤ m.start ∧
    m.hits ≤ m.start - (matchesCodeInit v).start ∧ m.hits ≤ (matchesCodeInit v).stop - (matchesCodeInit v).start ∧
    m.hits < 4294967296 := by
  obtain ⟨h0, h1⟩ := C10_matches_code_range v
  rw [h0] at h
  obtain ⟨a1, a2, _, a4, a5, a6⟩ := C10_hits_no_overflow v pat _ _ (by rw [h0] at h1; exact h1) m h
  rw [h0]
  exact ⟨a1, a2, a4, a5, a6⟩

/-- the scan loop is such a sequence: `C10_hits_no_overflow` applies to the final state of `scanAll` -/
theorem C10_scan_hits_no_overflow (v : Pe.View) (pat : List Atom) (lo hi : Nat) (hhi : hi < 4294967296)
    (n : Nat) (save : Array Nat) (a : All) (h : scanAll (next v pat) n (matchesInit lo hi) save = .ok a) :
    a.hits.length ≤ a.m.hits ∧ a.m.hits ≤ a.m.start - lo ∧ a.m.start ≤ max lo hi ∧ a.m.hits ≤ hi - lo ∧
    a.m.hits < 4294967296 := by
  obtain ⟨_, _, h3, h4, h5, h6⟩ := C10_hits_no_overflow v pat lo hi hhi a.m (scanAll_reach n _ _ save a Reach.refl h)
  obtain ⟨_, _, _, g4, _, _⟩ := C10_scan_hits v pat n _ save a h
  simp only [matchesInit] at g4
  exact ⟨by omega, h4, h3, h5, h6⟩

/-- the bound `hits ≤ hi - lo` is attained: PE32+ view, brute force over `0x120..0x150` — 48 positions, 48 interpreter calls -/
example : (scanAll (next h64View [.save 0, .skip 1, .byte 0xBB, .byte 0x11]) 9 (matchesInit 0x120 0x150) #[0]).bind
    (fun a => .ok (a.hits.map (·.1), a.m, a.exhausted)) = .ok ([0x148], ⟨0x150, 0x150, 48⟩, true) := by
  rw [next_eq_plan]; simp only [interp, ofView_toNat]; decide +kernel
/-- PE32+ file, first-byte scan across both sections: 2 matches, 3 interpreter calls, `range.start` ends at the end of the last raw-data slice -/
example : (scanAll (next h64File wPat) 9 (matchesInit 0 0x160) #[0, 0]).bind
    (fun a => .ok (a.hits.map (·.1), a.m, a.exhausted)) = .ok ([0x124, 0x148], ⟨0x160, 0x160, 3⟩, true) := by
  rw [next_eq_plan]
  simp only [interp, ofView_toNat, planV_file (v := h64File) rfl, Pe.View.slice_file (v := h64File) rfl, h64File_hdr.2.2]
  decide +kernel
/-- PE32 file: see the `scanAll (next wSorted wPat) …` example above (2 matches, `hits = 3`, `range = 0x2020..0x3000`);
over `matches_code` of the PE32+ file (`0x120..0x140`), quick search -/
example : (scanAll (next h64File [.save 0, .byte 0xAA, .byte 0xBB, .byte 0, .byte 0xDD]) 9 (matchesCodeInit h64File) #[0]).bind
    (fun a => .ok (a.hits.map (·.1), a.m, a.exhausted)) = .ok ([0x130], ⟨0x140, 0x140, 1⟩, true) := by
  rw [next_eq_plan]
  simp only [interp, ofView_toNat, planV_file (v := h64File) rfl, Pe.View.slice_file (v := h64File) rfl, h64File_hdr.2.2]
  decide +kernel

end Pelite.Scan
