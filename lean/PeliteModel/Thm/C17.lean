import PeliteModel.Lemmas.Pattern
import PeliteModel.Lemmas.RustLiteral
/-!
C17 — the compile-time macro `pelite::pattern!` and the run-time parser produce the same pattern.

Model (Model/Pattern.lean): `unescape` = `parse_str_literal` on the chars of `Literal::to_string()`;
`macroAtoms lit` = `unescape`, then `String::push` every char (`utf8`), then THE SAME `parse` (the file
`pattern.rs` lives in the proc macro crate, `mod pattern;`, and the main crate takes it from there by `#[path]`), then a
compile error if that fails.
The code-generation step (`format!("{:?}")` of the atoms, re-parsed by rustc) is trusted and
validated by the batch correspondence check (`vlib/macrocase.py`).

`escapeWith choices cs` (Spec/RustLiteral.lean) is the reference escaper: a Rust string literal for
the chars `cs`, where `choices` selects per char between the verbatim form and the backslash form for
`'`, TAB, CR, LF (`"` and `\` are always escaped).  The supported escapes are exactly `\\ \' \" \t \r \n`.

Second part of the file: the same statements against `Spec.rustLitValue` (Spec/RustLiteral.lean), the
meaning of a string literal token written from the Rust Reference independently of the model: for
EVERY well-formed literal, not only the image of `escapeWith`.
-/
namespace Pelite.Pattern

/-- **Unescape ∘ escape = id**, for every string and every mix of escape styles — also when the
literal token carries trailing junk after its closing quote (a literal suffix), which
`parse_str_literal` ignores. -/
theorem C17_unescape_escape (choices : List Bool) (cs junk : List Char) :
    unescape (escapeWith choices cs ++ junk) = .ok cs := by
  unfold escapeWith unescape
  simp only [List.cons_append, List.append_assoc]
  rw [unescapeGo_body]
  simp [unescapeGo]

/-- **C17, first half.** For every pattern string `cs` and every way of writing it as a string
literal, the macro expands to exactly the atoms the run-time parser returns for `cs`. -/
theorem C17_macro_eq_parse (choices : List Bool) (cs : List Char) (atoms : List Atom)
    (h : parse (utf8 cs) = .ok atoms) : macroAtoms (escapeWith choices cs) = .ok atoms := by
  rw [macroAtoms_of_unescape (by simpa using C17_unescape_escape choices cs []), h]

/-- **C17, second half.** A string the run-time parser rejects does not compile: the macro panics
with the parser's error (kind and position). -/
theorem C17_rejected_does_not_compile (choices : List Bool) (cs : List Char) (k : PatErr) (pos : Nat)
    (h : parse (utf8 cs) = .err k pos) :
    macroAtoms (escapeWith choices cs) = .error (.invalidPattern k pos) := by
  rw [macroAtoms_of_unescape (by simpa using C17_unescape_escape choices cs []), h]

/-- The two cases above are exhaustive (the parser neither panics nor diverges inside the macro):
the macro's outcome on an escaped literal is a function of the run-time parser's outcome. -/
theorem C17_macro_total (choices : List Bool) (cs : List Char) :
    (∃ atoms, parse (utf8 cs) = .ok atoms ∧ macroAtoms (escapeWith choices cs) = .ok atoms) ∨
    (∃ k pos, parse (utf8 cs) = .err k pos ∧ macroAtoms (escapeWith choices cs) = .error (.invalidPattern k pos)) :=
  (parse_ok_or_err (utf8 cs)).imp (fun ⟨atoms, h⟩ => ⟨atoms, h, C17_macro_eq_parse choices cs atoms h⟩)
    fun ⟨k, pos, h⟩ => ⟨k, pos, h, C17_rejected_does_not_compile choices cs k pos h⟩

/-- Conversely the macro never accepts more than the parser: whatever literal text it is given, if it
expands to atoms then these are the run-time parser's atoms for the unescaped string. -/
theorem C17_macro_sound (lit : List Char) (atoms : List Atom) (h : macroAtoms lit = .ok atoms) :
    ∃ cs, unescape lit = .ok cs ∧ parse (utf8 cs) = .ok atoms := by
  cases hu : unescape lit with
  | error e => rw [macroAtoms, hu] at h; cases h
  | ok cs =>
    rw [macroAtoms_of_unescape hu] at h
    cases hp : parse (utf8 cs) <;> rw [hp] at h <;> cases h
    exact ⟨cs, rfl, hp⟩

/-! ## What the unescaper does with everything else (non-vacuity and the unsupported forms) -/

/-- the repository's macro test (tests/patterns.rs style): escaped quotes inside the literal -/
example : macroAtoms "\"*{\\\"hello\\\"00}\"".toList = .ok
    [.save 0, .push 0, .ptr, .byte 104, .byte 101, .byte 108, .byte 108, .byte 111, .byte 0] := by decide +kernel
example : escape "*{\"hello\"00}".toList = "\"*{\\\"hello\\\"00}\"".toList := by decide +kernel
/-- tab / newline / CR inside the literal, escaped or verbatim, are the parser's whitespace -/
example : macroAtoms "\"12\\t34\\n56\\r78\n9a\t\"".toList =
    .ok [.save 0, .byte 0x12, .byte 0x34, .byte 0x56, .byte 0x78, .byte 0x9a] := by decide +kernel
example : macroAtoms "\"b9 \\' 37\"".toList = .ok [.save 0, .byte 0xb9, .save 1, .byte 0x37] := by decide +kernel
/-- a rejected pattern: compile error carrying the parser's kind and position -/
example : macroAtoms "\"AB {}\"".toList = .error (.invalidPattern .stackInvalid 3) := by decide +kernel
/-- unsupported escapes do not compile: `\0`, `\x41`, `\u{41}`, a line continuation, a trailing `\` -/
example : macroAtoms "\"12\\0\"".toList = .error (.unknownEscape '0') := by decide +kernel
example : macroAtoms "\"\\x41\"".toList = .error (.unknownEscape 'x') := by decide +kernel
example : macroAtoms "\"\\u{41}\"".toList = .error .unicodeEscape := by decide +kernel
example : macroAtoms "\"12 \\\n 34\"".toList = .error (.unknownEscape '\n') := by decide +kernel
example : macroAtoms "\"12\\".toList = .error .truncated := by decide +kernel
/-- raw / byte string literals and non-string tokens do not compile -/
example : macroAtoms "r\"12 34\"".toList = .error .notStringLiteral := by decide +kernel
example : macroAtoms "b\"12\"".toList = .error .notStringLiteral := by decide +kernel
/-- a literal suffix is ignored (leniency of the macro, harmless for C17) -/
example : macroAtoms "\"12 34\"suffix".toList = .ok [.save 0, .byte 0x12, .byte 0x34] := by decide +kernel


/-! ## Against the independent meaning of string literals (`Spec.rustLitValue`)

`Spec.rustLitValue lit = some s`: the text `lit` is a well-formed Rust string literal token (any
suffix) and `s` is the `str` it denotes according to the Rust Reference — all escapes included
(`\0`, `\xNN`, `\u{…}`, line continuation), a bare CR rejected. -/

/-- The unconditional soundness statement "`unescape lit = .ok cs → rustLitValue lit = some cs`" is
FALSE: `parse_str_literal` passes a bare CR through, rustc's lexer rejects it ("bare CR not allowed
in string").  Harmless for C17 — such a token never reaches a compiled program — but it is why the
next theorem has a hypothesis. -/
theorem C17_unescape_sound_false :
    ¬ ∀ lit cs, unescape lit = .ok cs → Spec.rustLitValue lit = some cs := by
  intro h
  have := h "\"12\r34\"".toList "12\r34".toList (by decide +kernel)
  revert this
  decide +kernel

/-- **Whenever the macro accepts a literal, the string it hands to the parser IS the literal's
value** — for every token text without a CR char (the only divergence, see above). -/
theorem C17_unescape_sound_partial (lit cs : List Char) (hcr : '\r' ∉ lit)
    (h : unescape lit = .ok cs) : Spec.rustLitValue lit = some cs := by
  unfold unescape at h
  split at h
  · next body =>
    obtain ⟨v, rest, hv, rfl⟩ := unescapeGo_sound body [] cs h (by simp_all)
    simp [Spec.rustLitValue, Spec.rustLitLex, hv]
  · cases h


example : '\r' ∉ "\"12 \\r\\n\t'\\' \\\"a\\\" \\\\\"".toList ∧
    unescape "\"12 \\r\\n\t'\\' \\\"a\\\" \\\\\"".toList = .ok "12 \r\n\t'' \"a\" \\".toList := by decide +kernel

/-- **The macro rejects a well-formed literal only for an escape it does not implement**: `\0`,
`\xNN`, `\u{…}` or a line continuation; every other well-formed literal is unescaped to its value. -/
theorem C17_unescape_rejects_only_unsupported (lit cs : List Char)
    (h : Spec.rustLitValue lit = some cs) : unescape lit = .ok cs ∨ Spec.UsesUnsupportedEscape lit := by
  obtain ⟨body, rest, rfl, hb⟩ := body_of_rustLitValue h
  rcases unescapeGo_litBody body [] cs rest hb with ⟨_, he⟩ | ⟨hu, _⟩
  · exact .inl he
  · exact .inr hu


/-- … and those it does reject, with `parse_str_literal`'s panic for the first such escape. -/
theorem C17_unsupported_rejected (lit cs : List Char) (h : Spec.rustLitValue lit = some cs)
    (hu : Spec.UsesUnsupportedEscape lit) :
    unescape lit = .error .unicodeEscape ∨ unescape lit = .error (.unknownEscape '0') ∨
    unescape lit = .error (.unknownEscape 'x') ∨ unescape lit = .error (.unknownEscape '\n') := by
  obtain ⟨body, rest, rfl, hb⟩ := body_of_rustLitValue h
  rcases unescapeGo_litBody body [] cs rest hb with ⟨hf, _⟩ | ⟨_, he⟩
  · exact absurd hu (by simp [Spec.UsesUnsupportedEscape, hf])
  · exact he


/-- On a well-formed literal the macro's string is never a *different* string than the literal's
value (no hypothesis on CR needed: the literal is well-formed). -/
theorem C17_unescape_agrees (lit v cs : List Char) (hv : Spec.rustLitValue lit = some v)
    (h : unescape lit = .ok cs) : cs = v := by
  rcases C17_unescape_rejects_only_unsupported lit v hv with h' | hu
  · rw [h'] at h; cases h; rfl
  · rcases C17_unsupported_rejected lit v hv hu with h' | h' | h' | h' <;> (rw [h'] at h; cases h)

/-- **C17, first half, for every literal.** If `lit` is a well-formed string literal denoting `s`
and uses no unsupported escape, the macro expands to exactly the atoms the run-time parser returns
for `s`. -/
theorem C17_macro_eq_parse_lit (lit s : List Char) (atoms : List Atom)
    (hv : Spec.rustLitValue lit = some s) (hs : ¬ Spec.UsesUnsupportedEscape lit)
    (h : parse (utf8 s) = .ok atoms) : macroAtoms lit = .ok atoms := by
  rw [macroAtoms_of_unescape ((C17_unescape_rejects_only_unsupported lit s hv).resolve_right hs), h]

/-- **C17, second half, for every literal.** If the run-time parser rejects the literal's value, the
invocation does not compile: the macro panics with the parser's error (kind and position). -/
theorem C17_rejected_does_not_compile_lit (lit s : List Char) (k : PatErr) (pos : Nat)
    (hv : Spec.rustLitValue lit = some s) (hs : ¬ Spec.UsesUnsupportedEscape lit)
    (h : parse (utf8 s) = .err k pos) : macroAtoms lit = .error (.invalidPattern k pos) := by
  rw [macroAtoms_of_unescape ((C17_unescape_rejects_only_unsupported lit s hv).resolve_right hs), h]

/-- the hypotheses on a literal with mixed verbatim / escaped forms, a suffix, and non-ASCII text -/
example : Spec.rustLitValue "\"e8 ${'} \\\"é\\\" \\t\n?\"suffix".toList = some "e8 ${'} \"é\" \t\n?".toList ∧
    ¬ Spec.UsesUnsupportedEscape "\"e8 ${'} \\\"é\\\" \\t\n?\"suffix".toList := by decide +kernel

/-- A well-formed literal that does use an unsupported escape never compiles (so the macro accepts
nothing the run-time parser would not be asked about). -/
theorem C17_unsupported_does_not_compile (lit s : List Char) (hv : Spec.rustLitValue lit = some s)
    (hu : Spec.UsesUnsupportedEscape lit) : ∃ e, macroAtoms lit = .error e := by
  unfold macroAtoms
  rcases C17_unsupported_rejected lit s hv hu with h' | h' | h' | h' <;> (rw [h']; exact ⟨_, rfl⟩)

example : Spec.rustLitValue "\"12 \\x41\"".toList = some "12 A".toList ∧
    Spec.UsesUnsupportedEscape "\"12 \\x41\"".toList := by decide +kernel

/-- The macro's outcome on ANY well-formed string literal is a function of the run-time parser's
outcome on the literal's value, or the literal uses an unsupported escape and does not compile. -/
theorem C17_macro_total_lit (lit s : List Char) (hv : Spec.rustLitValue lit = some s) :
    (∃ atoms, parse (utf8 s) = .ok atoms ∧ macroAtoms lit = .ok atoms) ∨
    (∃ k pos, parse (utf8 s) = .err k pos ∧ macroAtoms lit = .error (.invalidPattern k pos)) ∨
    (Spec.UsesUnsupportedEscape lit ∧ ∃ e, macroAtoms lit = .error e) := by
  by_cases hs : Spec.UsesUnsupportedEscape lit
  · exact Or.inr (Or.inr ⟨hs, C17_unsupported_does_not_compile lit s hv hs⟩)
  · exact (parse_ok_or_err (utf8 s)).imp (fun ⟨atoms, h⟩ => ⟨atoms, h, C17_macro_eq_parse_lit lit s atoms hv hs h⟩)
      fun ⟨k, pos, h⟩ => .inl ⟨k, pos, h, C17_rejected_does_not_compile_lit lit s k pos hv hs h⟩

/-- Soundness of the macro in terms of the literal's value: on a well-formed literal, atoms the macro
expands to are the run-time parser's atoms for the VALUE of the literal. -/
theorem C17_macro_sound_lit (lit s : List Char) (atoms : List Atom)
    (hv : Spec.rustLitValue lit = some s) (h : macroAtoms lit = .ok atoms) :
    parse (utf8 s) = .ok atoms := by
  obtain ⟨cs, hu, hp⟩ := C17_macro_sound lit atoms h
  rw [← C17_unescape_agrees lit s cs hv hu]
  exact hp

/-! ### The reference writer produces literals with the intended value -/

/-- every mix of styles that does not write a CR verbatim is a well-formed literal denoting `s` -/
theorem C17_escapeWith_value_partial (sty : List Bool) (s junk : List Char)
    (h : '\r' ∉ escapeWith sty s) : Spec.rustLitLex (escapeWith sty s ++ junk) = some (s, junk) := by
  unfold escapeWith at h ⊢
  simp only [List.cons_append, List.append_assoc, List.nil_append, Spec.rustLitLex]
  exact litBody_escapeBody s sty junk (by simp_all)


/-- the all-backslash form is a well-formed literal denoting `s`, with any suffix -/
theorem C17_escape_value (s junk : List Char) :
    Spec.rustLitLex (escape s ++ junk) = some (s, junk) :=
  C17_escapeWith_value_partial [] s junk (cr_not_mem_escape s)

example : '\r' ∉ escapeWith [false, true, false] "'\r\n\t".toList ∧
    escapeWith [false, true, false] "'\r\n\t".toList = "\"'\\r\n\\t\"".toList := by decide +kernel

/-- … and the hypothesis is needed: the verbatim style on a CR is the bare CR rustc rejects (the model's
`unescape` accepts it, `C17_unescape_escape`). -/
theorem C17_escapeWith_value_false :
    ¬ ∀ sty s, Spec.rustLitValue (escapeWith sty s) = some s := by
  intro h
  have := h [false] ['\r']
  revert this
  decide +kernel

/-- what the unsupported escapes mean (none of them compiles through the macro, see the examples above) -/
example : Spec.rustLitValue "\"\\x41\\u{1F6_00_}\\0 \\\n   \t x\"".toList =
    some ['A', Char.ofNat 0x1F600, Char.ofNat 0, ' ', 'x'] := by decide +kernel
example : Spec.rustLitValue "\"\\x80\"".toList = none ∧ Spec.rustLitValue "\"\\u{D800}\"".toList = none ∧
    Spec.rustLitValue "\"\\u{_41}\"".toList = none ∧ Spec.rustLitValue "\"\\u{0000041}\"".toList = none ∧
    Spec.rustLitValue "\"\\u{}\"".toList = none ∧ Spec.rustLitValue "\"\\q\"".toList = none ∧
    Spec.rustLitValue "\"12".toList = none ∧ Spec.rustLitValue "r\"12\"".toList = none ∧
    Spec.rustLitValue "b\"12\"".toList = none := by decide +kernel

end Pelite.Pattern
