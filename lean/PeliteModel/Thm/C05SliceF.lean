import PeliteModel.Thm.C05
import PeliteModel.Driver.Typed
import PeliteModel.Generated.ImageLayout
/-!
C05 — predicate-terminated arrays (`derva_slice_f` / `deref_slice_f`, pe.rs:346-367 / 434-455).  The API takes
`F: FnMut(&T) -> bool`, any callable, possibly with state; the loop calls it exactly once per element, in index order, and
stops at the first `true`, so the answer of call `i` is a function `stop i x` of the call number and the element value
(`sliceFLoopI`, `View.dervaSliceFI`).  The general theorems are `C05_derva_slice_fi_iff` / `_fi_bounds_iff` / `_fi_total`
(Thm/C05.lean); here the instances for a stateless callable.  The driver ops `derva_slice_f` / `deref_slice_f` run the
checked variant (`C02_dervaSliceFI_checked_eq`) with `ge:<x>` (stateless) or `count:<n>` (stateful) against the real code.
-/
namespace Pelite.Pe

/-! ### the stateless callable (`stop : Nat → Bool`, what `View.dervaSliceF` takes) -/

/-- `Ok(ref)` iff `ref` is the elements before the FIRST element satisfying the predicate, that element inside the slice -/
theorem C05_derva_slice_f_iff (v : View) (a : Addr) (size align : Nat) (stop : Nat → Bool) (hs : 1 ≤ size)
    (s : Ref) (hat : v.at a 0 align = .ok s) (ref : Ref) :
    v.dervaSliceF a size align stop = .ok ref ↔
      ∃ n, ref = ⟨s.off, n * size, align⟩ ∧ (n + 1) * size ≤ s.len ∧
        stop (leN v.b (s.off + n * size) size) = true ∧
        ∀ j, j < n → stop (leN v.b (s.off + j * size) size) = false := by
  rw [View.dervaSliceF_eq_I]
  exact C05_derva_slice_fi_iff v a size align _ hs s hat ref

/-- `Bounds` iff no whole element inside the slice satisfies the predicate -/
theorem C05_derva_slice_f_bounds_iff (v : View) (a : Addr) (size align : Nat) (stop : Nat → Bool) (hs : 1 ≤ size)
    (s : Ref) (hat : v.at a 0 align = .ok s) :
    v.dervaSliceF a size align stop = .err .bounds ↔
      ∀ j, (j + 1) * size ≤ s.len → stop (leN v.b (s.off + j * size) size) = false := by
  rw [View.dervaSliceF_eq_I]
  exact C05_derva_slice_fi_bounds_iff v a size align _ hs s hat

theorem C05_derva_slice_f_total (v : View) (a : Addr) (size align : Nat) (stop : Nat → Bool) (hs : 1 ≤ size) :
    (∀ e, v.at a 0 align = .err e → v.dervaSliceF a size align stop = .err e) ∧
    (∀ s, v.at a 0 align = .ok s →
      (∃ ref, v.dervaSliceF a size align stop = .ok ref) ∨ v.dervaSliceF a size align stop = .err .bounds) := by
  rw [View.dervaSliceF_eq_I]
  exact C05_derva_slice_fi_total v a size align _ hs

/-- the sentinel read is the instance `stop = (· == sentinel)` (by definition) -/
theorem C05_derva_slice_s_is_f (v : View) (a : Addr) (size align sentinel : Nat) :
    v.dervaSliceS a size align sentinel = v.dervaSliceF a size align (fun x => x == sentinel) := rfl

/-- A zero address is `Null` whatever the callable. -/
theorem C05_null_slice_f (v : View) (size align : Nat) (stop : Nat → Nat → Bool) :
    v.dervaSliceFI (.rva 0) size align stop = .err .null ∧ v.dervaSliceFI (.va 0) size align stop = .err .null := by
  unfold View.dervaSliceFI
  rw [(C05_null v 0 align).1, (C05_null v 0 align).2]
  exact ⟨rfl, rfl⟩

/-! ### witnesses: PE32+ file (RVA and VA path), PE32 mapped view; a stateless and a stateful callable -/

/-- the two predicates of the driver ops (`Driver.predGe x` for `ge:<x>`, `Driver.predCount n` for `count:<n>`) -/
example : Driver.predGe 9 0 8 = false ∧ Driver.predGe 9 5 9 = true ∧ Driver.predCount 3 1 0xffff = false ∧
    Driver.predCount 3 2 0 = true ∧ (∀ i, i < 50 → Driver.predCount 0 i 0 = false) := by
  decide +kernel

/-- hypotheses of `C05_derva_slice_fi_iff` on the PE32+ FILE `demo64File` (u16 table `7, 9, 0xffff` at rva 260,
stored at file offset 244, twelve bytes to the end of the raw data = six elements): `1 ≤ 2`, the untyped
slice; then the answers for `ge:9` (element 1 is the first ≥ 9), the stateful `count:n` for n = 1, 2, 6 (the
last call that still fits), 7 and 0 (`Bounds`), through both address paths; and the same on the PE32 mapped
VIEW `demoView` (table `1, 2, 0xffff` at 188).  All answers are those of the real code (checked with the harness). -/
example : 1 ≤ 2 ∧ demo64File.at (.rva 260) 0 2 = .ok ⟨244, 12, 2⟩ ∧ demo64File.at (.va 0x140000104) 0 2 = .ok ⟨244, 12, 2⟩ ∧
    demo64File.dervaSliceF (.rva 260) 2 2 (fun x => decide (9 ≤ x)) = .ok ⟨244, 2, 2⟩ ∧
    demo64File.dervaSliceF (.va 0x140000104) 2 2 (fun x => decide (9 ≤ x)) = .ok ⟨244, 2, 2⟩ ∧
    demo64File.dervaSliceF (.rva 260) 2 2 (fun x => decide (0x10000 ≤ x)) = .err .bounds ∧
    demo64File.dervaSliceFI (.rva 260) 2 2 (Driver.predCount 1) = .ok ⟨244, 0, 2⟩ ∧
    demo64File.dervaSliceFI (.rva 260) 2 2 (Driver.predCount 2) = .ok ⟨244, 2, 2⟩ ∧
    demo64File.dervaSliceFI (.va 0x140000104) 2 2 (Driver.predCount 6) = .ok ⟨244, 10, 2⟩ ∧
    demo64File.dervaSliceFI (.rva 260) 2 2 (Driver.predCount 7) = .err .bounds ∧
    demo64File.dervaSliceFI (.rva 260) 2 2 (Driver.predCount 0) = .err .bounds ∧
    demo64File.dervaSliceFI (.rva 256) 8 4 (Driver.predCount 2) = .ok ⟨240, 8, 4⟩ ∧
    demo64File.dervaSliceFI (.rva 261) 2 2 (Driver.predCount 1) = .err .misaligned ∧
    demoView.at (.rva 188) 0 2 = .ok ⟨188, 12, 2⟩ ∧
    demoView.dervaSliceF (.rva 188) 2 2 (fun x => decide (2 ≤ x)) = .ok ⟨188, 2, 2⟩ ∧
    demoView.dervaSliceFI (.va 0x4000bc) 2 2 (Driver.predCount 3) = .ok ⟨188, 4, 2⟩ ∧
    demoView.dervaSliceFI (.rva 188) 2 2 (Driver.predCount 7) = .err .bounds := by
  -- every scan as a `find?` over the elements of its window, the elements as digits of the image's number
  simp only [View.dervaSliceF_eq_I, dervaSliceFI_eq _ _ _ _ (show 1 ≤ 2 by decide),
    dervaSliceFI_eq _ _ _ _ (show 1 ≤ 8 by decide), demo64File_at_rva, demo64File_at_va, leN_toNat]
  decide +kernel

/-- … and the checked variants the driver runs give the same (instances of `C02_dervaSliceFI_checked_eq`) -/
example : demo64File.dervaSliceFIChk (.rva 260) 2 2 (Driver.predCount 6) = .ok ⟨244, 10, 2⟩ ∧
    demo64File.dervaSliceFIChk (.rva 256) 8 4 (Driver.predCount 3) = .err .bounds ∧
    demoView.dervaSliceFIChk (.va 0x4000bc) 2 2 (Driver.predGe 2) = .ok ⟨188, 2, 2⟩ := by
  decide +kernel

/-- the right-hand side of the equivalence derived THROUGH the theorem from the model's answer: the
stateful `count:2` on the PE32+ file stops at call 2 = element 1 -/
example : ∃ n, (⟨244, 2, 2⟩ : Ref) = ⟨244, n * 2, 2⟩ ∧ (n + 1) * 2 ≤ 12 :=
  have h : demo64File.at (.rva 260) 0 2 = .ok ⟨244, 12, 2⟩ ∧
      demo64File.dervaSliceFI (.rva 260) 2 2 (Driver.predCount 2) = .ok ⟨244, 2, 2⟩ := by
    simp only [dervaSliceFI_eq _ _ _ _ (show 1 ≤ 2 by decide), demo64File_at_rva, leN_toNat]
    decide +kernel
  let ⟨n, h1, h2, _⟩ := (C05_derva_slice_fi_iff demo64File (.rva 260) 2 2 (Driver.predCount 2) (by decide)
    ⟨244, 12, 2⟩ h.1 ⟨244, 2, 2⟩).1 h.2
  ⟨n, h1, h2⟩

/-! ### the element types of the driver ops are those of the current source -/

/-- `tySize` / `tyAlign` of `Driver/Typed.lean` — the `size_of` / `align_of` the driver hands to the model for
the struct element types `dd` (`IMAGE_DATA_DIRECTORY`) and `sh` (`IMAGE_SECTION_HEADER`) — are the values of
the layout table regenerated from /repo's `src/image.rs` on every run (a layout change in the source
breaks this theorem); the integer types and `[u8; 16]` have the sizes Rust fixes, `size % align = 0` holds
for all of them (hypothesis `hsa` of the `…_checked_eq` theorems). -/
theorem C05_driver_type_table :
    Driver.tySize "dd" = Generated.Layout.IMAGE_DATA_DIRECTORY__size ∧
    Driver.tyAlign "dd" = Generated.Layout.IMAGE_DATA_DIRECTORY__align ∧
    Driver.tySize "sh" = Generated.Layout.IMAGE_SECTION_HEADER__size ∧
    Driver.tyAlign "sh" = Generated.Layout.IMAGE_SECTION_HEADER__align ∧
    (Driver.tySize "u8", Driver.tySize "u16", Driver.tySize "u32", Driver.tySize "u64", Driver.tySize "b16") = (1, 2, 4, 8, 16) ∧
    (Driver.tyAlign "u8", Driver.tyAlign "u16", Driver.tyAlign "u32", Driver.tyAlign "u64", Driver.tyAlign "b16") = (1, 2, 4, 8, 1) ∧
    (∀ t ∈ ["u8", "u16", "u32", "u64", "dd", "sh", "b16"],
      1 ≤ Driver.tySize t ∧ Driver.tySize t % Driver.tyAlign t = 0 ∧ isPow2 (Driver.tyAlign t) = true) := by
  decide +kernel

end Pelite.Pe
