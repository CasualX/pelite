import PeliteModel.Lemmas.Cross
import PeliteModel.Thm.C05
import PeliteModel.Thm.C07
import PeliteModel.Thm.C20
/-!
C02 — totality: parsing and querying never panics or aborts, whatever the input.
One theorem per modelled operation of the PE core and the typed reads, the string enumerator and the
relocation parser (`dervaWStr`, `checkSum`, `byNameBytes`, the conversions: `Thm/C02Arith.lean`); the other
modules (exports, imports, resources, version info, Rich header, pattern parser, interpreter, scanner, …)
have theirs in their own property files, listed in DESIGN.md.  `Out.Clean o` = `o` is `ok _` or `err _` (not `panic`, `ub`, `diverge`).
-/
namespace Pelite.Pe

theorem C02_validate (f : Fmt) (img : Img) : (validate f img).Clean := by
  exact clean_iff_okOrErr.2 (validate_okOrErr f img)

theorem C02_from_bytes (f : Fmt) (k : Kind) (img : Img) : (fromBytes f k img).Clean := by
  unfold fromBytes
  exact clean_iff_okOrErr.2 ((validate_okOrErr f img).elim (fun _ => okOrErr_ok _) okOrErr_err)

theorem C02_wrap_from_bytes (k : Kind) (img : Img) : (wrapFromBytes k img).Clean := by
  unfold wrapFromBytes
  rcases C02_from_bytes .pe64 k img with ⟨w, h⟩ | ⟨e, h⟩ <;> rw [h]
  · exact clean_iff_okOrErr.2 (okOrErr_ok _)
  · cases e <;> first | exact C02_from_bytes .pe32 k img | exact clean_iff_okOrErr.2 (okOrErr_err _)

theorem C02_rva_to_file_offset (v : View) (rva : Nat) : (v.rvaToFileOffset rva).Clean :=
  clean_iff_okOrErr.2 (okOrErr_if (okOrErr_ok _) (clean_iff_okOrErr.1 (r2fSecs_clean _ _)))

theorem C02_file_offset_to_rva (v : View) (fo : Nat) : (v.fileOffsetToRva fo).Clean :=
  clean_iff_okOrErr.2 (okOrErr_if (okOrErr_ok _) (clean_iff_okOrErr.1 (f2rSecs_clean _ _)))

theorem C02_rva_to_va (v : View) (rva : Nat) : (v.rvaToVa rva).Clean :=
  clean_iff_okOrErr.2 (okOrErr_if (okOrErr_err _) (okOrErr_if (okOrErr_if (okOrErr_ok _) (okOrErr_err _)) (okOrErr_err _)))

theorem C02_va_to_rva (v : View) (va : Nat) : (v.vaToRva va).Clean :=
  clean_iff_okOrErr.2 (okOrErr_if (okOrErr_err _) (okOrErr_if (okOrErr_err _) (okOrErr_ok _)))

/-- `slice` / `read` are total for every power-of-two alignment (every alignment the typed API
passes); for other alignments the checked build hits `debug_assert!` in `AlignTo` — known finding. -/
theorem C02_slice (v : View) (rva min align : Nat) (hp : isPow2 align = true) : (v.slice rva min align).Clean := by
  exact clean_iff_okOrErr.2 (at_okOrErr v (.rva rva) min align hp)

theorem C02_read (v : View) (va min align : Nat) (hp : isPow2 align = true) : (v.read va min align).Clean := by
  exact clean_iff_okOrErr.2 (at_okOrErr v (.va va) min align hp)

/-- the one way `slice` can panic: a non-power-of-two alignment on a non-null address -/
theorem C02_slice_panics_only_if (v : View) (rva min align : Nat) (s : String)
    (h : v.slice rva min align = .panic s) : isPow2 align = false ∧ rva ≠ 0 := by
  rcases v.at_shape (.rva rva) min align with hc | ⟨h1, -⟩
  · exact absurd h ((clean_iff_okOrErr.2 hc).ne_panic s)
  · refine ⟨h1, fun h0 => ?_⟩
    -- a null rva is answered `Null` before the alignment is looked at
    subst h0
    cases (at_zero_null v (.rva 0) rfl min align).symm.trans h

theorem C02_section_bytes (v : View) (s : Sec) : (v.sectionBytes s).Clean := by
  unfold View.sectionBytes
  cases v.kind <;> exact clean_iff_okOrErr.2 (okOrErr_if (okOrErr_err _) (okOrErr_if (okOrErr_ok _) (okOrErr_err _)))

theorem C02_derva (v : View) (a : Addr) (size align : Nat) (hp : isPow2 align = true) : (v.derva a size align).Clean :=
  clean_iff_okOrErr.2 (derva_okOrErr v a size align hp)

theorem C02_derva_copy (v : View) (a : Addr) (size : Nat) : (v.dervaCopy a size).Clean := by
  unfold View.dervaCopy
  exact clean_iff_okOrErr.2 ((at_okOrErr v a size 1 (by decide)).elim (fun _ => okOrErr_ok _) okOrErr_err)

theorem C02_derva_into (v : View) (a : Addr) (len : Nat) : (v.dervaInto a len).Clean := by
  unfold View.dervaInto
  exact clean_iff_okOrErr.2 ((at_okOrErr v a len 1 (by decide)).elim (fun _ => okOrErr_ok _) okOrErr_err)

theorem C02_derva_slice (v : View) (a : Addr) (size align len : Nat) (hp : isPow2 align = true) :
    (v.dervaSlice a size align len).Clean :=
  clean_iff_okOrErr.2 (dervaSlice_okOrErr v a size align len hp)

/-- `derva_slice_f` / `deref_slice_f` with ANY callable, stateful ones included (`stop i x` = the answer
of call `i` on element `i`): a slice or an error, for every element size ≥ 1 -/
theorem C02_derva_slice_fi (v : View) (a : Addr) (size align : Nat) (stop : Nat → Nat → Bool) (hs : 1 ≤ size)
    (hp : isPow2 align = true) : (v.dervaSliceFI a size align stop).Clean :=
  clean_iff_okOrErr.2 (dervaSliceFI_okOrErr v a size align stop hs hp)

/-- the stateless special case (`F: Fn`) -/
theorem C02_derva_slice_f (v : View) (a : Addr) (size align : Nat) (stop : Nat → Bool) (hs : 1 ≤ size)
    (hp : isPow2 align = true) : (v.dervaSliceF a size align stop).Clean := by
  rw [View.dervaSliceF_eq_I]; exact C02_derva_slice_fi v a size align _ hs hp

theorem C02_derva_slice_s (v : View) (a : Addr) (size align sentinel : Nat) (hs : 1 ≤ size) (hp : isPow2 align = true) :
    (v.dervaSliceS a size align sentinel).Clean := by
  rw [View.dervaSliceS_eq_I]; exact C02_derva_slice_fi v a size align _ hs hp

theorem C02_derva_cstr (v : View) (a : Addr) : (v.dervaCStr a).Clean :=
  clean_iff_okOrErr.2 (dervaCStr_okOrErr v a)

/-- the string enumerator returns a list for every byte string and every configuration with
thresholds ≥ 1 (from C20) -/
theorem C02_strings (bytes : Bytes) (cfg : Strings.Config) (hm : 1 ≤ cfg.minLen) (hn : 1 ≤ cfg.minLenNul) :
    (Strings.enumAll bytes cfg (bytes.size + 2) 0).Clean := by
  obtain ⟨fs, h, -⟩ := Strings.C20_enumerate_exact bytes cfg hm hn
  rw [h]
  exact clean_iff_okOrErr.2 (okOrErr_ok _)

theorem C02_relocs_parse (img : Img) : (Relocs.parse img).Clean := by
  unfold Relocs.parse
  exact clean_iff_okOrErr.2 (okOrErr_if (okOrErr_ok _) (okOrErr_err _))

/-! ### non-vacuity
(The theorems above are about the unchecked model; `Thm/C02Arith.lean` proves the checked model —
panicking arithmetic and slice primitives at the Rust sites, the one the driver runs — equal to it.) -/

/-- a PE32+ file and a PE32 mapped view the constructors accept (so the `View`s the theorems range
over exist for both formats and both kinds); a rejected buffer gives an error, not a panic -/
example : fromBytes .pe64 .file demo64Img = .ok demo64File ∧ wrapFromBytes .file demo64Img = .ok demo64File ∧
    fromBytes .pe32 .file demo64Img = .err .peMagic ∧
    fromBytes .pe32 .view demoImg = .ok demoView ∧ validate .pe64 ⟨#[77, 90], 0⟩ = .err .bounds := by
  refine ⟨demo64File_ok, C07_wrap_complete _ _ _ _ demo64File_ok,
    fromBytes_err_of_validate (by decide +kernel),
    demoView_ok, by decide +kernel⟩

/-- `isPow2 align` (hypothesis of `C02_slice`, `C02_read`, `C02_derva`, `C02_derva_slice`,
`C02_derva_slice_s`) holds for the alignments of the Rust types and fails for 0, 3, 6, 12;
`1 ≤ size` of `C02_derva_slice_s` for every integer type -/
example : isPow2 1 = true ∧ isPow2 2 = true ∧ isPow2 4 = true ∧ isPow2 8 = true ∧ isPow2 16 = true ∧
    isPow2 0 = false ∧ isPow2 3 = false ∧ isPow2 6 = false ∧ isPow2 12 = false ∧ 1 ≤ 2 := by decide

/-- the operations on the PE32+ file: values and every error kind of the address conversions
(answers identical to the real code's, checked with the harness) -/
example : demo64File.rvaToFileOffset 256 = .ok 240 ∧ demo64File.rvaToFileOffset 272 = .err .zeroFill ∧
    demo64File.rvaToFileOffset 280 = .err .bounds ∧ demo64File.fileOffsetToRva 250 = .ok 266 ∧
    demo64File.rvaToVa 287 = .ok 5368709407 ∧ demo64File.vaToRva 0 = .err .null ∧
    demo64File.slice 256 0 1 = .ok ⟨240, 16, 1⟩ ∧ demo64File.slice 271 2 1 = .err .zeroFill ∧
    demo64File.read 0x140000100 4 4 = .ok ⟨240, 16, 4⟩ ∧ demo64File.derva (.rva 257) 4 4 = .err .misaligned ∧
    demo64File.dervaSliceS (.rva 260) 2 2 0x1234 = .err .bounds ∧
    demo64File.sectionBytes ⟨0, 0, 24, 256, 16, 240, 0⟩ = .ok ⟨240, 16, 1⟩ := by
  have hat : demo64File.at (.rva 260) 0 2 = .ok ⟨244, 12, 2⟩ := by rw [demo64File_at_rva]; decide +kernel
  have hs := View.dervaSliceS_bounds_of_at (size := 2) (sentinel := 0x1234) (by decide) hat
    (by simp only [leN_toNat]; decide +kernel)
  simp only [View.rvaToFileOffset, View.fileOffsetToRva, View.rvaToVa, View.vaToRva, View.slice, View.read,
    View.derva, View.at, demo64File_layout.eqs, hs, true_and]
  decide +kernel

/-- `C02_slice_panics_only_if` is about something that happens: alignment 3 on the PE32 view -/
example : demoView.slice 184 0 3 = .panic "slice_section:aligned_to" ∧ demoView.slice 0 0 3 = .err .null := by
  decide +kernel

/-- `C02_strings`: a configuration with thresholds ≥ 1 and a buffer with two qualifying runs -/
example : (1 ≤ (⟨3, 3, false⟩ : Strings.Config).minLen ∧ 1 ≤ (⟨3, 3, false⟩ : Strings.Config).minLenNul) ∧
    Strings.enumAll #[0x1f, 0x43, 0x2d, 0x53, 0x54, 0x00, 0x80, 0x41, 0x41, 0x41, 0xff] ⟨3, 3, false⟩ 13 0 =
      .ok [⟨1, 4, true⟩, ⟨7, 3, false⟩] := by
  decide +kernel

end Pelite.Pe
