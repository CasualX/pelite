import PeliteModel.Model.Ptr
import PeliteModel.Thm.C05
import PeliteModel.Thm.C04
/-!
C05, typed addresses (src/pe64/ptr.rs, src/pir.rs): pointer arithmetic is address arithmetic, the printed text is
the address, and **element `i` of a typed array read is the typed read at `p.at(i)`**.
-/
namespace Pelite.PtrT
open Pelite Pelite.Pe

/-- `at`: the address of element `i` whenever nothing overflows — and it panics (checked build) exactly otherwise -/
theorem C05_ptr_at (w va size i : Nat) (hw : w = 32 ∨ w = 64) (h : va + i * size < 2 ^ w) :
    elemAt w va size i = .ok (va + i * size) := by
  have h64 : i * size < 2 ^ 64 := by rcases hw with rfl | rfl <;> omega
  have hm : (i * size) % 2 ^ w = i * size := Nat.mod_eq_of_lt (by omega)
  simp [elemAt, h64, hm, h]

theorem C05_ptr_at_zero (w va size : Nat) (hv : va < 2 ^ w) : elemAt w va size 0 = .ok va := by
  simp [elemAt, hv]

/-- in the 32-bit format the element offset is truncated BEFORE the (checked) addition: an index whose byte offset
is a multiple of 2^32 silently yields the pointer itself (observed, recorded; `i` is caller-supplied) -/
theorem C05_ptr_at_truncates_pe32 : elemAt 32 0x1000 4 0x40000000 = .ok 0x1000 := by decide

theorem C05_ptr_offset_back (w va off : Nat) (hv : va < 2 ^ w) (ho : off < 2 ^ w) :
    offset w (offset w va off) ((2 ^ w - off) % 2 ^ w) = va := by
  unfold offset
  by_cases h0 : off = 0
  · subst h0; simp [Nat.mod_eq_of_lt hv]
  · rw [Nat.mod_eq_of_lt (show 2 ^ w - off < 2 ^ w by omega)]
    rw [Nat.mod_add_mod, show va + off + (2 ^ w - off) = va + 2 ^ w by omega, Nat.add_mod_right, Nat.mod_eq_of_lt hv]

/-- a negative byte offset `-k` (two's complement `2^w - k`) steps back `k` bytes — in BOTH formats (zero-extending
the 32-bit pattern in PE32+ would turn `p.offset(-16)` into `p + 2^32 - 16`) -/
theorem C05_ptr_offset_neg (w va k : Nat) (hv : va < 2 ^ w) (hk : k ≤ va) (hk0 : 0 < k) :
    offset w va (2 ^ w - k) = va - k := by
  unfold offset
  rw [show va + (2 ^ w - k) = (va - k) + 2 ^ w by omega, Nat.add_mod_right, Nat.mod_eq_of_lt (by omega)]

theorem C05_ptr_offset_pos (w va k : Nat) (h : va + k < 2 ^ w) : offset w va k = va + k := by
  unfold offset; exact Nat.mod_eq_of_lt h

theorem C05_ptr_member (w va off : Nat) (h : va + off < 2 ^ w) : member w va off = .ok (va + off) := by
  simp [member, h]

/-! ### the text is the address -/

def unhexDigitL (c : Nat) : Nat := if c < 58 then c - 48 else c - 87

/-- value of a digit string, most significant first -/
def valueOf : List Nat → Nat → Nat
  | [], acc => acc
  | c :: cs, acc => valueOf cs (acc * 16 + unhexDigitL c)

theorem unhex_hex (n : Nat) (h : n < 16) : unhexDigitL (hexDigitL n) = n := by
  unfold unhexDigitL hexDigitL; split <;> split <;> omega

theorem nibbles_length (va n : Nat) : (nibbles va n).length = n := by
  induction n with
  | zero => rfl
  | succ n ih => simp [nibbles, ih]

theorem valueOf_nibbles (va n acc : Nat) : valueOf (nibbles va n) acc = acc * 16 ^ n + va % 16 ^ n := by
  induction n generalizing acc with
  | zero => simp [nibbles, valueOf, Nat.mod_one]
  | succ n ih =>
    simp only [nibbles, valueOf]
    rw [ih, unhex_hex _ (Nat.mod_lt _ (by omega))]
    have h1 : va % 16 ^ (n + 1) = (va / 16 ^ n % 16) * 16 ^ n + va % 16 ^ n := by
      rw [Nat.pow_succ, Nat.mod_mul, Nat.add_comm, Nat.mul_comm]
    rw [h1, Nat.pow_succ]
    rw [Nat.add_mul, Nat.mul_assoc, Nat.mul_comm 16 (16 ^ n)]
    omega

/-- **Display / Debug of a typed address**: `0x`, then exactly `w/4` lower-case hex digits whose value is the address -/
theorem C05_ptr_text (w va : Nat) (hw : w = 32 ∨ w = 64) (hv : va < 2 ^ w) :
    (text w va).length = 2 + w / 4 ∧ (text w va).take 2 = [48, 120] ∧ valueOf ((text w va).drop 2) 0 = va := by
  refine ⟨by simp [text, nibbles_length]; omega, by simp [text], ?_⟩
  simp only [text, List.drop_append, List.length_cons, List.length_nil]
  simp only [show List.drop 2 [48, 120] = ([] : List Nat) from rfl, Nat.sub_self, List.drop_zero, List.nil_append]
  rw [valueOf_nibbles]
  rcases hw with rfl | rfl
  · simpa using Nat.mod_eq_of_lt hv
  · simpa using Nat.mod_eq_of_lt hv

theorem C05_ptr_text_injective (w a b : Nat) (hw : w = 32 ∨ w = 64) (ha : a < 2 ^ w) (hb : b < 2 ^ w)
    (h : text w a = text w b) : a = b := by
  have h1 := (C05_ptr_text w a hw ha).2.2
  have h2 := (C05_ptr_text w b hw hb).2.2
  rw [h] at h1; exact h1.symm.trans h2

example : text 32 0x1000 = "0x00001000".toList.map Char.toNat := by decide
example : text 64 0x140001000 = "0x0000000140001000".toList.map Char.toNat := by decide
example : text 32 0xDEADBEEF = "0xdeadbeef".toList.map Char.toNat := by decide

/-! ### element `i` of an array read = the read at `p.at(i)` (mapped views) -/

/-- **A mapped view**: if the `len`-element array at rva `r` is readable, then for every `i < len` the single
element at `Pir::at(i)` is readable and is the `i`-th `size`-byte piece of the array (the element size a multiple of
the alignment, as for every Rust type). -/
theorem C05_slice_element_view (v : View) (hk : v.kind = .view) (r size align len i : Nat) (ref : Ref)
    (hsz : v.img.bytes.size < 2 ^ 32)
    (h : v.dervaSlice (.rva r) size align len = .ok ref) (hi : i < len) (hal : size % align = 0)
    (p : Nat) (hp : elemAt 32 r size i = .ok p) :
    p = r + i * size ∧ v.derva (.rva p) size align = .ok ⟨ref.off + i * size, size, align⟩ := by
  obtain ⟨_, s, hs, rfl⟩ := (C05_derva_slice v _ _ _ _ _).1 h
  rw [View.at, View.slice_view hk] at hs
  obtain ⟨-, -, -, hle, hn, rfl⟩ := (sliceSection_ok_iff ..).1 hs
  have hlt := elem_fits (size := size) hi
  -- the pointer arithmetic did not truncate: the element lies inside the buffer, which is shorter than 4 GiB
  have hpe : p = r + i * size := by rw [(elemAt_ok hp).1, Nat.mod_eq_of_lt (by omega)]
  subst hpe
  exact ⟨rfl, View.derva_of_at (by
    rw [View.at, View.slice_view hk]
    exact sliceSection_shift (m' := size) hs (elem_off_mod hal i) (by show _ ≤ _ - _; omega))⟩

/-- **A mapped view, sentinel-terminated array**: walking the table element by element with `Pir::at(i)` sees exactly
what `derva_slice_s` returned — every element before the terminator is readable at `r + i·size`, is the `i`-th piece of
the returned array and differs from the sentinel, and the element right behind the array is readable and IS the sentinel. -/
theorem C05_sentinel_elements_view (v : View) (hk : v.kind = .view) (r size align sentinel : Nat) (ref : Ref)
    (hs : 1 ≤ size) (hal : size % align = 0)
    (h : v.dervaSliceS (.rva r) size align sentinel = .ok ref) :
    ∃ n, ref.len = n * size ∧
      (∀ i, i < n → v.derva (.rva (r + i * size)) size align = .ok ⟨ref.off + i * size, size, align⟩ ∧
                    leN v.b (ref.off + i * size) size ≠ sentinel) ∧
      v.derva (.rva (r + n * size)) size align = .ok ⟨ref.off + n * size, size, align⟩ ∧
      leN v.b (ref.off + n * size) size = sentinel := by
  -- the untyped slice the scan runs over
  obtain ⟨s, hs0, -⟩ := Out.bind_eq_ok (dervaSliceFI_eq v _ align _ hs ▸ v.dervaSliceS_eq_I .. ▸ h)
  obtain ⟨n, rfl, hn1, hn2, hn3⟩ := (C05_derva_slice_s v (.rva r) size align sentinel hs s hs0).1 ref h
  rw [View.at, View.slice_view hk] at hs0
  have elem : ∀ i, i ≤ n → v.derva (.rva (r + i * size)) size align = .ok ⟨s.off + i * size, size, align⟩ := fun i hi =>
    View.derva_of_at (by
      have := Nat.mul_le_mul_right size (show i + 1 ≤ n + 1 by omega)
      rw [Nat.succ_mul] at this
      rw [View.at, View.slice_view hk]
      exact sliceSection_shift (m' := size) hs0 (elem_off_mod hal i) (by omega))
  exact ⟨n, rfl, fun i hi => ⟨elem i (by omega), hn3 i hi⟩, elem n (Nat.le_refl _), hn2⟩

/-- **A mapped view, VA path** (`deref_slice(p, len)` and `deref(p.at(i))`, the form in which TLS callbacks, vtables
and load-config tables are walked): element `i` of a readable array is the read at `Ptr::at(i)`, provided the
element still lies within SizeOfImage (`hsoi`: the VA path tests the address against the DECLARED image size, the
array read tests only its first byte against it; a buffer longer than SizeOfImage is where they differ). -/
theorem C05_deref_element_view (v : View) (hk : v.kind = .view) (w x size align len i : Nat) (ref : Ref)
    (hw : w = 32 ∨ w = 64)
    (h : v.dervaSlice (.va x) size align len = .ok ref) (hi : i < len) (hal : size % align = 0)
    (hsoi : x - v.imageBase + i * size ≤ sizeOfImage v.b)
    (p : Nat) (hp : elemAt w x size i = .ok p) (hsz : v.img.bytes.size < 2 ^ 32) :
    p = x + i * size ∧ v.derva (.va p) size align = .ok ⟨ref.off + i * size, size, align⟩ := by
  obtain ⟨_, s, hs, rfl⟩ := (C05_derva_slice v _ _ _ _ _).1 h
  rw [View.at, View.read_view hk] at hs
  obtain ⟨-, -, -, -, -, hle, hn, rfl⟩ := (readSection_ok_iff ..).1 hs
  have hlt := elem_fits (size := size) hi
  have hpe : p = x + i * size := by
    rw [(elemAt_ok hp).1, Nat.mod_eq_of_lt (by rcases hw with rfl | rfl <;> omega)]
  subst hpe
  exact ⟨rfl, View.derva_of_at (a := .va _) (by
    rw [View.at, View.read_view hk]
    exact readSection_shift (m' := size) hs (elem_off_mod hal i) (by show _ ≤ _ - _; omega) hsoi)⟩

/-- **A file view**: the same statement holds when element `i` is resolved by the SAME section as the array's first
byte (`hsame`; true for every section table whose virtual extents do not overlap).  With overlapping extents the
section lookup of `slice` is first-match per address, and the element can come from other bytes than the array
holds (`C05_slice_element_file_needs_same`). -/
theorem C05_slice_element_file (img : Img) (secs : List Sec) (hs : ∀ s ∈ secs, s.InRange)
    (r size align len i : Nat) (ref : Ref)
    (h : sliceFile img secs r (size * len) align = .ok ref) (hi : i < len) (hal : size % align = 0)
    (hr : r + i * size < 4294967296) (hsame : firstV secs (r + i * size) = firstV secs r) :
    sliceFile img secs (r + i * size) size align = .ok ⟨ref.off + i * size, ref.len - i * size, align⟩ := by
  have hl : size * len ≤ ref.len ∧ 1 ≤ ref.len := by
    obtain ⟨-, -, -, s, -, -, -, h3, h4, -, rfl⟩ :=
      (C04_slice_file_ok_iff img secs hs r (size * len) align (by omega) ref).1 h
    exact ⟨h4, Nat.sub_pos_of_lt h3⟩
  have hlt := elem_fits (size := size) hi
  have hz : size = 0 → i * size = 0 := fun h => by rw [h, Nat.mul_zero]
  exact sliceFile_shift hs h (elem_off_mod hal i) (by omega) (by omega) hsame

/-- on a section table whose virtual extents are pairwise disjoint (and do not wrap), every address inside the extent
of the section that resolves `x` is resolved by that same section -/
theorem firstV_same_of_disjoint (secs : List Sec)
    (hnw : ∀ s ∈ secs, s.va + max s.vs s.rs < 4294967296)
    (hpw : secs.Pairwise (fun a b => a.va + max a.vs a.rs ≤ b.va ∨ b.va + max b.vs b.rs ≤ a.va))
    (x y : Nat) (s : Sec) (hf : firstV secs x = some s) (hy : s.containsRva y = true) :
    firstV secs y = some s := by
  have hs := (firstV_some hf).1
  simp only [Sec.containsRva, Nat.mod_eq_of_lt (hnw s hs), Bool.and_eq_true, decide_eq_true_eq] at hy
  exact find_of_disjoint (·.va) (fun t => max t.vs t.rs) secs hnw hpw hs hy.1 hy.2

/-- **File views with a well-formed section table** (`WF` of Spec/Pe.lean, the hypothesis of the C04 inversion theorems): element
`i` of a readable typed array is the typed read at `p.at(i)` -/
theorem C05_slice_element_file_wf (img : Img) (soh : Nat) (secs : List Sec) (hs : ∀ s ∈ secs, s.InRange) (hwf : WF soh secs)
    (r size align len i : Nat) (ref : Ref)
    (h : sliceFile img secs r (size * len) align = .ok ref) (hi : i < len) (hal : size % align = 0)
    (hr : r + i * size < 4294967296) :
    sliceFile img secs (r + i * size) size align = .ok ⟨ref.off + i * size, ref.len - i * size, align⟩ := by
  apply C05_slice_element_file img secs hs r size align len i ref h hi hal hr
  obtain ⟨h0, hp, ha, s, hf, h1, h2, h3, h4, h5, rfl⟩ :=
    (C04_slice_file_ok_iff img secs hs r (size * len) align (by omega) ref).1 h
  rw [hf]
  have hc := (firstV_some hf).2
  have hsm := (firstV_some hf).1
  have hnw : ∀ t ∈ secs, t.va + max t.vs t.rs < 4294967296 := fun t ht => (hwf.1 t ht).1
  apply firstV_same_of_disjoint secs hnw (hwf.2.imp (fun h => h.2)) r _ s hf
  have hlt : i * size + size ≤ size * len := elem_fits hi
  have hz : size = 0 → i * size = 0 := by intro h; simp [h]
  generalize i * size = d at *
  generalize size * len = m at *
  simp only [Sec.containsRva, Nat.mod_eq_of_lt (hnw s hsm), Bool.and_eq_true, decide_eq_true_eq] at hc ⊢
  have : s.rs ≤ max s.vs s.rs := Nat.le_max_right _ _
  omega

/-! the hypothesis `hsame` is needed: two sections whose virtual extents overlap, the array starts in the one that
comes SECOND in the table and runs into addresses the FIRST one also covers -/
def wA : Sec := { nameLo := 0, nameHi := 0, chars := 0, va := 0x2000, vs := 0x1000, prd := 0x400, rs := 0x1000 }
def wB : Sec := { nameLo := 0, nameHi := 0, chars := 0, va := 0x1000, vs := 0x3000, prd := 0x1400, rs := 0x1C00 }
def wImg : Img := ⟨Array.replicate 0x3000 0, 0⟩

/-- `slice_file` looks at the buffer's length only; rewriting with it first spares the kernel from building the buffer
(by `rw`: `simp` uses it as a definitional equation and leaves the evaluation to the kernel) -/
theorem wImg_size : wImg.bytes.size = 0x3000 := Array.size_replicate ..

/-- the eight dwords at rva 0x1FF0 are the stored bytes 0x23F0.., but the dword at rva 0x2000 = `at(4)` is read from
offset 0x400: not the fifth element of the array (which is at 0x2400) -/
theorem C05_slice_element_file_needs_same :
    sliceFile wImg [wA, wB] 0x1FF0 (4 * 8) 4 = .ok ⟨0x23F0, 0xC10, 4⟩ ∧
    elemAt 32 0x1FF0 4 4 = .ok 0x2000 ∧
    sliceFile wImg [wA, wB] 0x2000 4 4 = .ok ⟨0x400, 0x1000, 4⟩ ∧ 0x400 ≠ 0x23F0 + 4 * 4 ∧
    firstV [wA, wB] 0x2000 ≠ firstV [wA, wB] 0x1FF0 := by
  rw [sliceFile_eq_tail, sliceFile_eq_tail, fileTail, fileTail, wImg_size]
  decide +kernel

/-- the premises of `C05_slice_element_file` are satisfiable: the same table, an array that stays below 0x2000 -/
example : sliceFile wImg [wA, wB] 0x1F00 (4 * 8) 4 = .ok ⟨0x2300, 0xD00, 4⟩ ∧
    firstV [wA, wB] (0x1F00 + 7 * 4) = firstV [wA, wB] 0x1F00 ∧
    sliceFile wImg [wA, wB] (0x1F00 + 7 * 4) 4 4 = .ok ⟨0x2300 + 7 * 4, 0xD00 - 7 * 4, 4⟩ := by
  rw [sliceFile_eq_tail, sliceFile_eq_tail, fileTail, fileTail, wImg_size]
  decide +kernel

end Pelite.PtrT
