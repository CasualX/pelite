import PeliteModel.Generated.ImageLayout
import PeliteModel.Spec.ImageLayout

/-! # Struct layouts of `image.rs` = the PE/COFF layouts

`Generated.imageLayoutVals` is rewritten on every check run from the current source (the translator
`vlib/layoutgen.py` parses every struct of `src/image.rs`, the probe evaluates `size_of`, `align_of` and
`offset_of!` for each field); `Spec.imageLayout` is the golden table.  The theorem is part of the proof
obligations of every property whose statement is about structures read from the image (headers, exports,
imports, resources, version info, relocations, debug/TLS/load config/exception/security, the serializer):
a reordered, resized or retyped field breaks it on the next run. -/

namespace Pelite

-- `imageLayoutExtra`: how many fields of those structs the golden table does not list
theorem image_layout_matches_spec :
    Generated.imageLayoutVals = Spec.imageLayout ∧ Generated.imageLayoutExtra = 0 := by
  decide +kernel

/-- non-vacuity: the table is not empty and has one entry per quantity of the golden table -/
example : Spec.imageLayout.length = 674 ∧ Generated.imageLayoutVals.length = 674 := by decide +kernel

end Pelite
