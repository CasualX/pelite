import PeliteModel.Thm.C05
/-!
C05, completeness of the sentinel-terminated read: the answer is DETERMINED by the bytes — the table ending at the first
sentinel whenever that sentinel lies inside the readable bytes, `Bounds` otherwise, the error of the address resolution when
that fails.  (A model that always answered `Bounds` would satisfy the first conjunct of `C05_derva_slice_s`.)
The statements that carry everything are `C05_derva_slice_fi_iff`, `_fi_bounds_iff`, `_fi_total` (Thm/C05, any callable); the `_f_…`
(Thm/C05SliceF) and `_s_…` theorems are their instances for a stateless callable and for the sentinel, `_s_iff` and `_s_total` the
two to use.
-/
namespace Pelite.Pe

/-- Completeness: when the untyped slice at `a` is `s`, element `n` equals the sentinel, no earlier element
does, and element `n` lies inside `s`, the read answers exactly the `n` elements before it.  Conversely,
when none of the `s.len / size` whole elements inside `s` equals the sentinel the answer is `Bounds`. -/
theorem C05_derva_slice_s_determined (v : View) (a : Addr) (size align sentinel : Nat) (hs : 1 ≤ size) (s : Ref)
    (hat : v.at a 0 align = .ok s) :
    (∀ n, (n + 1) * size ≤ s.len → leN v.b (s.off + n * size) size = sentinel →
        (∀ j, j < n → leN v.b (s.off + j * size) size ≠ sentinel) →
        v.dervaSliceS a size align sentinel = .ok ⟨s.off, n * size, align⟩) ∧
    ((∀ j, j < s.len / size → leN v.b (s.off + j * size) size ≠ sentinel) →
        v.dervaSliceS a size align sentinel = .err .bounds) := by
  refine ⟨C05_derva_slice_s_complete v a size align sentinel hs s hat, ?_⟩
  · intro hno
    apply (C05_derva_slice_s v a size align sentinel hs s hat).2.1
    intro j hj
    exact hno j ((Nat.le_div_iff_mul_le (by omega)).2 hj)

/-- Exact characterisation: `Ok(ref)` iff `ref` is the table before the FIRST sentinel inside the slice. -/
theorem C05_derva_slice_s_iff (v : View) (a : Addr) (size align sentinel : Nat) (hs : 1 ≤ size) (s : Ref)
    (hat : v.at a 0 align = .ok s) (ref : Ref) :
    v.dervaSliceS a size align sentinel = .ok ref ↔
      ∃ n, ref = ⟨s.off, n * size, align⟩ ∧ (n + 1) * size ≤ s.len ∧
        leN v.b (s.off + n * size) size = sentinel ∧
        ∀ j, j < n → leN v.b (s.off + j * size) size ≠ sentinel := by
  rw [v.dervaSliceS_eq_I]
  simpa using C05_derva_slice_fi_iff v a size align (fun _ x => x == sentinel) hs s hat ref

/-- The answer is a function of the bytes: exactly one of "first sentinel at element `n` inside the slice"
and "no sentinel among the whole elements of the slice" holds, so the two conjuncts of
`C05_derva_slice_s_determined` cover every input; and when the address does not resolve, its error is the answer. -/
theorem C05_derva_slice_s_total (v : View) (a : Addr) (size align sentinel : Nat) (hs : 1 ≤ size) :
    (∀ e, v.at a 0 align = .err e → v.dervaSliceS a size align sentinel = .err e) ∧
    (∀ s, v.at a 0 align = .ok s →
      (∃ n, (n + 1) * size ≤ s.len ∧ leN v.b (s.off + n * size) size = sentinel ∧
        (∀ j, j < n → leN v.b (s.off + j * size) size ≠ sentinel) ∧
        v.dervaSliceS a size align sentinel = .ok ⟨s.off, n * size, align⟩) ∨
      ((∀ j, j < s.len / size → leN v.b (s.off + j * size) size ≠ sentinel) ∧
        v.dervaSliceS a size align sentinel = .err .bounds)) := by
  refine ⟨fun e he => dervaSliceS_at_err v a size align sentinel e he, fun s hat => ?_⟩
  -- the answer is `Ok` or `Bounds`; the two characterisations say what each means
  rcases (C05_derva_slice_fi_total v a size align (fun _ x => x == sentinel) hs).2 s hat with ⟨ref, hr⟩ | hr <;>
    rw [← v.dervaSliceS_eq_I] at hr
  · obtain ⟨n, rfl, h1, h2, h3⟩ := (C05_derva_slice_s_iff v a size align sentinel hs s hat ref).1 hr
    exact .inl ⟨n, h1, h2, h3, hr⟩
  · refine .inr ⟨fun j hj => ?_, hr⟩
    rw [v.dervaSliceS_eq_I] at hr
    simpa using (C05_derva_slice_fi_bounds_iff v a size align _ hs s hat).1 hr j
      ((Nat.le_div_iff_mul_le (by omega)).1 hj)

/-! ### non-vacuity: the u16 table `1, 2, 0xffff` at 188 of `demoView` (12 readable bytes = 6 elements) -/

/-- the hypotheses of the positive conjunct hold with `n = 2`, those of the `Bounds` conjunct for a sentinel
that does not occur; the model answers as the theorem says -/
example :
    demoView.at (.rva 188) 0 2 = .ok ⟨188, 12, 2⟩ ∧
    (2 + 1) * 2 ≤ 12 ∧ leN demoView.b (188 + 2 * 2) 2 = 0xffff ∧
    (∀ j, j < 2 → leN demoView.b (188 + j * 2) 2 ≠ 0xffff) ∧
    demoView.dervaSliceS (.rva 188) 2 2 0xffff = .ok ⟨188, 2 * 2, 2⟩ ∧
    (∀ j, j < 12 / 2 → leN demoView.b (188 + j * 2) 2 ≠ 0x1234) ∧
    demoView.dervaSliceS (.rva 188) 2 2 0x1234 = .err .bounds := by
  simp only [View.dervaSliceS_eq_I, dervaSliceFI_eq _ _ _ _ (show 1 ≤ 2 by decide), leN_toNat]
  decide +kernel

end Pelite.Pe
