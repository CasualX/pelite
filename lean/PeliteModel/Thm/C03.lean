import PeliteModel.Lemmas.Cross
import PeliteModel.Thm.C06
import PeliteModel.Thm.C05
import PeliteModel.Thm.C07
import PeliteModel.Thm.C14
import PeliteModel.Thm.C20
/-!
C03 — termination and work bounds.  Every model function is total in Lean (structural or
well-founded recursion, whose termination proofs the kernel checked), so what remains to state are
the fuel-sufficiency theorems of the fuel-driven loops and the item-count bounds.
The obligations of the other modules (resources, version info, interpreter, scanner, Rich header,
formatters) are in their own property files.
-/
namespace Pelite.Pe

/-- string enumeration: fuel `len + 2` suffices and at most `len` strings are reported -/
theorem C03_strings (bytes : Bytes) (cfg : Strings.Config) (hm : 1 ≤ cfg.minLen) (hn : 1 ≤ cfg.minLenNul) :
    ∃ fs, Strings.enumAll bytes cfg (bytes.size + 2) 0 = .ok fs ∧ fs.length ≤ bytes.size := by
  obtain ⟨fs, h, hmem, hpw⟩ := Strings.C20_enumerate_exact bytes cfg hm hn
  refine ⟨fs, h, ?_⟩
  have := Strings.length_le_of_pairwise bytes.size fs 0
    (fun f hf => by
      obtain ⟨h1, h2, -⟩ := (hmem f).1 hf
      exact ⟨Nat.zero_le _, h1, h2⟩) hpw
  omega

/-- relocation blocks: at most `len / 8` blocks, each with at most `len / 2` entries -/
theorem C03_reloc_blocks (data : Bytes) :
    (Relocs.blocks data).length ≤ data.size / 8 ∧ ∀ b ∈ Relocs.blocks data, 2 * b.nwords ≤ data.size := by
  exact ⟨Relocs.C14_blocks_count data, fun b hb => Relocs.nwords_le hb⟩

/-- section lookups visit each of the (at most 96) section headers once -/
theorem C03_section_count (f : Fmt) (k : Kind) (img : Img) (v : View) (h : fromBytes f k img = .ok v) :
    v.secs.length ≤ 96 := by
  obtain ⟨ha, rfl⟩ := (fromBytes_ok_iff _ _ _ _).1 h
  unfold Accept at ha
  dsimp only at ha
  show (sections img.bytes).length ≤ 96
  rw [C07_sections_length]
  exact ha.2.2.2.2.2.2.2.2.2.2.2.1

/-- the loop of `derva_slice_f` / `deref_slice_f` driven by a STATEFUL callable (`F: FnMut`; `stop i x` is the
answer of call `i`) and every element size ≥ 1: fuel `window + 2` is never exhausted, whatever the callable does -/
theorem C03_slice_fi (v : View) (a : Addr) (size align : Nat) (stop : Nat → Nat → Bool) (hs : 1 ≤ size) :
    v.dervaSliceFI a size align stop ≠ .diverge := by
  rw [dervaSliceFI_eq v a align stop hs]
  cases hat : v.at a 0 align with
  | ok s => rw [Out.bind]; cases List.find? _ _ <;> intro h <;> cases h
  | diverge => exact absurd hat (v.at_ne_diverge a 0 align)
  | _ => intro h; cases h

/-- the stateless special case: EVERY callable `f` (not only `== sentinel`) -/
theorem C03_slice_f (v : View) (a : Addr) (size align : Nat) (stop : Nat → Bool) (hs : 1 ≤ size) :
    v.dervaSliceF a size align stop ≠ .diverge := by
  rw [View.dervaSliceF_eq_I]
  exact C03_slice_fi v a size align _ hs

/-- sentinel scans: the loop runs at most `window / size + 1` iterations (fuel `window + 2` suffices) -/
theorem C03_sentinel_scan (v : View) (a : Addr) (size align sentinel : Nat) (hs : 1 ≤ size) :
    v.dervaSliceS a size align sentinel ≠ .diverge :=
  C03_slice_f v a size align _ hs

theorem sliceFLoopI_iterations (b : Bytes) (off blen size : Nat) (stop : Nat → Nat → Bool) :
    ∀ (fuel len : Nat), 1 ≤ fuel → blen < (fuel + len) * size →
      sliceFLoopI b off blen size stop fuel len ≠ .diverge := by
  intro fuel len hf h hd
  -- by `sliceFLoopI_eq` fuel runs out only if each of the next `fuel` elements fits; the last of them does not
  rw [sliceFLoopI_eq] at hd
  split at hd
  · split at hd <;> cases hd
  · rename_i hnone
    have := List.find?_eq_none.1 hnone (fuel + len - 1) (List.mem_range'_1.2 ⟨by omega, by omega⟩)
    have e : (fuel + len - 1) * size + size = (fuel + len) * size := by
      rw [← Nat.succ_mul]; congr 1; omega
    simp only [e, gt_iff_lt, h, decide_true, Bool.true_or, not_true_eq_false] at this

/-- when fewer than `k + 1` elements fit into the window (`window < (k + 1) * size`, e.g. `k = window / size`),
`k + 1` iterations always suffice -/
theorem C03_slice_f_iterations (b : Bytes) (off blen size : Nat) (stop : Nat → Bool) (k : Nat)
    (hk : blen < (k + 1) * size) : sliceFLoop b off blen size stop (k + 1) 0 ≠ .diverge := by
  rw [sliceFLoop_eq_I]
  exact sliceFLoopI_iterations b off blen size _ (k + 1) 0 (Nat.le_add_left 1 _) hk

/-- a callable, stateful or not, is called at most `window / size + 1` times: once per loop iteration -/
theorem C03_slice_fi_iterations (b : Bytes) (off blen size : Nat) (stop : Nat → Nat → Bool) (hs : 1 ≤ size) :
    sliceFLoopI b off blen size stop (blen / size + 1) 0 ≠ .diverge := by
  apply sliceFLoopI_iterations b off blen size stop (blen / size + 1) 0 (Nat.le_add_left 1 _)
  have := Nat.lt_div_mul_add (a := blen) (b := size) hs
  rw [Nat.add_zero, Nat.succ_mul]
  exact this

/-- `window / size + 1` iterations, as the bound is usually quoted -/
theorem C03_slice_f_iterations_div (b : Bytes) (off blen size : Nat) (stop : Nat → Bool) (hs : 1 ≤ size) :
    sliceFLoop b off blen size stop (blen / size + 1) 0 ≠ .diverge := by
  rw [sliceFLoop_eq_I]
  exact C03_slice_fi_iterations b off blen size _ hs

/-- **The hypothesis `1 ≤ size` is necessary, in the model and in the Rust code.**  For a zero-sized
element type the test `offset + size_of::<T>() > bytes.len()` (pe.rs:354) is `0 > len`: never true, so
the loop is bounded only by the callable.  `()` is `Pod` in `dataview`, and
`file.derva_slice_f::<(), _>(256, f)` on this very 256-byte image called `f` 10^9 times inside a
16-byte window before `f` gave up (scratch program against the real code, checked build): the number
of iterations is NOT bounded by the input.  No type of the crate's own API is zero sized. -/
theorem C03_slice_f_zst_diverges :
    demo64File.at (.rva 256) 0 1 = .ok ⟨240, 16, 1⟩ ∧
    demo64File.dervaSliceF (.rva 256) 0 1 (fun _ => false) = .diverge ∧
    ∀ fuel len, sliceFLoop demo64File.b 240 16 0 (fun _ => false) fuel len = .diverge := by
  have hat : demo64File.at (.rva 256) 0 1 = .ok ⟨240, 16, 1⟩ := by rw [demo64File_at_rva]; decide +kernel
  refine ⟨hat, by unfold View.dervaSliceF; rw [hat]; decide +kernel, ?_⟩
  intro fuel
  induction fuel with
  | zero => intro len; rfl
  | succ fuel ih =>
    intro len
    rw [sliceFLoop, if_neg (by omega), if_neg (by simp)]
    exact ih (len + 1)

/-! ### non-vacuity -/

/-- `C03_section_count`: a PE32+ file the model (and the real code) accepts, with its one section -/
example : fromBytes .pe64 .file demo64Img = .ok demo64File ∧ demo64File.secs.length = 1 ∧
    demo64File.secs = [⟨0x7461642e, 0x61, 24, 256, 16, 240, 0⟩] := by
  rw [demo64File_layout.secs]
  exact ⟨demo64File_ok, rfl, rfl⟩

/-- `C03_sentinel_scan` / `C03_slice_f`: `1 ≤ size` for every integer element; the u16 table `7, 9, 0xffff`
of the PE32+ file is scanned in 3 iterations, a missing sentinel ends at the window (`Bounds`) -/
example : 1 ≤ 2 ∧ demo64File.dervaSliceS (.rva 260) 2 2 0xffff = .ok ⟨244, 4, 2⟩ ∧
    sliceFLoop demo64File.b 244 12 2 (fun x => x == 0xffff) 3 0 = .ok 2 ∧
    demo64File.dervaSliceS (.rva 260) 2 2 0x1234 = .err .bounds ∧
    sliceFLoop demo64File.b 244 12 2 (fun x => x == 0x1234) (12 / 2 + 1) 0 = .err .bounds := by
  have hat : demo64File.at (.rva 260) 0 2 = .ok ⟨244, 12, 2⟩ := by rw [demo64File_at_rva]; decide +kernel
  exact ⟨by decide, View.dervaSliceS_of_at 2 (by decide) hat (by simp only [leN_toNat]; decide +kernel), by decide +kernel,
    View.dervaSliceS_bounds_of_at (by decide) hat (by simp only [leN_toNat]; decide +kernel), by decide +kernel⟩

/-- `C03_strings`: thresholds ≥ 1, two strings out of 11 bytes; `C03_reloc_blocks` has no hypothesis -/
example : (1 ≤ (⟨3, 3, false⟩ : Strings.Config).minLen ∧ 1 ≤ (⟨3, 3, false⟩ : Strings.Config).minLenNul) ∧
    Strings.enumAll #[0x1f, 0x43, 0x2d, 0x53, 0x54, 0x00, 0x80, 0x41, 0x41, 0x41, 0xff] ⟨3, 3, false⟩ 13 0 =
      .ok [⟨1, 4, true⟩, ⟨7, 3, false⟩] := by
  decide +kernel

/-! ### the conversions -/

/-- a 226-byte PE32 file (`tinyPe`, Lemmas/Convert.lean) whose SizeOfImage field is `0xffffffff` -/
def hugeImg : Img := ⟨(((tinyPe 2 255).set! 145 255).set! 146 255).set! 147 255, 0⟩
def hugeFile : View := ⟨hugeImg, .pe32, .file, imageBaseField .pe32 hugeImg.bytes⟩
/-- the 256-byte PE32+ file `demo64Img` with SizeOfImage `0xffffffff` -/
def huge64Img : Img := ⟨(((demo64Img.bytes.set! 144 255).set! 145 255).set! 146 255).set! 147 255, 0⟩
def huge64File : View := ⟨huge64Img, .pe64, .file, imageBaseField .pe64 huge64Img.bytes⟩

/-- **Scope of C03: the conversions do work proportional to the DECLARED image size, not to the input.**
`validate_headers` bounds `SizeOfHeaders` by the buffer and by `SizeOfImage`, but `SizeOfImage` itself by
nothing (`C07_validate_ok_iff`).  `PeFile::to_view` allocates and zero-fills `vec![0u8; SizeOfImage]`
(file.rs:52; `C06_to_view_size`: the result has exactly `SizeOfImage` bytes for EVERY accepted file), so an
accepted file of 226 bytes (PE32) or 256 bytes (PE32+) makes it produce `2^32 - 1` bytes.  The work of
the parsing entry points of C03 (constructors, lookups, scans) is bounded by the input length; that of
`to_view` — and of `to_file`, whose result is at most `SizeOfImage` long, the buffer of a mapped image —
by the declared size.  (Stated from the size theorem; nothing here evaluates the 4 GiB buffer.) -/
theorem C03_to_view_size_unbounded :
    (hugeImg.bytes.size = 226 ∧ fromBytes .pe32 .file hugeImg = .ok hugeFile ∧ hugeFile.secs.length = 1 ∧
      hugeFile.toView.size = 4294967295) ∧
    (huge64Img.bytes.size = 256 ∧ fromBytes .pe64 .file huge64Img = .ok huge64File ∧ huge64File.secs.length = 1 ∧
      huge64File.toView.size = 4294967295) := by
  have h32 : hugeImg.bytes.size = 226 ∧ Accept .pe32 hugeImg ∧ hugeFile.secs.length = 1 ∧
      sizeOfImage hugeFile.b = 4294967295 := by
    unfold hugeFile hugeImg
    rw [tinyPe_eq]
    simp only [Accept, hdr_toNat, le16_toNat, le32_toNat]
    decide +kernel
  have h64 : huge64Img.bytes.size = 256 ∧ Accept .pe64 huge64Img ∧ huge64File.secs.length = 1 ∧
      sizeOfImage huge64File.b = 4294967295 := by
    simp only [Accept, hdr_toNat, le16_toNat, le32_toNat]
    decide +kernel
  have v32 : fromBytes .pe32 .file hugeImg = .ok hugeFile := (fromBytes_ok_iff _ _ _ _).2 ⟨h32.2.1, rfl⟩
  have v64 : fromBytes .pe64 .file huge64Img = .ok huge64File := (fromBytes_ok_iff _ _ _ _).2 ⟨h64.2.1, rfl⟩
  exact ⟨⟨h32.1, v32, h32.2.2.1, (C06_to_view_size _ _ _ v32).trans h32.2.2.2⟩,
    ⟨h64.1, v64, h64.2.2.1, (C06_to_view_size _ _ _ v64).trans h64.2.2.2⟩⟩

/-- in general: the size of the conversion result is the declared one, for every accepted file, and every
value of the field is possible above `SizeOfHeaders` -/
theorem C03_to_view_work_is_declared_size (f : Fmt) (img : Img) (v : View) (hv : fromBytes f .file img = .ok v) :
    v.toView.size = sizeOfImage v.b ∧ sizeOfImage v.b < 4294967296 :=
  ⟨C06_to_view_size f img v hv, le32_lt _ _⟩

end Pelite.Pe
