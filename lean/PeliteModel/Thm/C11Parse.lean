import PeliteModel.Lemmas.Pattern
/-!
C11 (first sentence) and C02 for the pattern parser `pelite::pattern::parse`
(model: `Pelite.Pattern.parse`, Model/Pattern.lean).  Property theorems only; the loop invariant and
helper lemmas are in Lemmas/Pattern.lean.

Vocabulary (Lemmas/Pattern.lean): `slotOf a` = the save slot atom `a` touches (the atoms `save_len`
looks at); `argOf a` = its `u8` argument; `isRedundant` = `Skip | Rangext | Pop | Many` (what the parser
trims from the end); `PushNext k b` = `b` is `Push(k)` again or the jump atom `Push(k)` was made from;
`WellFormed l` / `TrimmedOK l` = the structural facts below, bundled.
-/
namespace Pelite.Pattern

/-- The reported position is an offset of the input, and it is strictly inside it except for the two
kinds that are (also) detected after the last byte (`StackError`: unclosed `{`, `SubPattern`: unclosed `(`). -/
theorem C11_error_position (s : List UInt8) (k : PatErr) (pos : Nat) (h : parse s = .err k pos) :
    pos ≤ s.length ∧ (pos < s.length ∨ k = .stackError ∨ k = .subPattern) := by
  obtain ⟨rest, pat, st, hr, hp, hk⟩ := parse_err_reach h
  refine ⟨by omega, hk.imp_left fun hne => ?_⟩
  have h1 := hr.spec.2.1.length_le
  have h3 := List.length_pos_iff.mpr hne
  omega

/-- **C11, first sentence.** Parsing any byte string (in particular any `&str`) yields either a
pattern or an error whose position lies within the input. -/
theorem C11_parse_total (s : List UInt8) :
    (∃ atoms, parse s = .ok atoms) ∨ (∃ k pos, parse s = .err k pos ∧ pos ≤ s.length) :=
  (parse_ok_or_err s).imp_right fun ⟨k, pos, h⟩ => ⟨k, pos, h, (C11_error_position s k pos h).1⟩

/-- **C02 for the parser.** No arm of `parse_helper` can panic in a checked build — the `u8` counters
`save` and `depth`, the `u32` accumulation `bound * 10 + d`, the `usize` offset subtractions
`result.len() - sub.case - 1`, `result.len() - brk - 1`, the indexings `result[sub.case]`, `result[brk]`,
the nibble arithmetic and the final pointer subtraction — and the loop terminates. -/
theorem C02_parse_never_panics (s : List UInt8) : (∀ site, parse s ≠ .panic site) ∧ parse s ≠ .diverge := by
  have := parse_reach s
  constructor
  · intro site h; rw [h] at this; exact this
  · intro h; rw [h] at this; exact this

/-- The position is the value of `*pat`, which the two `continue` statements (after a coalesced `?`
and after `[n]`) do not advance: it can lag behind the offending token (`X` is at offset 2 resp. 3).
Still inside the input, as C11 demands. -/
example : parse "??X".toUTF8.toList = .err .unknownChar 1 := by decide +kernel
example : parse "[5]X".toUTF8.toList = .err .unknownChar 0 := by decide +kernel
example : parse "12 X".toUTF8.toList = .err .unknownChar 3 := by decide +kernel

/-- **The `unsafe` block of the parser.** `*pat = unsafe { str::from_utf8_unchecked(iter.as_slice()) }`
is executed at the bottom of the loop body only; in every reachable loop state (`Reach`: start state,
then one `tok` step at a time) the value of `*pat` is the whole input or begins directly behind an
ASCII byte (every token ends in one: an operator character, a hex digit, the closing `"`, `]`, the
operand of `@`/`i`/`u`).  A byte `< 0x80` is never part of a multi-byte UTF-8 sequence, so for a `&str`
input the slice is valid UTF-8 and the unchecked conversion is sound. -/
theorem C11_pat_char_boundary (s rest pat : List UInt8) (st : PSt) (h : Reach s rest pat st) :
    (∃ pre, s = pre ++ rest) ∧ (pat = s ∨ ∃ pre b, s = pre ++ b :: pat ∧ b.toNat < 128) :=
  h.spec.2.2

/-- consequently a reported error position is 0 or directly behind an ASCII byte (a char boundary) -/
theorem C11_error_position_char_boundary (s : List UInt8) (k : PatErr) (pos : Nat) (h : parse s = .err k pos) :
    pos = 0 ∨ ∃ b, s[pos - 1]? = some b ∧ b.toNat < 128 := by
  obtain ⟨rest, pat, st, hr, hp, _⟩ := parse_err_reach h
  rcases hr.spec.2.2.2 with rfl | ⟨pre, b, rfl, hb⟩
  · exact .inl (by omega)
  · refine .inr ⟨b, ?_, hb⟩
    have : pos - 1 = pre.length := by
      simp only [List.length_append, List.length_cons] at hp; omega
    rw [this, List.getElem?_append_right (Nat.le_refl _), Nat.sub_self]; rfl

/-- non-vacuity: the state reached on `"é"12` after the quoted string (`*pat` behind the closing quote) -/
example : Reach [34, 195, 169, 34, 49, 50] [49, 50] [49, 50]
    { result := #[.save 0, .byte 195, .byte 169], save := 1, depth := 0, subs := [], subEnd := 0 } :=
  Reach.step (c := 34) (rest := [195, 169, 34, 49, 50])
    (nx := ⟨{ result := #[.save 0, .byte 195, .byte 169], save := 1, depth := 0, subs := [], subEnd := 0 }, [49, 50], true⟩)
    Reach.init rfl

/-- **C11, last clause (parser side).** For every successfully parsed pattern the advertised save
length is between 1 and 255 and covers every slot that an atom of the pattern reads or writes; every
emitted slot index is below the parser's final save counter, which is at most 255. -/
theorem C11_save_len_covers (s : List UInt8) (atoms : List Atom) (h : parse s = .ok atoms) :
    1 ≤ saveLen atoms ∧ saveLen atoms ≤ 255 ∧
    ∀ a ∈ atoms, ∀ k, slotOf a = some k → k < saveLen atoms ∧ k < 255 := by
  have htr := parse_trimmedOK h
  refine ⟨?_, saveLen_le_iff.mpr htr.slots, ?_⟩
  · have := saveLen_covers (List.mem_of_getElem? htr.first) (k := 0) rfl
    omega
  · intro a ha k hk
    exact ⟨saveLen_covers ha hk, htr.slots a ha k hk⟩

/-- `save_len` covers the slots of ANY atom list (by definition of `save_len`; no parser involved). -/
theorem C11_save_len_covers_any (l : List Atom) (a : Atom) (ha : a ∈ l) (k : Nat) (hk : slotOf a = some k) :
    k + 1 ≤ saveLen l :=
  saveLen_covers ha hk

/-- **Structure before trimming.** The atoms returned by a successful parse are a well-formed vector
minus a tail of redundant atoms: in `atoms ++ tail` the first atom is `Save(0)`, every `Push(k)` is
directly followed by `Push(k)` or its jump atom, every `Case(n)` at `i` points at a `Case`/`Nop` at
`i+1+n` inside the vector, every `Break(n)` at `i` has `i+1+n ≤` the length (inside or exactly at the
end), every argument fits a `u8` and every slot is `< 255`; the trimmed tail consists of
`Skip/Rangext/Pop/Many` only and `atoms` does not end in such an atom. -/
theorem C11_parse_wellformed (s : List UInt8) (atoms : List Atom) (h : parse s = .ok atoms) :
    ∃ tail, WellFormed (atoms ++ tail) ∧ (∀ a ∈ tail, isRedundant a = true) ∧
      (∀ a, atoms[atoms.length - 1]? = some a → isRedundant a = false) :=
  parse_ok_struct h

/-- **Structure after trimming.** Everything above survives for `atoms` itself — in particular `Case`
targets stay inside the returned list — EXCEPT the bound on `Break` targets (next theorem). -/
theorem C11_parse_trimmed (s : List UInt8) (atoms : List Atom) (h : parse s = .ok atoms) : TrimmedOK atoms :=
  parse_trimmedOK h

/-- After trimming a `Break(n)` at `i` satisfies `i+1+n ≤ atoms.length + (number of trimmed atoms)`:
its target is inside the list, at its end, or inside the trimmed redundant tail. -/
theorem C11_break_target_after_trim (s : List UInt8) (atoms : List Atom) (h : parse s = .ok atoms) :
    ∃ tail : List Atom, (∀ a ∈ tail, isRedundant a = true) ∧
      ∀ i n, atoms[i]? = some (.brk n) → i + 1 + n ≤ atoms.length + tail.length := by
  obtain ⟨tail, hw, ht, _⟩ := parse_ok_struct h
  refine ⟨tail, ht, ?_⟩
  intro i n hi
  have := hw.brkT i n (getElem?_append_left' hi)
  simpa using this

/-- The statement "Break offsets stay inside or exactly at the end of the returned list" is FALSE
after trimming: here `Break(2)` at index 3 targets index 6 of a list of length 5 (the trimmed `Skip(1)`
was the whole second alternative). -/
example : parse "(12|?)".toUTF8.toList = .ok [.save 0, .case 2, .byte 0x12, .brk 2, .nop] := by decide +kernel

/-- the first atom is `Save(0)` -/
theorem C11_first_atom (s : List UInt8) (atoms : List Atom) (h : parse s = .ok atoms) :
    atoms[0]? = some (.save 0) :=
  (C11_parse_trimmed s atoms h).first

/-- The statement "every `Push` is immediately followed by its jump atom" is FALSE: `{{` duplicates
the `Push` (the second `{` sees the jump atom again). -/
example : parse "${{'}}".toUTF8.toList = .ok [.save 0, .push 4, .push 4, .jump4, .save 1] := by decide +kernel

/-- `_partial` (strongest true form): every `Push(k)` of a parsed pattern has `k ∈ {0 (Ptr), 1, 4}` and
starts a run of identical `Push(k)` atoms that ends in the jump atom it was made from
(`Jump1` for 1, `Jump4` for 4, `Ptr` for 0), all inside the returned list. -/
theorem C11_push_followed_by_jump_partial (s : List UInt8) (atoms : List Atom) (h : parse s = .ok atoms)
    (i k : Nat) (hi : atoms[i]? = some (.push k)) :
    (k = 0 ∨ k = 1 ∨ k = 4) ∧
    ∃ j b, i < j ∧ (∀ m, i ≤ m → m < j → atoms[m]? = some (.push k)) ∧ atoms[j]? = some b ∧ jumpFor k b := by
  obtain ⟨tail, hw, ht, _⟩ := parse_ok_struct h
  have hi' := getElem?_append_left' (tail := tail) hi
  obtain ⟨j, b, h1, h2, h3, h4⟩ := hw.push_run _ i k (Nat.le_refl _) hi'
  refine ⟨by rcases h4 with ⟨h, _⟩ | ⟨h, _⟩ | ⟨h, _⟩ <;> omega, ?_⟩
  have hb : isRedundant b = false := pushNext_not_redundant (.inr h4)
  refine ⟨j, b, h1, ?_, getElem?_append_of_not_redundant ht h3 hb, h4⟩
  intro m hm1 hm2
  exact getElem?_append_of_not_redundant ht (h2 m hm1 hm2) rfl

/-- The statement "`Pop`s are balanced with `Push`es in every successfully parsed pattern" is FALSE:
`depth` is *reset* at `|` and `)` instead of being checked, so braces may be left open or be closed
twice inside alternatives.  First: a `Push` that is never popped; second: one `Push`, and on every
path through the alternatives two `Pop`s (the last one trimmed). -/
example : parse "(${|)".toUTF8.toList = .ok [.save 0, .case 3, .push 4, .jump4, .brk 1, .nop] := by decide +kernel
example : parse "${(}|})} 00".toUTF8.toList =
    .ok [.save 0, .push 4, .jump4, .case 2, .pop, .brk 2, .nop, .pop, .pop, .byte 0] := by decide +kernel
/-- … although the same unbalanced brace is rejected outside of alternatives -/
example : parse "${".toUTF8.toList = .err .stackError 2 := by decide +kernel

/-- `_partial`: for a pattern string without the byte `(` the untrimmed vector has exactly as many
`Push` as `Pop` atoms (the trimmed tail can only have removed `Pop`s: `#Push = #Pop + #trimmed Pop`). -/
theorem C11_push_pop_balanced_partial (s : List UInt8) (atoms : List Atom)
    (hno : ∀ c ∈ s, c ≠ (40 : UInt8)) (h : parse s = .ok atoms) :
    ∃ tail : List Atom, (∀ a ∈ tail, isRedundant a = true) ∧
      atoms.countP isPush = atoms.countP isPop + tail.countP isPop := by
  obtain ⟨pat, st, hr, hd, _, rfl⟩ := parse_ok_reach h
  obtain ⟨tail, h1, ht, _⟩ := trim_append st.result
  refine ⟨tail, ht, ?_⟩
  have hz : tail.countP isPush = 0 := List.countP_eq_zero.mpr fun a ha hp => by
    have := ht a ha
    cases a <;> cases hp <;> cases this
  have hb := (hr.bal hno).2
  rw [hd, ← Array.countP_toList, ← Array.countP_toList, h1, List.countP_append, List.countP_append] at hb
  omega

/-- hypotheses satisfiable on a non-trivial instance (the repository's own vector) -/
example : (∀ c ∈ "B9'?? 68???? E8${'} 8B".toUTF8.toList, c ≠ (40 : UInt8)) := by decide +kernel

/-! ## Non-vacuity: the repository's own test vectors (pattern.rs `mod tests`) -/

example : parse "12 34 56 ? ?".toUTF8.toList = .ok [.save 0, .byte 0x12, .byte 0x34, .byte 0x56] := by
  decide +kernel
example : parse "B9'?? 68???? E8${'} 8B".toUTF8.toList = .ok
    [.save 0, .byte 0xB9, .save 1, .skip 2, .byte 0x68, .skip 4, .byte 0xE8, .push 4, .jump4, .save 2, .pop, .byte 0x8B] := by
  decide +kernel
example : parse "${%{${%{}}}}".toUTF8.toList = .ok
    [.save 0, .push 4, .jump4, .push 1, .jump1, .push 4, .jump4, .push 1, .jump1] := by decide +kernel
example : parse "*{\"hello\"00}".toUTF8.toList = .ok
    [.save 0, .push 0, .ptr, .byte 104, .byte 101, .byte 108, .byte 108, .byte 111, .byte 0] := by decide +kernel
example : parse "b8 [16] 50 [13-42] ff".toUTF8.toList = .ok
    [.save 0, .byte 0xb8, .skip 16, .byte 0x50, .skip 13, .many 29, .byte 0xff] := by decide +kernel
example : parse "e9 $ @4".toUTF8.toList = .ok [.save 0, .byte 0xe9, .jump4, .aligned 4] := by decide +kernel
example : parse "83 c0 2a ( 6a ? | 68 ? ? ? ? ) e8".toUTF8.toList = .ok
    [.save 0, .byte 0x83, .byte 0xc0, .byte 0x2a, .case 3, .byte 0x6a, .skip 1, .brk 3,
     .nop, .byte 0x68, .skip 4, .byte 0xe8] := by decide +kernel
example : saveLen [.save 0, .byte 0xB9, .save 1, .skip 2, .readU32 2] = 3 := by decide
example : parse "}}".toUTF8.toList = .err .stackError 0 := by decide +kernel
example : parse "AB {}".toUTF8.toList = .err .stackInvalid 3 := by decide +kernel
example : parse "123".toUTF8.toList = .err .unpairedHexDigit 2 := by decide +kernel
example : parse "EE BZ".toUTF8.toList = .err .unpairedHexDigit 3 := by decide +kernel
example : parse "é".toUTF8.toList = .err .unknownChar 0 := by decide +kernel
example : parse "@".toUTF8.toList = .err .alignedOperand 0 := by decide +kernel
example : parse "\"unbalanced".toUTF8.toList = .err .unclosedQuote 0 := by decide +kernel
example : parse "[-2]".toUTF8.toList = .err .manyInvalid 0 := by decide +kernel
example : parse "[20-1]".toUTF8.toList = .err .manyRange 0 := by decide +kernel
example : parse "[20000-40000]".toUTF8.toList = .err .manyOverflow 0 := by decide +kernel

end Pelite.Pattern
