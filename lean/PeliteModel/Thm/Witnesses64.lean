import PeliteModel.Lemmas.LayoutWitnesses
import PeliteModel.Thm.C08
import PeliteModel.Thm.C09
import PeliteModel.Thm.C10Pos
import PeliteModel.Thm.C11Impl
import PeliteModel.Thm.C12Find
import PeliteModel.Thm.C13
/-!
PE32+ and file-view witnesses for C08–C13.

The theorems of C08–C13 quantify over every `View` — both formats, both kinds; the instances next to them are mostly PE32
mapped views.  This file evaluates the models, by `decide +kernel`, on three hand-built PE32+ images
(`Lemmas/LayoutWitnesses.lean`; each accepted by `PeFile::from_bytes` / `PeView::from_bytes` of its format and by the
format-agnostic constructors) and instantiates these theorems on them:

* C08 — a PE32+ FILE whose export name strings lie in a SECOND section stored at a file offset that differs from its
  RVA: `C08_name_sorted`, `C08_refs_ok`, `C08_name_eq_linear`;
* C09 — a PE32+ mapped view with two 8-byte thunks (by name; by ordinal with bit 63): `Imports.int` / `iat`,
  `C09_int_table`, `C09_iat_table` with pointer size 8;
* C10 — `Scan.Hyp` on that PE32+ view (and on the PE32+ file, where `SecWF` is a condition on two sections) for a
  pattern with `Ptr` (absolute 8-byte pointer), non-empty `specMatches`, `C10_scan_complete`;
* C11 — `denoteImpl (Exec.ofView v) …` with a `*` item on the view AND on the file, agreeing with `run`;
  `C11_interfaces`, `C11_exec_compile_impl`;
* C12 / C13 — a PE32+ FILE with a resource section: `Resources.ofView v = .ok …`, `C12_resources_aligned`, the
  `/VERSION/#1/0x409` leaf, `version_info()` reaching a VS_VERSIONINFO whose fixed file info is handed out.

The real library gives the same answers on these bytes (`imports v64 dump`, `iat v64 dump`, `exports f64 dump`,
`export f64 name …`, `scan` / `pat_exec` with `Ptr`, `res f64 dump|version|fsck`, `ver … fixed|events`, replayed by
hand through `harness/target/debug/impl` and the model driver).
-/

/-! ## the three images are accepted -/

namespace Pelite.Witness64
open Pelite Pelite.Pe

theorem constructed {k : Kind} {img : Img} {base : Nat} (ha : Accept .pe64 img)
    (hb : imageBaseField .pe64 img.bytes = base) :
    fromBytes .pe64 k img = .ok ⟨img, .pe64, k, base⟩ ∧ wrapFromBytes k img = .ok ⟨img, .pe64, k, base⟩ :=
  ⟨fromBytes_ok_of ha hb, wrap_complete _ _ _ _ (fromBytes_ok_of ha hb)⟩

/-- each image is what the constructor of its format and kind builds from its bytes, the format-agnostic constructors
select PE32+ for them, and the PE32 constructor refuses the file (`PeMagic`) -/
theorem W64_views_constructed :
    fromBytes .pe64 .view view64.img = .ok view64 ∧ fromBytes .pe64 .file file64.img = .ok file64 ∧
    fromBytes .pe64 .file res64.img = .ok res64 ∧
    wrapFromBytes .view view64.img = .ok view64 ∧ wrapFromBytes .file file64.img = .ok file64 ∧
    wrapFromBytes .file res64.img = .ok res64 ∧
    fromBytes .pe32 .file file64.img = .err .peMagic := by
  have ⟨a1, b1, a2, b2, a3, b3, e⟩ :
      Accept .pe64 view64.img ∧ imageBaseField .pe64 view64.img.bytes = 0x140000000 ∧
      Accept .pe64 file64.img ∧ imageBaseField .pe64 file64.img.bytes = 0x140000000 ∧
      Accept .pe64 res64.img ∧ imageBaseField .pe64 res64.img.bytes = 0x140000000 ∧
      validate .pe32 file64.img = .err .peMagic := by simp only [Accept, hdr_toNat, le16_toNat, le32_toNat]; decide +kernel
  have o1 := constructed (k := .view) a1 b1
  have o2 := constructed (k := .file) a2 b2
  have o3 := constructed (k := .file) a3 b3
  exact ⟨o1.1, o2.1, o3.1, o1.2, o2.2, o3.2, by unfold fromBytes; rw [e]⟩
end Pelite.Witness64

namespace Pelite.Witness64
open Pelite Pelite.Pe

/-! The section tables of the two files, decoded once for the places where `v.secs` or `v.slice` is visible in a goal (reads
become digits of the image's number before an evaluation: `le32_toNat`, Prim/Basic).  Fields of a `Sec`: Name[0..4], Name[4..8] (little
endian; ".edata", ".names", ".rsrc"), VirtualSize, VirtualAddress, SizeOfRawData, PointerToRawData, Characteristics. -/

def file64Secs : List Sec :=
  [⟨0x6164652e, 0x6174, 0x40, 0x1000, 0x40, 408, 0x40000040⟩, ⟨0x6d616e2e, 0x7365, 0x20, 0x2000, 0x20, 472, 0x40000040⟩]
def res64Secs : List Sec := [⟨0x7273722e, 0x63, 184, 0x1000, 184, 368, 0x40000040⟩]

theorem file64_secs : file64.secs = file64Secs := by
  simp only [View.secs, sections, secAt, hdr_toNat, le32_toNat]
  decide +kernel

theorem res64_secs : res64.secs = res64Secs := by
  simp only [View.secs, sections, secAt, hdr_toNat, le32_toNat]
  decide +kernel
end Pelite.Witness64


/-! ## C08 — exports of a PE32+ file, names in the second section -/

namespace Pelite.Exports
open Pelite Pelite.Pe Pelite.Witness64

/-- `exports()` of the file: data directory 0 = (0x1000, 0x3c), the directory is stored at file offset 408 -/
def wExp : Exports := ⟨file64, 0x1000, 0x3c, 408⟩
/-- its `by()`: the three tables at file offsets 448 / 456 / 464 (RVAs 0x1028 / 0x1030 / 0x1038) -/
def wBy : By := ⟨wExp, ⟨448, 2, false⟩, ⟨456, 2, false⟩, ⟨464, 2, false⟩⟩

/-- the directory decoded: the lookups below are computations on these lists -/
theorem wBy_dec : decOf wBy =
    ⟨1, [.ok (.symbol ⟨448, 4, 4⟩, .symbol 6144), .ok (.symbol ⟨452, 4, 4⟩, .symbol 10240)],
        [.ok (⟨478, 2, 1⟩, [97]), .ok (⟨480, 2, 1⟩, [98])], [0, 1]⟩ := by
  simp only [decOf, wBy, wExp, By.fnAt, By.nameAt, By.idxAt, By.b, Exports.b, Exports.base, View.dervaCStr, View.at,
    View.slice_file (v := file64) rfl, file64_secs, cstrFromBytes, findNul_eq, cstrBytes, le32_toNat, le16_toNat, byteAt_toNat]
  decide +kernel

/-- the section table (RVA, VirtualSize, PointerToRawData, SizeOfRawData): the second section is stored at 472, its RVA
is 0x2000; `exports()?.by()?` yields `wExp` / `wBy`; the two name pointers are RVAs INTO THE SECOND SECTION and the
strings are handed out where they are stored (file offsets 478 / 480 = 472 + 6 / 8, not the RVAs 0x2006 / 0x2008) -/
theorem W64_exports_in_second_section :
    (file64.secs.map fun s => (s.va, s.vs, s.prd, s.rs)) = [(0x1000, 0x40, 408, 0x40), (0x2000, 0x20, 472, 0x20)] ∧
    (tryFrom file64).bind (fun e => e.by.bind fun y => .ok (e.ddVA, e.ddSize, e.off, y.fns, y.names, y.idx)) =
      .ok (0x1000, 0x3c, 408, ⟨448, 2, false⟩, ⟨456, 2, false⟩, ⟨464, 2, false⟩) ∧
    wBy.nameAt 0 = 0x2006 ∧ wBy.nameAt 1 = 0x2008 ∧
    wBy.nameOfHint 0 = .ok ⟨478, 2, 1⟩ ∧ wBy.nameOfHint 1 = .ok ⟨480, 2, 1⟩ ∧
    wExp.dllName = .ok ⟨472, 6, 1⟩ ∧
    file64.rvaToFileOffset 0x2006 = .ok 478 := by
  have hn : wExp.v.at (.rva wExp.nameRva) 0 1 = .ok ⟨472, 32, 1⟩ := by
    simp only [View.at, View.slice_file (v := file64) rfl, file64_secs, Exports.nameRva, Exports.b, wExp, le32_toNat]
    decide +kernel
  refine ⟨by rw [file64_secs]; decide, ?_, ?_, ?_, ?_, ?_, ?_, ?_⟩
  · simp only [tryFrom_bind, Exports.by, Exports.functions, Exports.names, Exports.nameIndices, Exports.nFns,
      Exports.nNames, Exports.aFns, Exports.aNames, Exports.aOrds, Exports.b, View.derva, View.dervaSlice, View.at,
      View.slice_file (v := file64) rfl, file64_secs, View.dataDir_toNat, hdr_toNat, le32_toNat]
    decide +kernel
  · simp only [By.nameAt, le32_toNat]; decide +kernel
  · simp only [By.nameAt, le32_toNat]; decide +kernel
  · rw [nameOfHint_dec, wBy_dec]; rfl
  · rw [nameOfHint_dec, wBy_dec]; rfl
  · exact View.dervaCStr_of_at 5 hn (by simp only [byteAt_toNat]; decide +kernel)
  · simp only [View.rvaToFileOffset, file64_secs]; decide +kernel

/-- hypothesis of `C08_refs_ok` -/
theorem W64_exports_wf : wBy.WF :=
  ⟨by unfold Tab.OK; decide +kernel, by unfold Tab.OK; decide +kernel, by unfold Tab.OK; decide +kernel⟩

/-- **`C08_name_sorted` instantiated**: the table is sorted; a stored name is found by the binary search as the hint's
entry, a name that is not stored answers Null -/
theorem W64_C08_name_sorted :
    wBy.checkSorted = .ok true ∧
    (∃ h, h < wBy.names.cnt ∧ wBy.nameStr h = .ok [98] ∧ wBy.name [98] = wBy.hint h) ∧
    wBy.name [98] = .ok (.symbol ⟨452, 4, 4⟩) ∧
    wBy.name [99] = .err .null := by
  have ⟨hs, h1, hn, hne⟩ : wBy.checkSorted = .ok true ∧ wBy.nameStr 1 = .ok [98] ∧
      wBy.name [98] = .ok (.symbol ⟨452, 4, 4⟩) ∧ ∀ h < 2, wBy.nameStr h ≠ .ok [99] := by
    simp only [checkSorted_dec, nameStr_dec, name_dec, wBy_dec]
    decide +kernel
  exact ⟨hs, (C08_name_sorted wBy [98] hs).2 ⟨1, h1⟩, hn,
    (C08_name_sorted wBy [99] hs).1 fun h hq => hne h (nameStr_ok_lt hq) hq⟩

/-- **`C08_refs_ok` instantiated**: the references handed out for a lookup by name and by ordinal lie inside the FILE
buffer, 4-aligned (they point into the first section, at file offsets 448 / 452) -/
theorem W64_C08_refs_ok :
    wBy.name [97] = .ok (.symbol ⟨448, 4, 4⟩) ∧ RefOK file64.img ⟨448, 4, 4⟩ ∧
    wBy.ordinal 2 = .ok (.symbol ⟨452, 4, 4⟩) ∧ RefOK file64.img ⟨452, 4, 4⟩ ∧
    -- `C08_name_refs_ok`: a name string of the SECOND section is handed out inside the file buffer
    wBy.nameOfHint 1 = .ok ⟨480, 2, 1⟩ ∧ RefOK file64.img ⟨480, 2, 1⟩ := by
  have ⟨h1, h2⟩ : wBy.name [97] = .ok (.symbol ⟨448, 4, 4⟩) ∧ wBy.ordinal 2 = .ok (.symbol ⟨452, 4, 4⟩) := by
    simp only [name_dec, ordinal_dec, wBy_dec]
    decide +kernel
  have h3 := W64_exports_in_second_section.2.2.2.2.2.1
  exact ⟨h1, (C08_refs_ok wBy W64_exports_wf _).2.2.2.2.1 [97] h1, h2, (C08_refs_ok wBy W64_exports_wf _).2.1 2 h2,
    h3, ((C08_name_refs_ok wBy _).1 1 h3).1⟩

/-- **`C08_name_eq_linear` instantiated**: sorted without duplicates, so binary and linear search agree and the
lookup is the specification's function of the tables -/
theorem W64_C08_name_eq_linear :
    Spec.nameDetermined (tablesOf wBy) (cstrOf file64) = true ∧
    wBy.name [98] = wBy.nameLinear [98] ∧
    Spec.name (tablesOf wBy) (cstrOf file64) [98] = .ok (.symbol 0x2800) := by
  have hd : Spec.nameDetermined (tablesOf wBy) (cstrOf wBy.exp.v) = true := by
    simp only [Spec.nameDetermined, (spec_dec wBy).1, tablesOf_names_length, wBy_dec]
    decide +kernel
  have h := C08_name_eq_linear wBy [98] hd
  refine ⟨hd, h.1, h.2.symm.trans ?_⟩
  rw [name_abs_dec, wBy_dec]
  decide +kernel
end Pelite.Exports

/-! ## C09 — 8-byte thunks of a PE32+ view -/

namespace Pelite.Imports
open Pelite Pelite.Pe Pelite.Witness64

/-- the one import descriptor of `view64` -/
def wDesc : Ref := ⟨328, 20, 4⟩

/-- `C09_int_table` / `C09_iat_table` read for a window and a table that are known: the answer is that table -/
theorem W64_C09_table_instance (v : View) (d w : Ref) (n : Nat) :
    (v.at (.rva (Desc.oft v d)) 0 (vaSize v.fmt) = .ok w → IsThunkTable v.b w.off w.len (vaSize v.fmt) n →
      intSlice v d = .ok ⟨w.off, n * vaSize v.fmt, vaSize v.fmt⟩) ∧
    (v.at (.rva (Desc.ft v d)) 0 (vaSize v.fmt) = .ok w → IsThunkTable v.b w.off w.len (vaSize v.fmt) n →
      iatSlice v d = .ok ⟨w.off, n * vaSize v.fmt, vaSize v.fmt⟩) := by
  have hi := C09_int_table v d
  have ha := C09_iat_table v d
  unfold ThunkTableAnswer at hi ha
  exact ⟨fun hat ht => by rw [hat] at hi; exact hi.1 n ht, fun hat ht => by rw [hat] at ha; exact ha.1 n ht⟩

/-- **`C09_int_table` / `C09_iat_table` instantiated with pointer size 8**: both windows hold a zero-terminated table
of two 8-byte thunks (`IsThunkTable … 8 2`), so the answers are exactly those tables -/
theorem W64_C09_thunk_tables :
    vaSize view64.fmt = 8 ∧
    IsThunkTable view64.b 368 80 (vaSize view64.fmt) 2 ∧ IsThunkTable view64.b 392 56 (vaSize view64.fmt) 2 ∧
    intSlice view64 wDesc = .ok ⟨368, 2 * vaSize view64.fmt, vaSize view64.fmt⟩ ∧
    iatSlice view64 wDesc = .ok ⟨392, 2 * vaSize view64.fmt, vaSize view64.fmt⟩ := by
  have ⟨l1, z1, w1, l2, z2, w2⟩ :
      (∀ i < 2, leN view64.b (368 + i * 8) 8 ≠ 0) ∧ leN view64.b (368 + 2 * 8) 8 = 0 ∧
      view64.at (.rva (Desc.oft view64 wDesc)) 0 8 = .ok ⟨368, 80, 8⟩ ∧
      (∀ i < 2, leN view64.b (392 + i * 8) 8 ≠ 0) ∧ leN view64.b (392 + 2 * 8) 8 = 0 ∧
      view64.at (.rva (Desc.ft view64 wDesc)) 0 8 = .ok ⟨392, 56, 8⟩ := by
    simp only [leN_toNat, Desc.oft, Desc.ft, le32_toNat]
    decide +kernel
  have t1 : IsThunkTable view64.b 368 80 (vaSize view64.fmt) 2 := ⟨by decide, l1, z1⟩
  have t2 : IsThunkTable view64.b 392 56 (vaSize view64.fmt) 2 := ⟨by decide, l2, z2⟩
  exact ⟨rfl, t1, t2, (W64_C09_table_instance view64 wDesc ⟨368, 80, 8⟩ 2).1 w1 t1,
    (W64_C09_table_instance view64 wDesc ⟨392, 56, 8⟩ 2).2 w2 t2⟩

/-- `Imports.int` / `iat` / the image-wide IAT on 8-byte thunks: element references are 8 bytes apart and 8-aligned,
the thunk with bit 63 set decodes as ordinal 7, the other one as hint 5 + name "Fn", the zero terminator of the IAT
directory (Size 24 = 3 entries) as Null -/
theorem W64_imports_view :
    view64.dataDir 1 = some (328, 40) ∧ tryFrom view64 = .ok ⟨328, 20, 4⟩ ∧ descs ⟨328, 20, 4⟩ = [wDesc] ∧
    vaSize view64.fmt = 8 ∧
    dllName view64 wDesc = .ok ⟨422, 6, 1⟩ ∧
    intSlice view64 wDesc = .ok ⟨368, 16, 8⟩ ∧ iatSlice view64 wDesc = .ok ⟨392, 16, 8⟩ ∧
    thunkVal view64 ⟨368, 8, 8⟩ = 416 ∧ thunkVal view64 ⟨376, 8, 8⟩ = 0x8000000000000007 ∧
    int view64 wDesc = .ok [.ok (.byName 5 ⟨418, 3, 1⟩), .ok (.byOrdinal 7)] ∧
    iat view64 wDesc = .ok [⟨392, 8, 8⟩, ⟨400, 8, 8⟩] ∧
    view64.dataDir 12 = some (392, 24) ∧ iatTryFrom view64 = .ok ⟨392, 24, 8⟩ ∧
    iatIter view64 ⟨392, 24, 8⟩ = [(⟨392, 8, 8⟩, .ok (.byName 5 ⟨418, 3, 1⟩)),
      (⟨400, 8, 8⟩, .ok (.byOrdinal 7)), (⟨408, 8, 8⟩, .err .null)] := by
  obtain ⟨e1, e2, e3, e4⟩ := C09_model_eq_spec view64 (by decide +kernel)
  rw [int, iat, iatIter, (e3 _).2.2, (e3 _).2.1, (e3 _).1, e1, e2, specTryFrom, specIat, specThunks, specThunks, specCStr]
  simp only [e4, specImport, specCStr, View.dataDir_toNat, hdr_toNat, specDescCount_eq, specThunkCount_eq, ftAt, thunkVal,
    Desc.oft, Desc.ft, Desc.name, byteAt_toNat, le16_toNat, le32_toNat, leN_toNat]
  decide +kernel
end Pelite.Imports

/-! ## C10 / C11 — `Ptr` on a PE32+ view and a PE32+ file -/

namespace Pelite.Scan
open Pelite Pelite.Pe Pelite.Witness64 Pelite.Pattern Pelite.Exec

/-- `e1 * aa ' bb`: a byte, then FOLLOW THE ABSOLUTE POINTER stored behind it (`Ptr`: 8 bytes in a PE32+ image), match
`aa`, bookmark, match `bb` at the destination -/
def wPtrPat : List Atom := [.save 0, .byte 0xE1, .ptr, .byte 0xAA, .save 1, .byte 0xBB]

theorem wPtrPat_parsed : parse "e1 * aa ' bb".toUTF8.toList = .ok wPtrPat := by decide +kernel

example : parse "e1 * aa ' bb".toUTF8.toList = .ok wPtrPat := wPtrPat_parsed

/-- **`Scan.Hyp` on an accepted PE32+ mapped view and a pattern containing `Ptr`**, with a non-empty reference list;
the scan reports exactly that list (slot 0 = match position 428, slot 1 = the bookmark at the pointer's target + 1) -/
theorem W64_C10_hyp_ptr_view :
    Hyp view64 wPtrPat 0 448 ∧ Atom.ptr ∈ wPtrPat ∧ view64.fmt.ptrSize = 8 ∧
    specMatches view64 wPtrPat 0 448 = [428] ∧
    scanAll (next view64 wPtrPat) 4 (matchesInit 0 448) #[0, 0] =
      .ok ⟨[(428, #[428, 441])], ⟨448, 448, 1⟩, #[428, 441], true⟩ := by
  have ⟨hsz, hscan, hcand⟩ : view64.b.size < 4294967296 ∧
      scanAll (next view64 wPtrPat) 4 (matchesInit 0 448) #[0, 0] =
        .ok ⟨[(428, #[428, 441])], ⟨448, 448, 1⟩, #[428, 441], true⟩ ∧
      ∀ p ∈ [428], IsCand view64 (setup wPtrPat).length 0 448 p := by
    rw [next_eq_plan]; simp only [interp, ofView_toNat]; decide +kernel
  have hH := C10_hyp_of_parse _ _ wPtrPat_parsed view64 0 448 hsz (by decide) (by decide) nofun
  exact ⟨hH, by decide, rfl, specMatches_eq_hits hH hscan rfl hcand, hscan⟩

/-- the same on the PE32+ FILE, where `SecWF` constrains two sections and every address goes through the section table:
the match is at RVA 0x2010 (file offset 488), the pointer's target RVA 0x201a is file offset 498 -/
theorem W64_C10_hyp_ptr_file :
    Hyp file64 wPtrPat 0 0x3000 ∧ SecWF file64.secs ∧ file64.secs.length = 2 ∧
    specMatches file64 wPtrPat 0 0x3000 = [0x2010] ∧
    scanAll (next file64 wPtrPat) 4 (matchesInit 0 0x3000) #[0, 0] =
      .ok ⟨[(0x2010, #[0x2010, 0x201b])], ⟨0x2020, 0x3000, 1⟩, #[0x2010, 0x201b], true⟩ := by
  have ⟨hsz, hwf, hlen, hscan⟩ : file64.b.size < 4294967296 ∧ SecWF file64.secs ∧ file64.secs.length = 2 ∧
      scanAll (next file64 wPtrPat) 4 (matchesInit 0 0x3000) #[0, 0] =
        .ok ⟨[(0x2010, #[0x2010, 0x201b])], ⟨0x2020, 0x3000, 1⟩, #[0x2010, 0x201b], true⟩ := by
    rw [next_eq_plan]
    simp only [interp, ofView_toNat, View.slice_file (v := file64) rfl, planV, file64_secs]
    decide +kernel
  have hcand : ∀ p ∈ [0x2010], IsCand file64 (setup wPtrPat).length 0 0x3000 p := by
    intro p hp
    show ∃ s ∈ file64.secs, _
    rw [file64_secs]
    revert p; decide +kernel
  have hH := C10_hyp_of_parse _ _ wPtrPat_parsed file64 0 0x3000 hsz (by decide) (by decide) fun _ => hwf
  exact ⟨hH, hwf, hlen, specMatches_eq_hits hH hscan rfl hcand, hscan⟩

/-- `C10_scan_complete` instantiated on both -/
theorem W64_C10_scan_complete :
    (∀ p ∈ specMatches view64 wPtrPat 0 448, p ∈ [428]) ∧
    (∀ p ∈ specMatches file64 wPtrPat 0 0x3000, p ∈ [0x2010]) :=
  ⟨C10_scan_complete view64 wPtrPat 0 448 W64_C10_hyp_ptr_view.1 4 #[0, 0] _ W64_C10_hyp_ptr_view.2.2.2.2 rfl,
   C10_scan_complete file64 wPtrPat 0 0x3000 W64_C10_hyp_ptr_file.1 4 #[0, 0] _ W64_C10_hyp_ptr_file.2.2.2.2 rfl⟩
end Pelite.Scan

namespace Pelite.PatSem
open Pelite Pelite.Pe Pelite.Witness64 Pelite.Pattern Pelite.Exec
def wPtrTree : Pat := [.byte 0xE1, .jump .ptr, .byte 0xAA, .save, .byte 0xBB]

/-- **`denoteImpl (Exec.ofView v)` with a `*` item on a real accepted image, mapped AND file, agrees with `run`**:
final cursor, bookmark and match position as specified; where the reference semantics rejects, so does the interpreter -/
theorem W64_C11_ofView_ptr :
    WF wPtrTree = true ∧ compile wPtrTree = Scan.wPtrPat ∧
    denoteImpl (ofView view64) wPtrTree 428 = some (442, [(1, 441), (0, 428)]) ∧
    run (ofView view64) (compile wPtrTree) 428 #[0, 0] = .ok (true, #[428, 441]) ∧
    denoteImpl (ofView file64) wPtrTree 0x2010 = some (0x201c, [(1, 0x201b), (0, 0x2010)]) ∧
    run (ofView file64) (compile wPtrTree) 0x2010 #[0, 0] = .ok (true, #[0x2010, 0x201b]) ∧
    -- one byte further the pattern does not match, on either side
    denoteImpl (ofView view64) wPtrTree 429 = none ∧
    run (ofView view64) (compile wPtrTree) 429 #[0, 0] = .ok (false, #[429, 0]) := by
  rw [ofView_toNat view64, ofView_toNat file64]
  simp only [View.slice_file (v := file64) rfl, file64_secs]
  decide +kernel

/-- **`C11_interfaces` instantiated**: mapped view (size bound) and file view (size bound, disjoint sections) -/
theorem W64_C11_interfaces :
    ((ofView view64).WF ∧ Coherent (ofView view64)) ∧ ((ofView file64).WF ∧ Coherent (ofView file64)) :=
  ⟨C11_interfaces.2.1 view64 rfl (by decide +kernel),
   C11_interfaces.2.2 file64 rfl (by decide +kernel) (by rw [file64_secs]; decide)⟩

/-- `C11_exec_compile_impl` instantiated on the two views: the interpreter's verdict is `denoteImpl`'s -/
theorem W64_C11_exec_compile_impl (save0 : Array Nat) :
    (∃ save, run (ofView view64) (compile wPtrTree) 428 save0 = .ok ((denoteImpl (ofView view64) wPtrTree 428).isSome, save) ∧
      save.size = save0.size ∧ (0 < save0.size → save[0]? = some 428) ∧ (1 < save0.size → save[1]? = some 441)) ∧
    (∃ save, run (ofView file64) (compile wPtrTree) 0x2010 save0 =
        .ok ((denoteImpl (ofView file64) wPtrTree 0x2010).isSome, save) ∧
      save.size = save0.size ∧ (0 < save0.size → save[0]? = some 0x2010) ∧ (1 < save0.size → save[1]? = some 0x201b)) := by
  obtain ⟨s1, r1, z1, c1⟩ := C11_exec_compile_impl W64_C11_interfaces.1.1 W64_C11_interfaces.1.2 wPtrTree
    W64_C11_ofView_ptr.1 428 (by decide) save0
  obtain ⟨s2, r2, z2, c2⟩ := C11_exec_compile_impl W64_C11_interfaces.2.1 W64_C11_interfaces.2.2 wPtrTree
    W64_C11_ofView_ptr.1 0x2010 (by decide) save0
  have d1 := W64_C11_ofView_ptr.2.2.1
  have d2 := W64_C11_ofView_ptr.2.2.2.2.1
  exact ⟨⟨s1, r1, z1, c1 _ _ d1 0 428 (by simp), c1 _ _ d1 1 441 (by simp)⟩,
         ⟨s2, r2, z2, c2 _ _ d2 0 0x2010 (by simp), c2 _ _ d2 1 0x201b (by simp)⟩⟩
end Pelite.PatSem

/-! ## C12 / C13 — resources and version info of a PE32+ file -/

namespace Pelite.Resources
open Pelite Pelite.Pe Pelite.Witness64

/-- **`Pe::resources()` on a PE32+ FILE**: the section is found through the section table (RVA 0x1000 → file offset 368),
clamped to the directory Size 180; the tree is consistent, the `/VERSION/#1/0x409` leaf is the 92 bytes at +88, and
`version_info()` reaches them (as `u16` words: alignment 2) -/
theorem W64_C12_resources_of_file :
    (res64.secs.map fun s => (s.va, s.prd, s.rs)) = [(0x1000, 368, 184)] ∧ res64.dataDir 2 = some (0x1000, 180) ∧
    (ofView res64).bind (fun p => .ok (p.1.sec.size, p.1.dirVA, p.1.base, p.2)) = .ok (180, 0x1000, 368, 368) ∧
    (ofView res64).bind (fun p => fsck p.1) = .ok () ∧
    (ofView res64).bind (fun p => findResourceEx p.1 (.id RT_VERSION) (.id 1) (.id 0x409)) = .ok (.ok ⟨88, 92, 1⟩) ∧
    (ofView res64).bind (fun p => versionBytes p.1) = .ok (.ok ⟨88, 92, 1⟩) ∧
    (ofView res64).bind (fun p => versionInfo p.1) = .ok (.ok ⟨88, 92, 2⟩) := by
  rw [ofView_window, res64_secs]
  simp only [View.slice_file (v := res64) rfl, res64_secs, View.dataDir_toNat, hdr_toNat]
  decide +kernel

/-- `C12_resources_aligned` instantiated -/
theorem W64_C12_resources_aligned :
    ∃ r secOff, ofView res64 = .ok (r, secOff) ∧ secOff = 368 ∧ r.sec.size = 180 ∧ r.dirVA = 0x1000 ∧
      Aligned r ∧ secOff + r.sec.size ≤ res64.img.bytes.size ∧ r.base = res64.img.base + secOff ∧
      r.sec = res64.b.extract secOff (secOff + r.sec.size) := by
  have h0 := W64_C12_resources_of_file.2.2.1
  cases h : ofView res64 with
  | ok p =>
    rw [h] at h0
    obtain ⟨r, secOff⟩ := p
    have h1 : (r.sec.size, r.dirVA, r.base, secOff) = (180, 0x1000, 368, 368) := Out.ok.inj h0
    simp only [Prod.mk.injEq] at h1
    obtain ⟨ha, hb, hc, _, _, _, _, _, hd⟩ := C12_resources_aligned res64 r secOff h
    exact ⟨r, secOff, rfl, h1.2.2.2, h1.1, h1.2.1, ha, hb, hc, hd⟩
  | _ => rw [h] at h0; cases h0

end Pelite.Resources

namespace Pelite.Version
open Pelite Pelite.Pe Pelite.Witness64

/-- the version block of `res64` as `u16` words: length 92, value length 52, type 0; the key "VS_VERSION_INFO" and its
terminator; padding; the 26 words of the fixed file info -/
def wVersion : List Nat :=
  [92, 52, 0, 86, 83, 95, 86, 69, 82, 83, 73, 79, 78, 95, 73, 78, 70, 79, 0, 0, 0x04BD, 0xFEEF, 0, 1, 2, 1, 4, 3,
   6, 5, 8, 7, 0x3F, 0, 0, 0, 4, 4, 1, 0, 0, 0, 0, 0, 0, 0]

theorem res64_version : versionWords res64 = .ok (some (block wVersion)) := by
  unfold versionWords
  rw [Resources.ofView_window]
  simp only [View.slice_file (v := res64) rfl, res64_secs, extract_eq_window, View.dataDir_toNat, hdr_toNat]
  decide +kernel

/-- the version block `Resources::version_info` reaches in the file, parsed: the fixed info is handed out (26 words at
the even word offset 20 = byte 40 of the block = file offset 496), with the values that were laid out -/
theorem W64_C13_version_reached :
    ((versionWords res64).bind fun w => match w with | some w => fixed w | none => .ok none) =
      .ok (some ⟨20, [0x04BD, 0xFEEF, 0, 1, 2, 1, 4, 3, 6, 5, 8, 7, 0x3F, 0, 0, 0, 4, 4, 1, 0, 0, 0, 0, 0, 0, 0]⟩) ∧
    ((versionWords res64).bind fun w => match w with | some w => events w | none => .ok []) =
      .ok [.versionInfo ⟨3, [86, 83, 95, 86, 69, 82, 83, 73, 79, 78, 95, 73, 78, 70, 79]⟩
             (some ⟨20, [0x04BD, 0xFEEF, 0, 1, 2, 1, 4, 3, 6, 5, 8, 7, 0x3F, 0, 0, 0, 4, 4, 1, 0, 0, 0, 0, 0, 0, 0]⟩),
           .enter 0, .exit 0] ∧
    ((versionWords res64).bind fun w => match w with
      | some w => (sourceCode w).bind fun s => .ok (s.take 63)
      | none => .ok []) = .ok (str "1 VERSIONINFO\nFILEVERSION 1, 2, 3, 4\nPRODUCTVERSION 5, 6, 7, 8\n") := by
  have hb {β} (f : Option Sl → Out β) : (versionWords res64).bind f = f (some (block wVersion)) := by
    rw [res64_version]; rfl
  rw [hb, hb, hb]
  -- the lookup is evaluated once (`res64_version`, not once per conjunct); `source_code` through the callbacks,
  -- which the kernel renders at less than half the cost of running the visitor
  suffices hev : events (block wVersion) = _ from by
    refine ⟨by decide +kernel, hev, ?_⟩
    obtain ⟨_, he, hs⟩ := C13_source_renders_every_event wVersion
    cases hev.symm.trans he
    show (sourceCode (block wVersion)).bind _ = _
    rw [hs]
    exact congrArg Out.ok (by decide +kernel)
  decide +kernel
end Pelite.Version
