import PeliteModel.Model.Resources
import PeliteModel.Generated.ImageLayout
/-!
C12 — the literal sizes, alignments and offsets of `Model/Resources.lean` are the layouts of
`IMAGE_RESOURCE_DIRECTORY`, `IMAGE_RESOURCE_DIRECTORY_ENTRY` and `IMAGE_RESOURCE_DATA_ENTRY` in the *current
source* (`Generated/ImageLayout.lean`, rewritten on every check run from `size_of` / `align_of` / `offset_of!` of
the structs of `src/image.rs`).  The model writes the numbers inline, so each tie is stated through the function
that contains the literal: the function, on every input, equals its transcription in which every layout quantity
is the named constant of the regenerated table.

Not tied (no struct of `image.rs` behind them):
* `Model/ResGroup.lean`: `GRPICONDIR` (6 bytes, align 2; idReserved 0, idType 2, idCount 4) and `GRPICONDIRENTRY`
  (14 bytes; dwBytesInRes lo/hi words at 8 / 10, nId at 12) are declared in `src/resources/group.rs`, and the 16 of
  `write` is the size of an `.ico` file's ICONDIRENTRY (a literal in the source as well);
* the `2`s of `slice_ws` (`u16` length prefix and elements) are `size_of::<u16>()`;
* data directory index 2 is `IMAGE_DIRECTORY_ENTRY_RESOURCE`; `RT_*`, `FSCK_MAX_DEPTH` are constants, not layouts.
-/
namespace Pelite.Resources
open Pelite Pelite.Generated.Layout

/-- **Every struct read of the resource model is made with the size and alignment, and every field is read at the
offset, that the source's struct layout gives.** -/
theorem C12_model_offsets (r : Resources) (v : Pe.View) (d : Dir) (e : DirEntry) (de : DataEntry)
    (off o start n : Nat) (site : String) :
    -- the three `&T` the API hands out
    d.ref = ⟨d.off, IMAGE_RESOURCE_DIRECTORY__size, IMAGE_RESOURCE_DIRECTORY__align⟩ ∧
    e.ref = ⟨e.off, IMAGE_RESOURCE_DIRECTORY_ENTRY__size, IMAGE_RESOURCE_DIRECTORY_ENTRY__align⟩ ∧
    de.ref = ⟨de.off, IMAGE_RESOURCE_DATA_ENTRY__size, IMAGE_RESOURCE_DATA_ENTRY__align⟩ ∧
    -- `Pe::resources`: `slice(va, 0, align_of::<IMAGE_RESOURCE_DIRECTORY>())`
    ofView v =
      (match v.dataDir 2 with
       | none => .err .null
       | some (va, size) =>
         (v.slice va 0 IMAGE_RESOURCE_DIRECTORY__align).bind fun ref =>
           .ok (⟨v.b.extract ref.off (ref.off + min size ref.len), va, v.img.base + ref.off⟩, ref.off)) ∧
    -- `Directory::try_from`
    dirTryFrom r off =
      ((slice r "mod.rs:slice IMAGE_RESOURCE_DIRECTORY" off IMAGE_RESOURCE_DIRECTORY__size
          IMAGE_RESOURCE_DIRECTORY__align).bind fun _ =>
        let named := le16 r.sec (off + IMAGE_RESOURCE_DIRECTORY__NumberOfNamedEntries)
        let ids := le16 r.sec (off + IMAGE_RESOURCE_DIRECTORY__NumberOfIdEntries)
        if (named + ids) * IMAGE_RESOURCE_DIRECTORY_ENTRY__size > r.sec.size - (off + IMAGE_RESOURCE_DIRECTORY__size)
        then .err .bounds else .ok ⟨off, named, ids⟩) ∧
    -- one `IMAGE_RESOURCE_DIRECTORY_ENTRY` and the array of them behind the directory header
    entryAt r o = ⟨o, le32 r.sec (o + IMAGE_RESOURCE_DIRECTORY_ENTRY__Name),
                      le32 r.sec (o + IMAGE_RESOURCE_DIRECTORY_ENTRY__Offset)⟩ ∧
    entriesFrom r start (n + 1) = entryAt r start :: entriesFrom r (start + IMAGE_RESOURCE_DIRECTORY_ENTRY__size) n ∧
    entrySlice r site start n =
      ((rawRef site r.img start (IMAGE_RESOURCE_DIRECTORY_ENTRY__size * n) IMAGE_RESOURCE_DIRECTORY_ENTRY__align).bind
        fun _ => .ok (entriesFrom r start n)) ∧
    d.entries r = entrySlice r "mod.rs:entries from_raw_parts" (d.off + IMAGE_RESOURCE_DIRECTORY__size) (d.named + d.ids) ∧
    d.namedEntries r =
      entrySlice r "mod.rs:named_entries from_raw_parts" (d.off + IMAGE_RESOURCE_DIRECTORY__size) d.named ∧
    d.idEntries r = entrySlice r "mod.rs:id_entries from_raw_parts"
      (d.off + IMAGE_RESOURCE_DIRECTORY__size + IMAGE_RESOURCE_DIRECTORY_ENTRY__size * d.named) d.ids ∧
    -- `DataEntry::try_from` and its three fields
    dataTryFrom r off =
      ((slice r "mod.rs:slice IMAGE_RESOURCE_DATA_ENTRY" off IMAGE_RESOURCE_DATA_ENTRY__size
          IMAGE_RESOURCE_DATA_ENTRY__align).bind fun _ =>
        .ok ⟨off, le32 r.sec (off + IMAGE_RESOURCE_DATA_ENTRY__OffsetToData),
                  le32 r.sec (off + IMAGE_RESOURCE_DATA_ENTRY__Size),
                  le32 r.sec (off + IMAGE_RESOURCE_DATA_ENTRY__CodePage)⟩) ∧
    -- `fsck_budget`: `section.len() / size_of::<IMAGE_RESOURCE_DIRECTORY>()`
    fsckBudget r = r.sec.size / IMAGE_RESOURCE_DIRECTORY__size := by
  refine ⟨rfl, rfl, rfl, ?_, ?_, rfl, rfl, ?_, rfl, rfl, rfl, ?_, rfl⟩
  · unfold ofView
    cases v.dataDir 2 with
    | none => rfl
    | some p =>
      obtain ⟨va, size⟩ := p
      show _ = (v.slice va 0 4).bind _
      dsimp only
      cases v.slice va 0 4 <;> rfl
  · show _ = (slice r _ off 16 4).bind _
    unfold dirTryFrom
    cases slice r "mod.rs:slice IMAGE_RESOURCE_DIRECTORY" off 16 4 <;> rfl
  · show _ = (rawRef site r.img start (8 * n) 4).bind _
    unfold entrySlice
    cases rawRef site r.img start (8 * n) 4 <;> rfl
  · show _ = (slice r _ off 16 4).bind _
    unfold dataTryFrom
    cases slice r "mod.rs:slice IMAGE_RESOURCE_DATA_ENTRY" off 16 4 <;> rfl

/-- the widths the reads assume: the two counts of the directory are `u16`s at the end of the struct, the fields
of the two entry structs are `u32`s -/
theorem C12_model_field_widths :
    IMAGE_RESOURCE_DIRECTORY__NumberOfIdEntries - IMAGE_RESOURCE_DIRECTORY__NumberOfNamedEntries = 2 ∧
    IMAGE_RESOURCE_DIRECTORY__size - IMAGE_RESOURCE_DIRECTORY__NumberOfIdEntries = 2 ∧
    IMAGE_RESOURCE_DIRECTORY_ENTRY__Offset - IMAGE_RESOURCE_DIRECTORY_ENTRY__Name = 4 ∧
    IMAGE_RESOURCE_DIRECTORY_ENTRY__size - IMAGE_RESOURCE_DIRECTORY_ENTRY__Offset = 4 ∧
    IMAGE_RESOURCE_DATA_ENTRY__Size - IMAGE_RESOURCE_DATA_ENTRY__OffsetToData = 4 ∧
    IMAGE_RESOURCE_DATA_ENTRY__CodePage - IMAGE_RESOURCE_DATA_ENTRY__Size = 4 ∧
    IMAGE_RESOURCE_DATA_ENTRY__Reserved - IMAGE_RESOURCE_DATA_ENTRY__CodePage = 4 := by decide

/-- non-vacuity of the tie -/
example : IMAGE_RESOURCE_DIRECTORY__size = 16 ∧ IMAGE_RESOURCE_DIRECTORY_ENTRY__size = 8 ∧
    IMAGE_RESOURCE_DATA_ENTRY__size = 16 ∧ IMAGE_RESOURCE_DIRECTORY__NumberOfIdEntries = 14 := by decide

end Pelite.Resources
