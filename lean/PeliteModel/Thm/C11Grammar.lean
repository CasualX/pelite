import PeliteModel.Thm.C11Impl
import PeliteModel.Lemmas.PatternGrammarNorm
import PeliteModel.Lemmas.DirsExamples
/-!
C11 (semantic half) over EVERY documented spelling.

T1 / T3' (`Thm/C11.lean`, `Thm/C11Impl.lean`) quantify over `render sty p` with four GLOBAL spelling styles.  The
documented syntax allows more: "case insensitive hexadecimal characters" digit by digit (`4C 8b`, `aB`), the `@`
operand in either case per occurrence, decimal numbers with leading zeros (`[016]`, `[007-12]`).  Those strings
are outside the image of `render`.  Here the theorems are stated over the whole REFERENCE GRAMMAR, i.e. over every
string the reference reader `readPat` (Spec/PatternSem.lean, written from the `parse` documentation) accepts; then the
reader / renderer round trip, which makes T1 a corollary of the grammar theorem.
-/
namespace Pelite.PatSem
open Pelite.Pattern Pelite.Exec

/-! ## Token normalisation -/

/-- **Hex digits count through their value only**: whatever the case of either digit, the two-digit token
pushes `Byte(hi * 16 + lo)` and consumes exactly the two digits. -/
theorem C11_hex_digit_by_value (c d : UInt8) (hi lo : Nat) (hc : hexVal c = some hi) (hd : hexVal d = some lo)
    (tail : List UInt8) (st : PSt) :
    tok c.toNat (d :: tail) st = .ok ⟨pushA st (.byte (hi * 16 + lo)), tail, true⟩ :=
  tok_hex_val hc hd tail st

/-- `aB`, `Ab`, `ab`, `AB` are the same token -/
example (tail : List UInt8) (st : PSt) :
    tok (97 : UInt8).toNat (66 :: tail) st = .ok ⟨pushA st (.byte 0xab), tail, true⟩ ∧
    tok (65 : UInt8).toNat (98 :: tail) st = .ok ⟨pushA st (.byte 0xab), tail, true⟩ ∧
    tok (97 : UInt8).toNat (98 :: tail) st = .ok ⟨pushA st (.byte 0xab), tail, true⟩ ∧
    tok (65 : UInt8).toNat (66 :: tail) st = .ok ⟨pushA st (.byte 0xab), tail, true⟩ :=
  ⟨C11_hex_digit_by_value 97 66 10 11 (by decide) (by decide) tail st,
   C11_hex_digit_by_value 65 98 10 11 (by decide) (by decide) tail st,
   C11_hex_digit_by_value 97 98 10 11 (by decide) (by decide) tail st,
   C11_hex_digit_by_value 65 66 10 11 (by decide) (by decide) tail st⟩

/-- **`@` operands count through their value only** (`@a` = `@A` = 10, …, `@z` = `@Z` = 35) -/
theorem C11_align_operand_by_value (o : UInt8) (n : Nat) (h : alignVal o = some n) (tail : List UInt8) (st : PSt) :
    tok (64 : UInt8).toNat (o :: tail) st = .ok ⟨pushA st (.aligned n), tail, true⟩ := by
  simp [tok, classify, opAligned_val h]

example (tail : List UInt8) (st : PSt) :
    tok (64 : UInt8).toNat (97 :: tail) st = .ok ⟨pushA st (.aligned 10), tail, true⟩ ∧
    tok (64 : UInt8).toNat (65 :: tail) st = .ok ⟨pushA st (.aligned 10), tail, true⟩ :=
  ⟨C11_align_operand_by_value 97 10 (by decide) tail st, C11_align_operand_by_value 65 10 (by decide) tail st⟩

/-- **Decimals count through their value only** (first number of a bracket): whatever the spelling `cs` of the
number `m` — leading zeros included — up to its terminator `d` (`]` or `-`), the parser's first digit loop
returns `m`. -/
theorem C11_decimal_by_value_lower (cs : List UInt8) (m : Nat) (d : UInt8) (rest : List UInt8)
    (h : readDec cs 0 false = some (m, d :: rest)) (hm : m < 16384) (hd : d = 93 ∨ d = 45) :
    manyLower cs 0 false = .ok (m, true, d.toNat, rest) :=
  manyLower_of_readDec cs 0 false m d rest h hm hd

/-- (second number of a bracket, terminator `]`) -/
theorem C11_decimal_by_value_upper (cs : List UInt8) (m : Nat) (rest : List UInt8)
    (h : readDec cs 0 false = some (m, 93 :: rest)) (hm : m < 16384) :
    manyUpper cs 0 = .ok (m, rest) :=
  manyUpper_of_readDec cs 0 false m rest h hm

/-- `016]…` and `16]…` and `0000016]…` -/
example : manyLower "016]ff".toUTF8.toList 0 false = .ok (16, true, 93, "ff".toUTF8.toList) ∧
    manyLower "0000016-".toUTF8.toList 0 false = .ok (16, true, 45, []) ∧
    manyUpper "00012]".toUTF8.toList 0 = .ok (12, []) :=
  ⟨C11_decimal_by_value_lower _ 16 93 _ (by decide +kernel) (by decide) (by decide),
   C11_decimal_by_value_lower _ 16 45 _ (by decide +kernel) (by decide) (by decide),
   C11_decimal_by_value_upper _ 12 _ (by decide +kernel) (by decide)⟩

/-! ## The whole reference grammar -/

/-- **T1 over every documented spelling.**  Whenever the reference reader assigns the tree `p` to the string `s`
— any case per hex digit and per `@` operand, any decimal spelling, white space runs anywhere between items —
and `p` is well formed, the parser returns exactly the reference compiler's atoms for `p`. -/
theorem C11_grammar_covered (s : List UInt8) (p : Pat) (h : readPat s = some p) (hwf : WF p = true) :
    parse s = .ok (compile p) :=
  parse_of_readPat s p h hwf

/-- a string that mixes the case inside one byte (`aB`, `fF`) and between bytes (`4C 8b`), spells decimals with
leading zeros, uses `@A` and `@a`, TAB and LF as white space, a gap between `%` and `{`, and alternatives -/
def mixedStr : List UInt8 :=
  "4C 8b\taB [016] 50\n[007-12] fF @A @a %  { 'i1 } ( \"x\" | ?? | z )".toUTF8.toList

/-- the tree the reference reader assigns to it -/
def mixedTree : Pat :=
  [.byte 0x4c, .ws [32], .byte 0x8b, .ws [9], .byte 0xab, .ws [32], .skip 16, .ws [32], .byte 0x50, .ws [10],
   .range 7 12, .ws [32], .byte 0xff, .ws [32], .aligned 10, .ws [32], .aligned 10, .ws [32],
   .group .j1 [32, 32] [.ws [32], .save, .readI 1, .ws [32]], .ws [32],
   .alt [[.ws [32], .str [120], .ws [32]], [.ws [32], .any, .any, .ws [32]], [.ws [32], .zero, .ws [32]]]]

theorem C11_mixedStr_read : readPat mixedStr = some mixedTree := by decide +kernel
theorem C11_mixedTree_wf : WF mixedTree = true := by decide +kernel

/-- the theorem applies … -/
example : parse mixedStr = .ok (compile mixedTree) :=
  C11_grammar_covered mixedStr mixedTree C11_mixedStr_read C11_mixedTree_wf

/-- … these are the atoms … -/
example : compile mixedTree =
    [.save 0, .byte 76, .byte 139, .byte 171, .skip 16, .byte 80, .skip 7, .many 5, .byte 255, .aligned 10, .aligned 10,
     .push 1, .jump1, .save 1, .readI8 2, .pop, .case 2, .byte 120, .brk 5, .case 2, .skip 2, .brk 2, .nop, .zero 3] := by
  decide +kernel

/-- … and the string is NOT `render sty p` for any of the four styles (`readStyled`; by `C11_outside_render` below:
for no style and no well-formed tree at all): T1 does not reach it. -/
theorem C11_mixedStr_outside_render : readStyled mixedStr = none :=
  (readStyled_eq_none_iff C11_mixedStr_read).2 (by decide +kernel)

example : ∀ sty ∈ [(⟨false, false⟩ : Style), ⟨true, true⟩, ⟨false, true⟩, ⟨true, false⟩],
    render sty mixedTree ≠ mixedStr :=
  (readStyled_eq_none_iff C11_mixedStr_read).1 C11_mixedStr_outside_render

/-- smaller instances, one deviation from `render` each: mixed case inside a byte, leading zeros, upper and
lower case `@` operand in one string -/
example :
    readPat "aB".toUTF8.toList = some [.byte 0xab] ∧ readStyled "aB".toUTF8.toList = none ∧
    readPat "[016]".toUTF8.toList = some [.skip 16] ∧ readStyled "[016]".toUTF8.toList = none ∧
    readPat "[007-12]".toUTF8.toList = some [.range 7 12] ∧ readStyled "[007-12]".toUTF8.toList = none ∧
    readPat "@A@a".toUTF8.toList = some [.aligned 10, .aligned 10] ∧ readStyled "@A@a".toUTF8.toList = none := by
  decide +kernel

example : parse "[007-12]".toUTF8.toList = .ok (compile [.range 7 12]) :=
  C11_grammar_covered _ _ (by decide +kernel) (by decide +kernel)

/-- **T3' over every documented spelling.**  For every string `s` of the reference grammar with a well-formed
tree `p`: `s` parses, and executing the parsed pattern at `c` accepts exactly when `denoteImpl` does; on success
every specified slot holds the specified capture (slot 0 = the match position) and lies below the advertised
save length.  (`S.WF`, `Coherent S`: every image below 4 GiB, see `C11_interfaces`.) -/
theorem C11_pattern_string_semantics_grammar (s : List UInt8) (p : Pat) (h : readPat s = some p) (hwf : WF p = true)
    {S : ScanI} (hS : S.WF) (hC : Coherent S) (c : Nat) (hc : c < 4294967296) (save0 : Array Nat) :
    ∃ atoms save, parse s = .ok atoms ∧
      run S atoms c save0 = .ok ((denoteImpl S p c).isSome, save) ∧ save.size = save0.size ∧
      ∀ c' w, denoteImpl S p c = some (c', w) → ∀ sl v, (sl, v) ∈ w →
        (sl < save0.size → save[sl]? = some v) ∧ sl + 1 ≤ saveLen atoms := by
  obtain ⟨save, h1, h2, h3⟩ := run_compile_impl hS hC p hwf c hc save0
  refine ⟨compile p, save, C11_grammar_covered s p h hwf, h1, h2, ?_⟩
  intro c' w hd sl v hm
  refine ⟨h3 c' w hd sl v hm, ?_⟩
  have q1 := C11_impl_captures_in_range S p c c' w hd sl v hm
  have q2 := saveLen_compile_ge p
  omega

/-- the hypotheses are satisfiable on the mixed-spelling string, for a PE32 and a PE32+ raw image -/
example : readPat mixedStr = some mixedTree ∧ WF mixedTree = true ∧
    (ofRaw .pe32 #[0x4c, 0x8b, 0xab]).WF ∧ Coherent (ofRaw .pe32 #[0x4c, 0x8b, 0xab]) ∧
    (ofRaw .pe64 #[0x4c, 0x8b, 0xab]).WF ∧ Coherent (ofRaw .pe64 #[0x4c, 0x8b, 0xab]) :=
  ⟨C11_mixedStr_read, C11_mixedTree_wf, (C11_interfaces.1 _ _ (by decide)).1, (C11_interfaces.1 _ _ (by decide)).2,
   (C11_interfaces.1 _ _ (by decide)).1, (C11_interfaces.1 _ _ (by decide)).2⟩

/-- and the theorem applied: `aB [001] ' Cd` (mixed case, leading zeros) on the bytes `ab 00 cd` -/
example : ∃ atoms save, parse "aB [001] ' Cd".toUTF8.toList = .ok atoms ∧
    run (ofRaw .pe64 #[0xab, 0, 0xcd]) atoms 0 #[0, 0]
      = .ok ((denoteImpl (ofRaw .pe64 #[0xab, 0, 0xcd]) [.byte 0xab, .ws [32], .skip 1, .ws [32], .save, .ws [32], .byte 0xcd] 0).isSome, save) ∧
    save.size = 2 := by
  obtain ⟨atoms, save, h1, h2, h3, _⟩ :=
    C11_pattern_string_semantics_grammar "aB [001] ' Cd".toUTF8.toList
      [.byte 0xab, .ws [32], .skip 1, .ws [32], .save, .ws [32], .byte 0xcd] (by decide +kernel) (by decide +kernel)
      (C11_interfaces.1 .pe64 #[0xab, 0, 0xcd] (by decide)).1 (C11_interfaces.1 .pe64 #[0xab, 0, 0xcd] (by decide)).2
      0 (by decide) #[0, 0]
  exact ⟨atoms, save, h1, h2, h3⟩

example : denoteImpl (ofRaw .pe64 #[0xab, 0, 0xcd]) [.byte 0xab, .ws [32], .skip 1, .ws [32], .save, .ws [32], .byte 0xcd] 0
    = some (3, [(1, 2), (0, 0)]) := by decide +kernel

theorem demoView64_interface : (ofView Dirs.demoView64).WF ∧ Coherent (ofView Dirs.demoView64) :=
  C11_interfaces.2.1 Dirs.demoView64 rfl (by decide +kernel)

theorem demoFile32_interface : (ofView Dirs.demoFile32).WF ∧ Coherent (ofView Dirs.demoFile32) :=
  C11_interfaces.2.2 Dirs.demoFile32 rfl (by decide +kernel) (by rw [Dirs.demoFile32_sheet.secs]; decide)

/-- … and on images: a mapped PE32+ view and a PE32 file view (`demoView64`, `demoFile32` of
Lemmas/DirsExamples.lean) satisfy the interface hypotheses -/
example : (ofView Dirs.demoView64).WF ∧ Coherent (ofView Dirs.demoView64) ∧
    (ofView Dirs.demoFile32).WF ∧ Coherent (ofView Dirs.demoFile32) :=
  ⟨demoView64_interface.1, demoView64_interface.2, demoFile32_interface.1, demoFile32_interface.2⟩

theorem grammar_match_two_slots {s : List UInt8} {p : Pat} (h : readPat s = some p) (hwf : WF p = true) {S : ScanI}
    (hS : S.WF ∧ Coherent S) {c c' v : Nat} (hc : c < 4294967296)
    (hd : denoteImpl S p c = some (c', [(1, v), (0, c)])) :
    ∃ atoms save, parse s = .ok atoms ∧ run S atoms c #[0, 0] = .ok (true, save) ∧
      save[0]? = some c ∧ save[1]? = some v := by
  obtain ⟨atoms, save, h1, h2, _, h4⟩ := C11_pattern_string_semantics_grammar s p h hwf hS.1 hS.2 c hc #[0, 0]
  rw [hd] at h2
  exact ⟨atoms, save, h1, h2, (h4 _ _ hd 0 c (by simp)).1 (by decide), (h4 _ _ hd 1 v (by simp)).1 (by decide)⟩

/-- PE32+ mapped view: `5a [0058] u4` (leading zero) at rva 1 — the `Z` of `MZ`, then `e_lfanew` (= 64) at 0x3c -/
example : ∃ atoms save, parse "5a [0058] u4".toUTF8.toList = .ok atoms ∧
    run (ofView Dirs.demoView64) atoms 1 #[0, 0] = .ok (true, save) ∧ save[0]? = some 1 ∧ save[1]? = some 64 :=
  grammar_match_two_slots (p := [.byte 0x5a, .ws [32], .skip 58, .ws [32], .readU 4]) (c' := 64)
    (by decide +kernel) (by decide +kernel) demoView64_interface (by decide) (by decide +kernel)

/-- PE32 file view: `4E 42 [00] u2` (upper case, leading zero) at rva 0x1000 — `NB`, then the word `"10"` -/
example : ∃ atoms save, parse "4E 42 [00] u2".toUTF8.toList = .ok atoms ∧
    run (ofView Dirs.demoFile32) atoms 4096 #[0, 0] = .ok (true, save) ∧ save[0]? = some 4096 ∧ save[1]? = some 12337 :=
  grammar_match_two_slots (p := [.byte 0x4e, .ws [32], .byte 0x42, .ws [32], .skip 0, .ws [32], .readU 2]) (c' := 4100)
    (by decide +kernel) (by decide +kernel) demoFile32_interface (by decide)
    (by rw [ofView_toNat]; simp only [Pe.View.slice_file (v := Dirs.demoFile32) rfl, Dirs.demoFile32_sheet.secs]
        decide +kernel)

/-! ## Reader / renderer round trip -/

/-- The statement "`readPat` inverts `render` on every well-formed tree" is FALSE: the reader turns every
maximal white space run into one `ws` item, so an empty `ws` item disappears and two adjacent ones come back
merged (both trees are well formed: white space is unconstrained by `WF`). -/
theorem C11_read_render_false : ¬ ∀ (sty : Style) (p : Pat), WF p = true → readPat (render sty p) = some p := by
  intro h
  exact absurd (h {} [.ws []] (by decide +kernel)) (by decide +kernel)

/-- the two ways it fails -/
example : WF [.ws []] = true ∧ readPat (render {} [.ws []]) = some [] ∧
    WF [.byte 1, .ws [32], .ws [9], .byte 2] = true ∧
    readPat (render {} [.byte 1, .ws [32], .ws [9], .byte 2]) = some [.byte 1, .ws [32, 9], .byte 2] := by
  decide +kernel

/-- **`_partial` (strongest true form).**  On white-space-normal trees — no empty `ws` item, no two adjacent `ws`
items, at every nesting level (`wsNormal`, Lemmas/PatternGrammarRT.lean; the gap between a jump symbol and its
`{` is unconstrained) — the reference reader inverts every one of the four renderers.  Nothing else is needed
beyond `WF`: hex digits, `@` operands, canonical decimals, quoted text, jump symbols in front of anything that is
not a brace, nested groups and alternatives (also empty ones) all read back as the item they were rendered from. -/
theorem C11_read_render_partial (sty : Style) (p : Pat) (hwf : WF p = true) (hn : wsNormal p = true) :
    readPat (render sty p) = some p := by
  simp only [WF, Bool.and_eq_true] at hwf
  exact readPat_render sty p 0 hwf.1.1 hn

/-- a nested instance in all four styles (a jump symbol followed by white space and a non-brace, an empty
alternative, `@` operand ≥ 10, decimals ≥ 256, leading and trailing white space) -/
def normalTree : Pat :=
  [.ws [32, 9], .byte 0xe8, .jump .j4, .ws [32], .str [104, 105], .group .ptr [10] [.ws [32], .alt [[.range 2 300, .byte 0x4c], [], [.save, .any, .ws [13]]],
    .aligned 35], .readU 4, .skip 1000, .zero, .ws [32]]

example : WF normalTree = true ∧ wsNormal normalTree = true := by decide +kernel
example : readPat (showPat normalTree) = some normalTree := C11_read_render_partial _ _ (by decide +kernel) (by decide +kernel)
example : readPat (showPatUpper normalTree) = some normalTree :=
  C11_read_render_partial _ _ (by decide +kernel) (by decide +kernel)
example : showPat normalTree = " \te8$ \"hi\"*\n{ ([2-300]4c||'?\r)@z}u4[1000]z ".toUTF8.toList := by decide +kernel

/-- the trees the reader produces are of this form, e.g. the one of the mixed-spelling string -/
example : wsNormal mixedTree = true := by decide +kernel

/-- **The round trip in general: up to white space normalisation.**  For EVERY well-formed tree `p` and every
style the reference reader assigns to `render sty p` the tree `wsNorm p` (Lemmas/PatternGrammarNorm.lean: `p`
with its empty `ws` items dropped and adjacent ones merged, at every nesting level), which is well formed, has the
same renderings and the same reference code.  So every rendered string is a string of the reference grammar. -/
theorem C11_read_render_norm (sty : Style) (p : Pat) (hwf : WF p = true) :
    readPat (render sty p) = some (wsNorm p) ∧ WF (wsNorm p) = true ∧ wsNormal (wsNorm p) = true ∧
    compile (wsNorm p) = compile p ∧ ∀ sty', render sty' (wsNorm p) = render sty' p := by
  have h := hwf
  simp only [WF, Bool.and_eq_true] at h
  exact ⟨readPat_render_norm sty p 0 h.1.1, WF_wsNorm p hwf, wsNormal_wsNorm p, compile_wsNorm p,
    fun sty' => render_wsNorm sty' p⟩

/-- on white-space-normal trees `wsNorm` is the identity (`C11_read_render_partial` is the special case) -/
theorem C11_wsNorm_of_normal (p : Pat) (hn : wsNormal p = true) : wsNorm p = p := wsNorm_of_wsNormal p hn

/-- hence `wsNormal` is EXACTLY the condition under which the round trip is the identity (for well-formed trees):
`C11_read_render_partial` cannot be strengthened -/
theorem C11_read_render_iff (sty : Style) (p : Pat) (hwf : WF p = true) :
    readPat (render sty p) = some p ↔ wsNormal p = true := by
  refine ⟨fun h => ?_, C11_read_render_partial sty p hwf⟩
  obtain ⟨h1, _, h3, _, _⟩ := C11_read_render_norm sty p hwf
  rw [h1] at h
  injection h with h
  rwa [h] at h3

/-- a tree that is not normal: empty `ws`, adjacent `ws` at top level, inside a group and inside an alternative -/
def unnormalTree : Pat :=
  [.ws [], .byte 1, .ws [32], .ws [], .ws [9], .group .j1 [] [.ws [10], .ws [13], .save], .alt [[.ws []], [.any, .ws [32], .ws [32]]],
   .ws [32], .ws []]

example : WF unnormalTree = true ∧ wsNormal unnormalTree = false ∧
    wsNorm unnormalTree =
      [.byte 1, .ws [32, 9], .group .j1 [] [.ws [10, 13], .save], .alt [[], [.any, .ws [32, 32]]], .ws [32]] := by
  decide +kernel

example : readPat (showPat unnormalTree) = some (wsNorm unnormalTree) :=
  (C11_read_render_norm {} unnormalTree (by decide +kernel)).1

/-- **T1 as a corollary** of the grammar theorem and the round trip: every rendered string is a string of the
grammar, its tree is `wsNorm p`, and `wsNorm p` compiles to the same atoms.  (`C11_parse_render` in
`Thm/C11.lean` is the direct proof; this shows `C11_grammar_covered` subsumes it.) -/
theorem C11_parse_render_of_grammar (sty : Style) (p : Pat) (hwf : WF p = true) :
    parse (render sty p) = .ok (compile p) := by
  obtain ⟨h1, h2, _, h4, _⟩ := C11_read_render_norm sty p hwf
  rw [← h4]
  exact C11_grammar_covered _ _ h1 h2

example : parse (render ⟨true, false⟩ normalTree) = .ok (compile normalTree) :=
  C11_parse_render_of_grammar _ _ (by decide +kernel)
example : parse (showPatUpper unnormalTree) = .ok (compile unnormalTree) :=
  C11_parse_render_of_grammar _ _ (by decide +kernel)

/-- `readStyled s = none` for a string of the grammar really means "outside the image of `render`": no
well-formed tree renders to `s` in any of the four styles (if one did, the reader would return its white space
normal form, which renders to `s` in the same style). -/
theorem C11_outside_render (s : List UInt8) (h : readStyled s = none) (sty : Style) (q : Pat) (hq : WF q = true) :
    render sty q ≠ s := by
  intro e
  obtain ⟨h1, _, _, _, h5⟩ := C11_read_render_norm sty q hq
  rw [e] at h1
  obtain ⟨a, b⟩ := sty
  exact (readStyled_eq_none_iff h1).1 h ⟨a, b⟩ (by cases a <;> cases b <;> simp) ((h5 _).trans e)

example (sty : Style) (q : Pat) (hq : WF q = true) : render sty q ≠ mixedStr :=
  C11_outside_render mixedStr C11_mixedStr_outside_render sty q hq

end Pelite.PatSem
