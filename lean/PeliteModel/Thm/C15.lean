import PeliteModel.Lemmas.Dirs
import PeliteModel.Lemmas.DirsExamples
/-!
C15 — Debug, TLS, load-config, exception and security directories are decoded as stored.

`v` ranges over EVERY view (any format, file or mapped, any bytes, any base address) unless a hypothesis
says otherwise; addresses over all naturals.  Resolution of an RVA / VA to buffer bytes is the typed-read
primitive `View.at` characterised by C04 / C05.  `OkOrErr o` = `o` is a value or a typed error: no panic
(C02), no unchecked out-of-bounds / misaligned access (C01), no divergence (C03).
-/
namespace Pelite.Dirs
open Pelite Pelite.Pe

/-! ## binary search (`core::slice::binary_search_by`) -/

/-- For ANY comparator (sorted table or not): a hit is an index inside the slice whose element compares
`Equal`; a miss returns an insertion point `≤ len`. -/
theorem C15_bsearch_sound (n : Nat) (cmp : Nat → Ordering) :
    (∀ i, bsearchBy n cmp = .found i → i < n ∧ cmp i = .eq) ∧
    (∀ k, bsearchBy n cmp = .notFound k → k ≤ n) :=
  bsearchBy_sound n cmp

/-- Contract for a comparator that is monotone along the slice (`Less* Equal* Greater*`): the search
answers `found i` with `cmp i = Equal` iff some element compares `Equal`; a miss returns the partition
point (`Less` strictly before it, `Greater` from it on). -/
theorem C15_bsearch_contract (n : Nat) (cmp : Nat → Ordering) (hm : Mono n cmp) :
    ((∃ i, bsearchBy n cmp = .found i) ↔ ∃ e, e < n ∧ cmp e = .eq) ∧
    (∀ i, bsearchBy n cmp = .found i → i < n ∧ cmp i = .eq) ∧
    (∀ k, bsearchBy n cmp = .notFound k →
      k ≤ n ∧ (∀ i, i < k → cmp i = .lt) ∧ (∀ i, k ≤ i → i < n → cmp i = .gt)) := by
  refine ⟨⟨fun ⟨i, h⟩ => ⟨i, (bsearchBy_sound n cmp).1 i h⟩, fun ⟨e, he, hc⟩ => ?_⟩, (bsearchBy_sound n cmp).1,
    bsearchBy_notFound n cmp hm⟩
  rcases (bsearchBy_correct hm).agree (r' := .found e) ⟨he, hc⟩ with ⟨i, _, h, _⟩ | ⟨_, _, h⟩
  · exact ⟨i, h⟩
  · cases h

/-- the hypothesis `Mono` holds for the closure of `index_of` on every table that passes `check_sorted`, e.g.
the three records of `demoBytes` and any `pc` -/
example (pc : Nat) : Mono (excCount ⟨320, 36, 4⟩) (rfCmp demoBytes ⟨320, 36, 4⟩ pc) :=
  rfCmp_mono ((checkSorted_iff _ _).1 demo_sheet.sorted) pc

/-- The textbook search on `[0, n)` satisfies the same contract, hence on a monotone comparator the two
agree on hit-or-miss and on the insertion point of a miss, and on the hit itself when at most one element
compares `Equal` (always the case for `index_of` on a sorted table). -/
theorem C15_bsearch_eq_reference (n : Nat) (cmp : Nat → Ordering) (hm : Mono n cmp) :
    ((∃ i, bsearchBy n cmp = .found i) ↔ ∃ i, Spec.bsearchRef cmp 0 n = .found i) ∧
    (∀ k, bsearchBy n cmp = .notFound k ↔ Spec.bsearchRef cmp 0 n = .notFound k) ∧
    ((∀ i j, i < n → j < n → cmp i = .eq → cmp j = .eq → i = j) → bsearchBy n cmp = Spec.bsearchRef cmp 0 n) := by
  refine ⟨?_, ?_, fun hu => bsearchBy_eq_of_correct hm hu (bsearchRef_correct hm)⟩
  -- two hits, or the same miss (then both sides of the first equivalence are one statement: `rw` closes it)
  all_goals rcases (bsearchBy_correct hm).agree (bsearchRef_correct hm) with ⟨i, j, h1, h2, _⟩ | ⟨k, h1, h2⟩
  all_goals rw [h1, h2]
  · exact ⟨fun _ => ⟨j, rfl⟩, fun _ => ⟨i, rfl⟩⟩
  · exact fun k => ⟨nofun, nofun⟩
  · exact fun _ => Iff.rfl

/-! ## exception directory -/

/-- The directory is `Size / 12` RUNTIME_FUNCTION records at the directory's RVA; a `Size` that is not a
multiple of 12 is `Invalid`; a missing data-directory slot is `Null`, and so is a zero RVA. -/
theorem C15_exception_entries (v : View) :
    (∀ t, excTryFrom v = .ok t ↔
      ∃ va size, v.dataDir 3 = some (va, size) ∧ Spec.recordCount size 12 = .ok (excCount t) ∧
        ∃ s, v.at (.rva va) size 4 = .ok s ∧ t = ⟨s.off, size, 4⟩) ∧
    (v.dataDir 3 = none → excTryFrom v = .err .null) ∧
    (∀ va size, v.dataDir 3 = some (va, size) → size % 12 ≠ 0 → excTryFrom v = .err .invalid) ∧
    (∀ size, v.dataDir 3 = some (0, size) → size % 12 = 0 → excTryFrom v = .err .null) := by
  rw [excTryFrom_eq]
  exact ⟨tableTryFrom_ok_iff v 3 12, tableTryFrom_errors v 3 12⟩

/-- `check_sorted` decides exactly the specification's notion of a sorted table (tables with fewer than two
records are sorted, whatever the single record looks like). -/
theorem C15_check_sorted_iff (b : Bytes) (t : Ref) : checkSorted b t = true ↔ Spec.Sorted b t :=
  checkSorted_iff b t

/-- On ANY table (sorted or not) a hit of `index_of` is a record whose `[begin, end)` contains `pc`; in
particular records with `BeginAddress ≥ EndAddress` (empty or inverted) are never returned. -/
theorem C15_index_of_sound (b : Bytes) (t : Ref) (pc i : Nat) (h : indexOf b t pc = .found i) :
    i < excCount t ∧ Spec.Covers b t i pc ∧ rfBegin b t i < rfEnd b t i := by
  obtain ⟨h1, h2⟩ := (bsearchBy_sound _ _).1 i h
  have hc := (rfCmp_eq_iff b t pc i).1 h2
  exact ⟨h1, hc, by unfold Spec.Covers at hc; omega⟩

/-- On tables that pass `check_sorted`: `index_of pc = Ok(i)` ⇔ record `i` exists and
`Begin_i ≤ pc < End_i` (end exclusive). -/
theorem C15_index_of_sorted (b : Bytes) (t : Ref) (hs : checkSorted b t = true) (pc i : Nat) :
    indexOf b t pc = .found i ↔ i < excCount t ∧ rfBegin b t i ≤ pc ∧ pc < rfEnd b t i :=
  ⟨fun h => by obtain ⟨h1, h2⟩ := (bsearchBy_sound _ _).1 i h; exact ⟨h1, (rfCmp_eq_iff b t pc i).1 h2⟩,
   fun ⟨hi, hc⟩ => indexOf_eq_of_correct ((checkSorted_iff b t).1 hs) (r := .found i) ⟨hi, (rfCmp_eq_iff b t pc i).2 hc⟩⟩

/-- On sorted tables a lookup that no record covers answers `Err(k)` where `k` is the number of records
entirely at or below `pc`: every earlier record has `Begin ≤ pc` and `End ≤ pc`, every later one begins
after `pc`. -/
theorem C15_index_of_miss (b : Bytes) (t : Ref) (hs : checkSorted b t = true) (pc : Nat)
    (hno : ∀ i, i < excCount t → ¬ (rfBegin b t i ≤ pc ∧ pc < rfEnd b t i)) :
    ∃ k, indexOf b t pc = .notFound k ∧ k ≤ excCount t ∧
      (∀ i, i < k → rfBegin b t i ≤ pc ∧ rfEnd b t i ≤ pc) ∧
      (∀ i, k ≤ i → i < excCount t → pc < rfBegin b t i) := by
  have hs' := (checkSorted_iff b t).1 hs
  cases h : indexOf b t pc with
  | found i =>
    obtain ⟨h1, h2, _⟩ := C15_index_of_sound b t pc i h
    exact absurd h2 (hno i h1)
  | notFound k =>
    obtain ⟨g1, g2, g3⟩ := bsearchBy_notFound _ _ (rfCmp_mono hs' pc) k h
    exact ⟨k, rfl, g1, fun i hi => (rfCmp_lt_iff b t pc i).1 (g2 i hi),
      fun i hi hi' => (rfCmp_gt_iff b t pc i).1 (g3 i hi hi')⟩

/-- … in particular: nothing for an address before the first record (`Err(0)`), after the last
(`Err(len)`), or in a gap between records `i` and `i+1` (`Err(i+1)`).  `pc = End_i` counts as after /
in the gap: the end is exclusive.  (For a one-record table with `Begin > End`, which `check_sorted`
accepts, "after the last" needs `Begin ≤ pc` as stated.) -/
theorem C15_index_of_outside (b : Bytes) (t : Ref) (hs : checkSorted b t = true) (pc : Nat) :
    (0 < excCount t → pc < rfBegin b t 0 → indexOf b t pc = .notFound 0) ∧
    (0 < excCount t → rfBegin b t (excCount t - 1) ≤ pc → rfEnd b t (excCount t - 1) ≤ pc →
      indexOf b t pc = .notFound (excCount t)) ∧
    (∀ i, i + 1 < excCount t → rfEnd b t i ≤ pc → pc < rfBegin b t (i + 1) →
      indexOf b t pc = .notFound (i + 1)) := by
  have hs' := (checkSorted_iff b t).1 hs
  -- in each case the stated insertion point is a partition point: earlier records end at or before the record the
  -- hypothesis names, later ones begin at or after it (`sorted_chain`)
  refine ⟨fun hn hpc => indexOf_eq_of_correct hs' (r := .notFound 0) ⟨Nat.zero_le _, fun i hi => by omega, fun i _ hi => ?_⟩,
    fun hn h1 h2 => indexOf_eq_of_correct hs' (r := .notFound _) ⟨Nat.le_refl _, fun i hi => ?_, fun i h hi => by omega⟩,
    fun i hi h1 h2 => indexOf_eq_of_correct hs' (r := .notFound (i + 1)) ⟨by omega, fun j hj => ?_, fun j hj hj' => ?_⟩⟩
  · rw [rfCmp_gt_iff]
    by_cases h0 : i = 0
    · subst h0; exact hpc
    · obtain ⟨a1, a2, a3⟩ := sorted_chain hs' i 0 (by omega) hi; omega
  · rw [rfCmp_lt_iff]
    by_cases h0 : i = excCount t - 1
    · subst h0; exact ⟨h1, h2⟩
    · obtain ⟨a1, a2, a3⟩ := sorted_chain hs' (excCount t - 1) i (by omega) (by omega); omega
  · rw [rfCmp_lt_iff]
    obtain ⟨s1, s2, s3⟩ := hs' i hi
    by_cases h0 : j = i
    · subst h0; omega
    · obtain ⟨a1, a2, a3⟩ := sorted_chain hs' i j (by omega) (by omega); omega
  · rw [rfCmp_gt_iff]
    by_cases h0 : j = i + 1
    · subst h0; exact h2
    · obtain ⟨a1, a2, a3⟩ := sorted_chain hs' j (i + 1) (by omega) hj'; omega

/-- On sorted tables `index_of` agrees with the reference lookup (linear scan for the covering record). -/
theorem C15_index_of_eq_linear (b : Bytes) (t : Ref) (hs : checkSorted b t = true) (pc : Nat) :
    (∀ i, Spec.linearLookup b t pc = some i ↔ indexOf b t pc = .found i) ∧
    (Spec.linearLookup b t pc = none ↔ ∃ k, indexOf b t pc = .notFound k) := by
  cases hl : Spec.linearLookup b t pc with
  | some j =>
    rw [(C15_index_of_sorted b t hs pc j).2 (linearLookup_some hl)]
    exact ⟨fun i => ⟨fun h => by cases h; rfl, fun h => by cases h; rfl⟩, nofun, fun ⟨k, hk⟩ => nomatch hk⟩
  | none =>
    cases hi : indexOf b t pc with
    | found i =>
      obtain ⟨h1, h2⟩ := (C15_index_of_sorted b t hs pc i).1 hi
      exact absurd h2 (linearLookup_none hl i h1)
    | notFound k => exact ⟨fun i => ⟨nofun, nofun⟩, fun _ => ⟨k, rfl⟩, fun _ => rfl⟩

/-- On sorted tables `index_of` is the textbook binary search with the closure of `index_of`. -/
theorem C15_index_of_eq_reference (b : Bytes) (t : Ref) (hs : checkSorted b t = true) (pc : Nat) :
    indexOf b t pc = Spec.bsearchRef (rfCmp b t pc) 0 (excCount t) :=
  indexOf_eq_of_correct ((checkSorted_iff b t).1 hs) (bsearchRef_correct (rfCmp_mono ((checkSorted_iff b t).1 hs) pc))

/-- The sortedness hypothesis is needed: on an unsorted table a covered address can be missed
(records `[10,20)`, `[0,5)`; `pc = 12` lies in record 0, the search answers `Err(2)`). -/
theorem C15_index_of_unsorted_may_miss :
    let b : Bytes := #[10, 0, 0, 0, 20, 0, 0, 0, 0, 0, 0, 0, 0, 0, 0, 0, 5, 0, 0, 0, 0, 0, 0, 0]
    let t : Ref := ⟨0, 24, 4⟩
    checkSorted b t = false ∧ Spec.Covers b t 0 12 ∧ indexOf b t 12 = .notFound 2 := by
  decide +kernel

/-- `lookup_function_entry` never panics (the index handed to `&self.image[index]` is in range) and
returns the record `index_of` found; the reference lies inside the table. -/
theorem C15_lookup_function_entry (b : Bytes) (t : Ref) (pc : Nat) :
    (∀ i, indexOf b t pc = .found i → lookupFunctionEntry b t pc = .ok (some ⟨t.off + 12 * i, 12, 4⟩) ∧
      t.off + 12 * i + 12 ≤ t.off + t.len) ∧
    (∀ k, indexOf b t pc = .notFound k → lookupFunctionEntry b t pc = .ok none) := by
  unfold lookupFunctionEntry
  refine ⟨fun i h => ?_, fun k h => by rw [h]⟩
  obtain ⟨h1, _⟩ := (bsearchBy_sound _ _).1 i h
  rw [h]
  simp only
  rw [if_pos h1]
  unfold excCount at h1
  exact ⟨rfl, by omega⟩

/-- `Function::bytes`: `End − Begin` bytes at RVA `Begin`; `Overflow` when `Begin > End`. -/
theorem C15_function_bytes (v : View) (t : Ref) (i : Nat) :
    (∀ r, fnBytes v t i = .ok r ↔ rfBegin v.b t i ≤ rfEnd v.b t i ∧
      ∃ s, v.at (.rva (rfBegin v.b t i)) (rfEnd v.b t i - rfBegin v.b t i) 1 = .ok s ∧
        r = ⟨s.off, rfEnd v.b t i - rfBegin v.b t i, 1⟩) ∧
    (rfBegin v.b t i > rfEnd v.b t i → fnBytes v t i = .err .overflow) :=
  ⟨rangeSlice_ok_iff (by have := le32_lt v.b (rfOff t i + 4); unfold rfEnd; omega), fun h => if_pos h⟩

/-- `Function::unwind_info` + `UnwindInfo::unwind_codes`: the 4-byte UNWIND_INFO at RVA `UnwindData`
followed by `CountOfCodes` 2-byte codes, all inside the buffer; the `from_raw_parts` of `unwind_codes`
is covered by the size check of `unwind_info` (no `ub`). -/
theorem C15_unwind_info (v : View) (t : Ref) (i : Nat) :
    OkOrErr (unwindInfo v t i) ∧
    ∀ im, unwindInfo v t i = .ok im → RefOK v.img im ∧ im.len = 4 ∧
      unwindCodes v im = .ok ⟨im.off + 4, 2 * byteAt v.b (im.off + 2), 1⟩ ∧
      RefOK v.img ⟨im.off + 4, 2 * byteAt v.b (im.off + 2), 1⟩ := by
  constructor
  · rw [unwindInfo_eq]
    exact okOrErr_bind (at_okOrErr v _ 4 1 isPow2_1) fun s => okOrErr_if (okOrErr_err _) (okOrErr_ok _)
  · intro im him
    obtain ⟨s, hs, rfl, hle⟩ := (unwindInfo_ok_iff v t i im).1 him
    obtain ⟨⟨h1, _⟩, _⟩ := View.at_sound v _ 4 1 s hs
    refine ⟨⟨by simp only; omega, Nat.mod_one _⟩, rfl, ?_, ⟨by simp only; omega, Nat.mod_one _⟩⟩
    unfold unwindCodes
    exact rawRef_eq_ok (by simp only; omega) (Nat.mod_one _)

/-- **`Function::unwind_info`, exactly.**  With `s` the readable bytes at RVA `UnwindData` (`Pe::slice` with minimum
4 and alignment 1 = `align_of::<UNWIND_INFO>()`; `View.at`, C04 / C05): the answer is `Ok` iff that window exists and
holds the 4-byte header plus `CountOfCodes` (the byte at +2) 2-byte codes, and the UNWIND_INFO handed out is the
FIRST 4 bytes of the window; a window too short for the declared codes is `Bounds`; when the RVA does not resolve, the
error of the resolution (`Null` for `UnwindData = 0`). -/
theorem C15_unwind_info_iff (v : View) (t : Ref) (i : Nat) :
    (∀ im, unwindInfo v t i = .ok im ↔
      ∃ s, v.at (.rva (rfUnwind v.b t i)) 4 1 = .ok s ∧ im = ⟨s.off, 4, 1⟩ ∧
        4 + 2 * byteAt v.b (s.off + 2) ≤ s.len) ∧
    (∀ s, v.at (.rva (rfUnwind v.b t i)) 4 1 = .ok s → s.len < 4 + 2 * byteAt v.b (s.off + 2) →
      unwindInfo v t i = .err .bounds) ∧
    (∀ e, v.at (.rva (rfUnwind v.b t i)) 4 1 = .err e → unwindInfo v t i = .err e) ∧
    (rfUnwind v.b t i = 0 → unwindInfo v t i = .err .null) := by
  have c2 : ∀ e, v.at (.rva (rfUnwind v.b t i)) 4 1 = .err e → unwindInfo v t i = .err e :=
    fun e h => by rw [unwindInfo_eq, h]; rfl
  refine ⟨unwindInfo_ok_iff v t i, fun s h hc => by rw [unwindInfo_eq, h]; exact if_pos hc, c2, fun h0 => ?_⟩
  apply c2
  rw [h0]
  exact (C05_null v 4 1).1

/-- … in a MAPPED view the window starts at buffer offset `UnwindData` and runs to the end of the image: the
UNWIND_INFO is at offset `UnwindData`, and it is returned iff header and codes end inside the image. -/
theorem C15_unwind_info_mapped (v : View) (hk : v.kind = .view) (t : Ref) (i : Nat) (im : Ref) :
    unwindInfo v t i = .ok im ↔
      rfUnwind v.b t i ≠ 0 ∧
      rfUnwind v.b t i + 4 + 2 * byteAt v.b (rfUnwind v.b t i + 2) ≤ v.b.size ∧
      im = ⟨rfUnwind v.b t i, 4, 1⟩ := by
  rw [unwindInfo_ok_iff, View.at, View.slice_view hk]
  simp only [sliceSection_ok_iff]
  have hsz : v.b.size = v.img.bytes.size := rfl
  constructor
  · rintro ⟨s, ⟨h0, _, _, h1, h2, rfl⟩, rfl, hle⟩
    exact ⟨h0, by simp only at hle; omega, rfl⟩
  · rintro ⟨h0, hle, rfl⟩
    exact ⟨_, ⟨h0, isPow2_1, Nat.mod_one _, by omega, by omega, rfl⟩, rfl, by simp only; omega⟩

/-- The bit fields of UNWIND_INFO against the byte values: `version` / `flags` are the low 3 / high 5 bits of byte 0
(`VersionFlags & 0b111`, `>> 3`), `size_of_prolog` is byte 1, `CountOfCodes` byte 2, `frame_register` / `frame_offset`
the low / high nibble of byte 3 (`FrameRegisterOffset & 0b1111`, `>> 4`); the two bytes are recovered from their
fields. -/
theorem C15_unwind_bitfields (b : Bytes) (im : Ref) :
    uwVersion b im = byteAt b im.off &&& 0b00000111 ∧
    uwFlags b im = byteAt b im.off >>> 3 ∧
    uwSizeOfProlog b im = byteAt b (im.off + 1) ∧
    uwCountOfCodes b im = byteAt b (im.off + 2) ∧
    uwFrameRegister b im = byteAt b (im.off + 3) &&& 0b00001111 ∧
    uwFrameOffset b im = byteAt b (im.off + 3) >>> 4 ∧
    byteAt b im.off = uwVersion b im + 8 * uwFlags b im ∧ uwVersion b im < 8 ∧ uwFlags b im < 32 ∧
    byteAt b (im.off + 3) = uwFrameRegister b im + 16 * uwFrameOffset b im ∧
    uwFrameRegister b im < 16 ∧ uwFrameOffset b im < 16 := by
  have h0 := byteAt_lt b im.off
  have h3 := byteAt_lt b (im.off + 3)
  have a3 : byteAt b im.off &&& 0b00000111 = byteAt b im.off % 8 := Nat.and_two_pow_sub_one_eq_mod _ 3
  have a4 : byteAt b (im.off + 3) &&& 0b00001111 = byteAt b (im.off + 3) % 16 := Nat.and_two_pow_sub_one_eq_mod _ 4
  have s3 : byteAt b im.off >>> 3 = byteAt b im.off / 8 := by rw [Nat.shiftRight_eq_div_pow]
  have s4 : byteAt b (im.off + 3) >>> 4 = byteAt b (im.off + 3) / 16 := by rw [Nat.shiftRight_eq_div_pow]
  unfold uwVersion uwFlags uwSizeOfProlog uwCountOfCodes uwFrameRegister uwFrameOffset
  rw [a3, a4, s3, s4]
  refine ⟨rfl, rfl, rfl, rfl, rfl, rfl, ?_, ?_, ?_, ?_, ?_, ?_⟩ <;> omega

/-- Instances: PE32 and PE32+ mapped views (`UnwindData` 312 / 328, one unwind code each); `VersionFlags = 0x19` is
version 1 with flags 3, `FrameRegisterOffset = 0x35` register 5 with offset 3; with the image ending 304 bytes after the
header, `CountOfCodes = 150` (4 + 300 bytes) still fits and 151 is `Bounds`. -/
example :
    demoView.at (.rva (rfUnwind demoView.b ⟨320, 36, 4⟩ 0)) 4 1 = .ok ⟨312, 304, 1⟩ ∧
    unwindInfo demoView ⟨320, 36, 4⟩ 0 = .ok ⟨312, 4, 1⟩ ∧ uwCountOfCodes demoBytes ⟨312, 4, 1⟩ = 1 ∧
    demoView64.at (.rva (rfUnwind demoView64.b ⟨336, 24, 4⟩ 0)) 4 1 = .ok ⟨328, 336, 1⟩ ∧
    unwindInfo demoView64 ⟨336, 24, 4⟩ 0 = .ok ⟨328, 4, 1⟩ ∧
    (let b := (demoBytes.set! 312 0x19).set! 315 0x35
     uwVersion b ⟨312, 4, 1⟩ = 1 ∧ uwFlags b ⟨312, 4, 1⟩ = 3 ∧ uwSizeOfProlog b ⟨312, 4, 1⟩ = 2 ∧
     uwFrameRegister b ⟨312, 4, 1⟩ = 5 ∧ uwFrameOffset b ⟨312, 4, 1⟩ = 3) ∧
    unwindInfo ⟨⟨demoBytes.set! 314 150, 0⟩, .pe32, .view, 0x400000⟩ ⟨320, 36, 4⟩ 0 = .ok ⟨312, 4, 1⟩ ∧
    unwindInfo ⟨⟨demoBytes.set! 314 151, 0⟩, .pe32, .view, 0x400000⟩ ⟨320, 36, 4⟩ 0 = .err .bounds ∧
    -- the hypothesis of `C15_unwind_info_mapped`; record 1 has `UnwindData` = 0: `Null`; and the same bytes as a FILE
    -- view (no section maps RVA 312): the error of the resolution
    demoView.kind = .view ∧ demoView64.kind = .view ∧
    rfUnwind demoBytes ⟨320, 36, 4⟩ 1 = 0 ∧ unwindInfo demoView ⟨320, 36, 4⟩ 1 = .err .null ∧
    demoFile.kind = .file ∧ demoFile.at (.rva 312) 4 1 = .err .bounds ∧
    unwindInfo demoFile ⟨320, 36, 4⟩ 0 = .err .bounds := by
  simp only [unwindInfo_eq, rfUnwind, rfOff, uwCountOfCodes, uwVersion, uwFlags, uwSizeOfProlog, uwFrameRegister,
    uwFrameOffset, byteAt_toNat, le32_toNat]
  decide +kernel

/-! ## debug directory -/

/-- The directory is `Size / 28` IMAGE_DEBUG_DIRECTORY records at the directory's RVA; `Invalid` when
`Size` is not a multiple of 28, `Null` without a data-directory slot and for a zero RVA. -/
theorem C15_debug_entries (v : View) :
    (∀ t, debugTryFrom v = .ok t ↔
      ∃ va size, v.dataDir 6 = some (va, size) ∧ Spec.recordCount size 28 = .ok (debugCount t) ∧
        ∃ s, v.at (.rva va) size 4 = .ok s ∧ t = ⟨s.off, size, 4⟩) ∧
    (v.dataDir 6 = none → debugTryFrom v = .err .null) ∧
    (∀ va size, v.dataDir 6 = some (va, size) → size % 28 ≠ 0 → debugTryFrom v = .err .invalid) ∧
    (∀ size, v.dataDir 6 = some (0, size) → size % 28 = 0 → debugTryFrom v = .err .null) := by
  rw [debugTryFrom_eq]
  exact ⟨tableTryFrom_ok_iff v 6 28, tableTryFrom_errors v 6 28⟩

/-- `Dir::data`: `SizeOfData` bytes at `PointerToRawData` (file view) / `AddressOfRawData` (mapped view),
`None` when that window leaves the buffer. -/
theorem C15_debug_data (v : View) (d : Nat) :
    dirData v d = (Spec.rawDataWindow v.kind v.b d).map (fun w => (⟨w.1, w.2, 1⟩ : Ref)) :=
  dirData_eq_spec v d

/-- FILE view: the raw data of the entry is found through `PointerToRawData` (352), not `AddressOfRawData`
(0x1000); the same bytes taken as a mapped view have no raw data for that entry (0x1000 + 22 is past the buffer). -/
example :
    demoFile32.kind = .file ∧ debugTryFrom demoFile32 = .ok ⟨376, 28, 4⟩ ∧
    ddAddressOfRawData demoFileBytes 376 = 0x1000 ∧ ddPointerToRawData demoFileBytes 376 = 352 ∧
    dirData demoFile32 376 = some ⟨352, 22, 1⟩ ∧ Spec.rawDataWindow .file demoFileBytes 376 = some (352, 22) ∧
    dirData demoFileAsView 376 = none ∧
    dirEntry demoFile32 376 = .ok (.codeView (.cv20 ⟨352, 16, 4⟩ ⟨368, 6, 1⟩)) ∧
    pdbFileName demoFile32 ⟨376, 28, 4⟩ = some ⟨368, 6, 1⟩ := by
  have s := demoFile32_sheet
  have he : dirEntry demoFile32 376 = .ok (.codeView (.cv20 ⟨352, 16, 4⟩ ⟨368, 6, 1⟩)) := by
    have hcv := codeView_of_nb10 demoFile32 376 _ s.data376 (by decide) 5 demoFile_isNB10
    unfold dirEntry
    simp only
    rw [if_pos (show ddType demoFile32.b 376 = 2 from s.type376), hcv]; rfl
  have h : Spec.rawDataWindow .file demoFileBytes 376 = some (352, 22) ∧ dirData demoFileAsView 376 = none := by
    simp only [Spec.rawDataWindow, dirData, ddSizeOfData, ddAddressOfRawData, ddPointerToRawData, le32_toNat]
    decide +kernel
  exact ⟨rfl, ((C15_debug_entries _).1 _).2 ⟨_, _, s.dir6, by decide, ⟨376, 104, 4⟩,
      by rw [View.at_rva_file rfl s.size s.secs]; decide +kernel, rfl⟩,
    s.address376, s.pointer376, s.data376, h.1, h.2, he, pdbFileName_of_first (t := ⟨376, 28, 4⟩) (by decide) he⟩

/-- A CodeView 2.0 record ("NB10", Offset, TimeDateStamp, Age, NUL-terminated path of `n` bytes) in a
dword-aligned raw-data window decodes to the 16-byte header at the window start and the path including
its NUL; the accessors read the documented offsets: signature, age, TIMESTAMP (and Offset); there is no GUID. -/
theorem C15_codeview_nb10 (v : View) (d : Nat) (data : Ref) (hd : dirData v d = some data)
    (hal : (v.img.base + data.off) % 4 = 0) (n : Nat) (h : Spec.IsNB10 v.b data.off data.len n) :
    ∃ cv, codeView v d = .ok cv ∧ cv = .cv20 ⟨data.off, 16, 4⟩ ⟨data.off + 16, n + 1, 1⟩ ∧
      cv.age v.b = Spec.nb10Age v.b data.off ∧ cv.format = ⟨data.off, 4, 1⟩ ∧
      cv.name = ⟨data.off + 16, n + 1, 1⟩ ∧
      cv.timestamp v.b = some (Spec.nb10TimeDateStamp v.b data.off) ∧
      cv.offset v.b = some (Spec.nb10Offset v.b data.off) ∧
      cv.guidRef = none ∧ cv.cvSignature v.b = sigNB10 :=
  ⟨_, codeView_of_nb10 v d data hd hal n h, rfl, rfl, rfl, rfl, rfl, rfl, rfl, sig_nb10 h.sig⟩

/-- NB10 instances: the second debug entry of the PE32+ mapped view `demoView64` ("c.pdb") and the entry of the
FILE view `demoFile32` ("d.pdb", reached through `PointerToRawData`); the theorem applied to them -/
example : Spec.IsNB10 demoBytes64 392 22 5 := demo64_isNB10

example : Spec.IsNB10 demoFileBytes 352 22 5 := demoFile_isNB10

example :
    codeView demoView64 444 = .ok (.cv20 ⟨392, 16, 4⟩ ⟨408, 6, 1⟩) ∧
    (CodeView.cv20 ⟨392, 16, 4⟩ ⟨408, 6, 1⟩).timestamp demoBytes64 = some 0x5F112233 ∧
    (CodeView.cv20 ⟨392, 16, 4⟩ ⟨408, 6, 1⟩).age demoBytes64 = 3 ∧
    codeView demoFile32 376 = .ok (.cv20 ⟨352, 16, 4⟩ ⟨368, 6, 1⟩) ∧
    (CodeView.cv20 ⟨352, 16, 4⟩ ⟨368, 6, 1⟩).timestamp demoFileBytes = some 0x5F445566 ∧
    (CodeView.cv20 ⟨352, 16, 4⟩ ⟨368, 6, 1⟩).age demoFileBytes = 4 := by
  refine ⟨codeView_of_nb10 demoView64 444 _ demo64_sheet.data444 (by decide) 5 demo64_isNB10, ?_, ?_,
    codeView_of_nb10 demoFile32 376 _ demoFile32_sheet.data376 (by decide) 5 demoFile_isNB10, ?_, ?_⟩
  all_goals simp only [CodeView.timestamp, CodeView.age, cv20OffTimeDateStamp, cv20OffAge, le32_toNat]
  all_goals decide +kernel

/-- A CodeView 7.0 record ("RSDS", 16-byte GUID, Age, NUL-terminated path): signature, age, the GUID — the
16 bytes at +4 of the record, inside the buffer and dword aligned — and the path; there is no timestamp. -/
theorem C15_codeview_rsds (v : View) (d : Nat) (data : Ref) (hd : dirData v d = some data)
    (hal : (v.img.base + data.off) % 4 = 0) (n : Nat) (h : Spec.IsRSDS v.b data.off data.len n) :
    ∃ cv, codeView v d = .ok cv ∧ cv = .cv70 ⟨data.off, 24, 4⟩ ⟨data.off + 24, n + 1, 1⟩ ∧
      cv.age v.b = Spec.rsdsAge v.b data.off ∧ cv.format = ⟨data.off, 4, 1⟩ ∧
      cv.name = ⟨data.off + 24, n + 1, 1⟩ ∧
      cv.guidRef = some (Spec.rsdsGuid data.off) ∧ RefOK v.img (Spec.rsdsGuid data.off) ∧
      cv.timestamp v.b = none ∧ cv.offset v.b = none ∧ cv.cvSignature v.b = sigRSDS := by
  refine ⟨_, codeView_of_rsds v d data hd hal n h, rfl, rfl, rfl, rfl, rfl, ?_, rfl, rfl, sig_rsds h.sig⟩
  obtain ⟨hin, _⟩ := dirData_sound hd
  have hfit := h.fits
  unfold Spec.rsdsGuid RefOK
  simp only
  exact ⟨by omega, by omega⟩

/-- RSDS instances: the first debug entry of the PE32 view `demoView` ("a.pdb") and of the PE32+ view `demoView64`
("b.pdb"); the GUID is the 16 bytes 0x11 … 0x20 at 364 -/
example : Spec.IsRSDS demoBytes64 360 30 5 := demo64_isRSDS

example :
    dirData demoView64 416 = some ⟨360, 30, 1⟩ ∧ (demoView64.img.base + 360) % 4 = 0 ∧
    codeView demoView64 416 = .ok (.cv70 ⟨360, 24, 4⟩ ⟨384, 6, 1⟩) ∧
    (CodeView.cv70 ⟨360, 24, 4⟩ ⟨384, 6, 1⟩).guidRef = some ⟨364, 16, 4⟩ ∧ Spec.rsdsGuid 360 = ⟨364, 16, 4⟩ ∧
    (List.range 16).map (fun i => byteAt demoBytes64 (364 + i)) = (List.range 16).map (fun i => 0x11 + i) ∧
    (CodeView.cv70 ⟨360, 24, 4⟩ ⟨384, 6, 1⟩).age demoBytes64 = 9 ∧
    (CodeView.cv70 ⟨360, 24, 4⟩ ⟨384, 6, 1⟩).timestamp demoBytes64 = none ∧
    codeView demoView 428 = .ok (.cv70 ⟨356, 24, 4⟩ ⟨380, 6, 1⟩) ∧
    (CodeView.cv70 ⟨356, 24, 4⟩ ⟨380, 6, 1⟩).guidRef = some ⟨360, 16, 4⟩ := by
  have dd := demo64_sheet.data416
  have h : (List.range 16).map (fun i => byteAt demoBytes64 (364 + i)) = (List.range 16).map (fun i => 0x11 + i) ∧
      (CodeView.cv70 ⟨360, 24, 4⟩ ⟨384, 6, 1⟩).age demoBytes64 = 9 := by
    simp only [CodeView.age, cv70OffAge, byteAt_toNat, le32_toNat]
    decide +kernel
  exact ⟨dd, by decide, codeView_of_rsds demoView64 416 _ dd (by decide) 5 demo64_isRSDS, rfl, rfl, h.1, h.2, rfl,
    demo_codeView, rfl⟩

/-- Conversely whatever `code_view` returns IS such a record: the signature is "NB10" / "RSDS", the header
is the first 16 / 24 bytes of the raw data and the name is the path up to and including its FIRST NUL,
inside the raw data (a path without terminator inside `SizeOfData` is never completed from what follows). -/
theorem C15_codeview_sound (v : View) (d : Nat) (cv : CodeView) (h : codeView v d = .ok cv) :
    ∃ data, dirData v d = some data ∧ (v.img.base + data.off) % 4 = 0 ∧
      ((∃ n, cv = .cv20 ⟨data.off, 16, 4⟩ ⟨data.off + 16, n + 1, 1⟩ ∧ le32 v.b data.off = sigNB10 ∧ 16 ≤ data.len ∧
          Spec.IsCStr v.b (data.off + 16) (data.len - 16) n) ∨
       (∃ n, cv = .cv70 ⟨data.off, 24, 4⟩ ⟨data.off + 24, n + 1, 1⟩ ∧ le32 v.b data.off = sigRSDS ∧ 24 ≤ data.len ∧
          Spec.IsCStr v.b (data.off + 24) (data.len - 24) n)) :=
  codeView_sound h

/-- The GUID / timestamp accessors of WHATEVER `code_view` returns (any bytes): a `Cv70` has the GUID at +4 of
its header, inside the raw data, and no timestamp; a `Cv20` has the timestamp dword at +8 and no GUID. -/
theorem C15_codeview_accessors (v : View) (d : Nat) (cv : CodeView) (h : codeView v d = .ok cv) :
    cv.cvSignature v.b = le32 v.b cv.image.off ∧ cv.format = ⟨cv.image.off, 4, 1⟩ ∧
    ((∃ i nm, cv = .cv20 i nm ∧ cv.cvSignature v.b = sigNB10 ∧ cv.guidRef = none ∧
        cv.offset v.b = some (le32 v.b (i.off + 4)) ∧ cv.timestamp v.b = some (le32 v.b (i.off + 8)) ∧
        cv.age v.b = le32 v.b (i.off + 12)) ∨
     (∃ i nm, cv = .cv70 i nm ∧ cv.cvSignature v.b = sigRSDS ∧ cv.timestamp v.b = none ∧ cv.offset v.b = none ∧
        cv.guidRef = some ⟨i.off + 4, 16, 4⟩ ∧ RefOK v.img ⟨i.off + 4, 16, 4⟩ ∧
        cv.age v.b = le32 v.b (i.off + 20))) := by
  refine ⟨rfl, rfl, ?_⟩
  obtain ⟨data, hd, hal, hcases⟩ := C15_codeview_sound v d cv h
  obtain ⟨hin, _⟩ := dirData_sound hd
  rcases hcases with ⟨n, rfl, hsig, h16, _⟩ | ⟨n, rfl, hsig, h24, _⟩
  · exact .inl ⟨_, _, rfl, hsig, rfl, rfl, rfl, rfl⟩
  · refine .inr ⟨_, _, rfl, hsig, rfl, rfl, rfl, ?_, rfl⟩
    unfold RefOK
    simp only
    exact ⟨by omega, by omega⟩

/-- POGO data: records (rva, size, NUL-terminated name padded to a dword boundary) laid out back to back
after the signature dword and filling the data up to less than one minimal record are yielded exactly,
in order, with their names referenced in place. -/
theorem C15_pogo_records (b : Bytes) (image : Ref) (recs : List (Nat × Nat × Nat)) (stop : Nat)
    (h4 : 4 ≤ image.len) (hl : Spec.PogoLayout b (image.off + 4) recs stop)
    (h1 : stop ≤ image.off + 4 * (image.len / 4)) (h2 : image.off + 4 * (image.len / 4) < stop + 12) :
    pgoItems b image = .ok (Spec.pogoExpected (image.off + 4) recs) := by
  unfold pgoItems pgoIterStart
  simp only
  rw [if_pos (by omega), pgoItemsFrom_eq, pgoList_layout hl _ (by omega) (by omega)]

/-- For ANY bytes the POGO iterator terminates without panic (the `&self.image[2 + len + 1..]` reslice is
always in range) and every yielded name lies inside the POGO data. -/
theorem C15_pogo_total (b : Bytes) (image : Ref) :
    ∃ l, pgoItems b image = .ok l ∧
      ∀ it ∈ l, image.off ≤ it.name.off ∧ it.name.off + it.name.len ≤ image.off + 4 * (image.len / 4) ∧
        it.name.align = 1 := by
  refine ⟨_, pgoItemsFrom_eq b _, fun it hit => ?_⟩
  have := (pgoList_bounds b _).2 it hit
  unfold pgoIterStart at this
  simp only at this
  split at this <;> simp only at this <;> omega

/-- `Debug::pdb_file_name`: the path of the FIRST entry that decodes as a CodeView record. -/
theorem C15_pdb_file_name (v : View) (t : Ref) (r : Ref) (h : pdbFileName v t = some r) :
    ∃ j cv, j < debugCount t ∧ dirEntry v (debugEntryOff t j) = .ok (.codeView cv) ∧ r = cv.name ∧
      ∀ j', j' < j → ∀ cv', dirEntry v (debugEntryOff t j') ≠ .ok (.codeView cv') := by
  obtain ⟨j, cv, _, h2, h3, h4, h5⟩ := pdbFileNameFrom_some v t _ _ r h
  exact ⟨j, cv, by omega, h3, h4, fun j' hj' => h5 j' (Nat.zero_le _) hj'⟩

/-- **`Dir::entry` dispatches on `Type`, exactly** (`src/pe64/debug.rs`): `IMAGE_DEBUG_TYPE_CODEVIEW` (2) is what
`code_view` answers, wrapped as `Entry::CodeView`; `IMAGE_DEBUG_TYPE_MISC` (4) what `dbg` answers, as `Entry::Dbg`;
`IMAGE_DEBUG_TYPE_POGO` (13) what `pgo` answers, as `Entry::Pgo` — value or error alike (`Spec.wrapEntry`) —; every
other `Type` is `Entry::Unknown` of the raw data, never an error. -/
theorem C15_debug_entry_dispatch (v : View) (d : Nat) :
    (ddType v.b d = Spec.typeCodeView → dirEntry v d = Spec.wrapEntry .codeView (codeView v d)) ∧
    (ddType v.b d = Spec.typeMisc → dirEntry v d = Spec.wrapEntry .dbg (dbgEntry v d)) ∧
    (ddType v.b d = Spec.typePogo → dirEntry v d = Spec.wrapEntry .pgo (pgoEntry v d)) ∧
    (ddType v.b d ≠ Spec.typeCodeView → ddType v.b d ≠ Spec.typeMisc → ddType v.b d ≠ Spec.typePogo →
      dirEntry v d = .ok (.unknown (dirData v d))) := by
  unfold Spec.typeCodeView Spec.typeMisc Spec.typePogo dirEntry
  simp only
  refine ⟨fun h => ?_, fun h => ?_, fun h => ?_, fun h1 h2 h3 => ?_⟩
  · rw [if_pos h]; exact wrapEntry_eq_bind _ _
  · rw [if_neg (by omega), if_pos h]; exact wrapEntry_eq_bind _ _
  · rw [if_neg (by omega), if_neg (by omega), if_pos h]; exact wrapEntry_eq_bind _ _
  · rw [if_neg h1, if_neg h2, if_neg h3]

/-- `Dir::entry` dispatches on `Type` (2 CodeView, 4 MISC, 13 POGO, anything else the raw data) and, for ANY
entry bytes, answers a value or a typed error whose references are all inside the buffer and aligned:
the manual casts in `code_view`, `dbg` and `pgo` are covered by the preceding length / alignment checks. -/
theorem C15_debug_entry_safe (v : View) (d : Nat) :
    OkOrErr (dirEntry v d) ∧ (∀ e, dirEntry v d = .ok e → Spec.entryRefsOK v.img e) ∧
    (ddType v.b d ≠ 2 → ddType v.b d ≠ 4 → ddType v.b d ≠ 13 → dirEntry v d = .ok (.unknown (dirData v d))) :=
  ⟨(dirEntry_safe v d).1, (dirEntry_safe v d).2, (C15_debug_entry_dispatch v d).2.2.2⟩

/-- **`pgo`, exactly** (`Entry::Pgo`): `Ok` iff the raw data exists, is at least one dword long and dword aligned in
memory; the `Pgo` image is then the WHOLE dwords of the raw data (`SizeOfData / 4` of them, a ragged tail dropped),
starting at the raw data.  Otherwise: no raw data or fewer than 4 bytes ⇒ `Bounds`, misplaced ⇒ `Misaligned`. -/
theorem C15_pgo_entry_iff (v : View) (d : Nat) :
    (∀ r, pgoEntry v d = .ok r ↔
      ∃ data, dirData v d = some data ∧ 4 ≤ data.len ∧ (v.img.base + data.off) % 4 = 0 ∧
        r = ⟨data.off, 4 * (data.len / 4), 4⟩) ∧
    (dirData v d = none → pgoEntry v d = .err .bounds) ∧
    (∀ data, dirData v d = some data → data.len < 4 → pgoEntry v d = .err .bounds) ∧
    (∀ data, dirData v d = some data → 4 ≤ data.len → (v.img.base + data.off) % 4 ≠ 0 →
      pgoEntry v d = .err .misaligned) :=
  ⟨castEntry_ok_iff fun _ _ => by omega, castEntry_errors ..⟩

/-- **`dbg`, exactly** (`Entry::Dbg`, IMAGE_DEBUG_MISC): `Ok` iff the raw data exists, holds the 12-byte header
(`size_of::<IMAGE_DEBUG_MISC>()`) and is dword aligned in memory; the image is the first 12 bytes of the raw data, whose
`DataType` / `Length` / `Unicode` fields are the dwords at +0 / +4 and the byte at +8. -/
theorem C15_dbg_entry_iff (v : View) (d : Nat) :
    (∀ r, dbgEntry v d = .ok r ↔
      ∃ data, dirData v d = some data ∧ 12 ≤ data.len ∧ (v.img.base + data.off) % 4 = 0 ∧ r = ⟨data.off, 12, 4⟩) ∧
    (dirData v d = none → dbgEntry v d = .err .bounds) ∧
    (∀ data, dirData v d = some data → data.len < 12 → dbgEntry v d = .err .bounds) ∧
    (∀ data, dirData v d = some data → 12 ≤ data.len → (v.img.base + data.off) % 4 ≠ 0 →
      dbgEntry v d = .err .misaligned) ∧
    (∀ m, miscDataType v.b m = le32 v.b m ∧ miscLength v.b m = le32 v.b (m + 4) ∧ miscUnicode v.b m = byteAt v.b (m + 8)) :=
  have e := castEntry_errors v d 12 (fun _ => 12) "dbg:IMAGE_DEBUG_MISC"
  ⟨castEntry_ok_iff fun _ h => h, e.1, e.2.1, e.2.2, fun _ => ⟨rfl, rfl, rfl⟩⟩

/-- **From the directory entry to the records.**  A debug entry of `Type` POGO whose raw data (`Dir::data`: `SizeOfData`
bytes at `PointerToRawData` / `AddressOfRawData`, `C15_debug_data`) is dword aligned and holds, after the signature
dword, records (rva, size, NUL-terminated name padded to a dword boundary) laid out back to back and filling the whole
dwords of the data up to less than one minimal record: `entry()` is `Entry::Pgo` over the whole dwords of the raw data
and iterating it yields exactly those records, in order — their rva, size and name (referenced in place). -/
theorem C15_debug_entry_pogo_records (v : View) (d : Nat) (data : Ref) (recs : List (Nat × Nat × Nat)) (stop : Nat)
    (hty : ddType v.b d = Spec.typePogo) (hd : dirData v d = some data) (h4 : 4 ≤ data.len)
    (hal : (v.img.base + data.off) % 4 = 0)
    (hl : Spec.PogoLayout v.b (data.off + 4) recs stop)
    (h1 : stop ≤ data.off + 4 * (data.len / 4)) (h2 : data.off + 4 * (data.len / 4) < stop + 12) :
    dirEntry v d = .ok (.pgo ⟨data.off, 4 * (data.len / 4), 4⟩) ∧
    pgoItems v.b ⟨data.off, 4 * (data.len / 4), 4⟩ = .ok (Spec.pogoExpected (data.off + 4) recs) ∧
    (Spec.pogoExpected (data.off + 4) recs).map (fun it => (it.rva, it.size, it.name.len - 1)) = recs := by
  have he : pgoEntry v d = .ok ⟨data.off, 4 * (data.len / 4), 4⟩ :=
    (castEntry_ok_iff (fun _ _ => by omega) _).2 ⟨data, hd, h4, hal, rfl⟩
  refine ⟨?_, ?_, ?_⟩
  · rw [(C15_debug_entry_dispatch v d).2.2.1 hty, he]; rfl
  · apply C15_pogo_records v.b ⟨data.off, 4 * (data.len / 4), 4⟩ recs stop
    · simp only; omega
    · exact hl
    · simp only; omega
    · simp only; omega
  · exact pogoExpected_map recs _

/-- … and the same for `Type` MISC: the IMAGE_DEBUG_MISC header at the start of the raw data. -/
theorem C15_debug_entry_misc (v : View) (d : Nat) (data : Ref)
    (hty : ddType v.b d = Spec.typeMisc) (hd : dirData v d = some data) (h12 : 12 ≤ data.len)
    (hal : (v.img.base + data.off) % 4 = 0) :
    dirEntry v d = .ok (.dbg ⟨data.off, 12, 4⟩) ∧ RefOK v.img ⟨data.off, 12, 4⟩ := by
  have he : dbgEntry v d = .ok ⟨data.off, 12, 4⟩ := (castEntry_ok_iff (fun _ h => h) _).2 ⟨data, hd, h12, hal, rfl⟩
  refine ⟨?_, (dbgEntry_safe v d).2 _ he⟩
  rw [(C15_debug_entry_dispatch v d).2.1 hty, he]; rfl

/-- Instances of the hypotheses of `C15_debug_entry_pogo_records` / `_misc`.  PE32 mapped view `demoView`: the second
entry (at 456) is POGO data at 388 (40 bytes: "LTCG", two records).  PE32+ mapped view and PE32 FILE view: the NB10
entry of `demoBytes64` (at 444) / `demoFileBytes` (at 376, raw data through `PointerToRawData` = 352) with its `Type`
rewritten to 13 and to 4 — the 22 raw bytes read as POGO data are five whole dwords: a signature and one record
(rva = the old `Offset`, size = the old `TimeDateStamp`, the one-character name "\x03" = the old `Age`). -/
example :
    ddType demoView.b 456 = Spec.typePogo ∧ dirData demoView 456 = some ⟨388, 40, 1⟩ ∧
    (demoView.img.base + 388) % 4 = 0 ∧
    dirEntry demoView 456 = .ok (.pgo ⟨388, 40, 4⟩) ∧
    pgoItems demoView.b ⟨388, 40, 4⟩ = .ok (Spec.pogoExpected 392 [(4096, 16, 5), (8192, 32, 9)]) := by
  have h := C15_debug_entry_pogo_records demoView 456 ⟨388, 40, 1⟩ _ 428 demo_sheet.type456 demo_sheet.data456 (by decide)
    (by decide) demo_pogoLayout (by decide) (by decide)
  exact ⟨demo_sheet.type456, demo_sheet.data456, by decide, h.1, h.2.1⟩

example :
    let v64 : View := ⟨⟨demoBytes64.set! 456 13, 0⟩, .pe64, .view, 0x140000000⟩
    let f32 : View := ⟨⟨demoFileBytes.set! 388 13, 0⟩, .pe32, .file, 0x400000⟩
    (dirEntry v64 444 = .ok (.pgo ⟨392, 20, 4⟩) ∧
      pgoItems v64.b ⟨392, 20, 4⟩ = .ok [⟨0, 0x5F112233, ⟨404, 2, 1⟩⟩]) ∧
    (f32.kind = .file ∧ ddPointerToRawData f32.b 376 = 352 ∧ dirEntry f32 376 = .ok (.pgo ⟨352, 20, 4⟩) ∧
      pgoItems f32.b ⟨352, 20, 4⟩ = .ok [⟨0, 0x5F445566, ⟨364, 2, 1⟩⟩]) := by
  intro v64 f32
  have e64 : ddType v64.b 444 = 13 ∧ dirData v64 444 = some ⟨392, 22, 1⟩ ∧
      pogoLayoutAt v64.b 408 396 [(0, 0x5F112233, 1)] := by
    simp only [ddType, dirData, ddSizeOfData, ddAddressOfRawData, ddPointerToRawData, pogoLayoutAt,
      byteAt_toNat, le32_toNat]
    decide +kernel
  have ef : (ddType f32.b 376 = 13 ∧ ddPointerToRawData f32.b 376 = 352) ∧ dirData f32 376 = some ⟨352, 22, 1⟩ ∧
      pogoLayoutAt f32.b 368 356 [(0, 0x5F445566, 1)] := by
    simp only [ddType, dirData, ddSizeOfData, ddAddressOfRawData, ddPointerToRawData, pogoLayoutAt,
      byteAt_toNat, le32_toNat]
    decide +kernel
  have h64 := C15_debug_entry_pogo_records v64 444 ⟨392, 22, 1⟩ [(0, 0x5F112233, 1)] 408 e64.1 e64.2.1 (by decide)
    (by decide) (pogoLayout_of_at e64.2.2) (by decide) (by decide)
  have hf := C15_debug_entry_pogo_records f32 376 ⟨352, 22, 1⟩ [(0, 0x5F445566, 1)] 368 ef.1.1 ef.2.1 (by decide)
    (by decide) (pogoLayout_of_at ef.2.2) (by decide) (by decide)
  exact ⟨⟨h64.1, h64.2.1⟩, by decide, ef.1.2, hf.1, hf.2.1⟩

example :
    let v64 : View := ⟨⟨demoBytes64.set! 456 4, 0⟩, .pe64, .view, 0x140000000⟩
    let f32 : View := ⟨⟨demoFileBytes.set! 388 4, 0⟩, .pe32, .file, 0x400000⟩
    dirEntry v64 444 = .ok (.dbg ⟨392, 12, 4⟩) ∧ miscDataType v64.b 392 = 0x3031424E ∧
    dirEntry f32 376 = .ok (.dbg ⟨352, 12, 4⟩) ∧
    -- the same entries in a buffer at an address that is 2 mod 4: `Misaligned`; with `SizeOfData` cut to 11 / 3: `Bounds`
    dbgEntry ⟨⟨demoBytes64.set! 456 4, 2⟩, .pe64, .view, 0x140000000⟩ 444 = .err .misaligned ∧
    pgoEntry ⟨⟨demoBytes64.set! 456 13, 2⟩, .pe64, .view, 0x140000000⟩ 444 = .err .misaligned ∧
    dbgEntry ⟨⟨demoBytes64.set! 460 11, 0⟩, .pe64, .view, 0x140000000⟩ 444 = .err .bounds ∧
    pgoEntry ⟨⟨demoBytes64.set! 460 3, 0⟩, .pe64, .view, 0x140000000⟩ 444 = .err .bounds := by
  intro v64 f32
  simp only [dirEntry, dbgEntry_eq, pgoEntry_eq, castEntry_bind, miscDataType, ddType, dirData, ddSizeOfData,
    ddAddressOfRawData, ddPointerToRawData, le32_toNat]
  decide +kernel

/-! ## TLS directory -/

/-- The IMAGE_TLS_DIRECTORY (24 bytes / align 4 for PE32, 40 bytes / align 8 for PE32+) at the directory RVA. -/
theorem C15_tls_image (v : View) (t : Ref) :
    tlsTryFrom v = .ok t ↔
      ∃ va size, v.dataDir 9 = some (va, size) ∧
        ∃ s, v.at (.rva va) (tlsSize v.fmt) (tlsAlign v.fmt) = .ok s ∧ t = ⟨s.off, tlsSize v.fmt, tlsAlign v.fmt⟩ := by
  rw [tlsTryFrom_eq]; exact structTryFrom_ok_iff v 9 _ _ t

/-- `raw_data`: `End − Start` bytes at virtual address `Start`; `Invalid` when `End < Start`. -/
theorem C15_tls_raw_data (v : View) (t : Ref) :
    (∀ r, tlsRawData v t = .ok r ↔ tlsStart v t ≤ tlsEnd v t ∧
      ∃ s, v.at (.va (tlsStart v t)) (tlsEnd v t - tlsStart v t) 1 = .ok s ∧
        r = ⟨s.off, tlsEnd v t - tlsStart v t, 1⟩) ∧
    (tlsEnd v t < tlsStart v t → tlsRawData v t = .err .invalid) := by
  have hl : tlsEnd v t < 18446744073709551616 := by
    unfold tlsEnd ptrAt leN
    cases v.fmt
    · have := le32_lt v.b (t.off + Fmt.ptrSize .pe32); simp only [Fmt.ptrSize] at *; omega
    · have := le64_lt v.b (t.off + Fmt.ptrSize .pe64); simp only [Fmt.ptrSize] at *; omega
  exact ⟨rangeSlice_ok_iff hl, fun h => if_pos h⟩

/-- `slot`: the aligned dword at virtual address `AddressOfIndex`. -/
theorem C15_tls_slot (v : View) (t : Ref) (r : Ref) :
    tlsSlot v t = .ok r ↔ ∃ s, v.at (.va (tlsIndex v t)) 4 4 = .ok s ∧ r = ⟨s.off, 4, 4⟩ := by
  unfold tlsSlot
  exact C05_derva v _ 4 4 r

/-- `callbacks`: the pointer-sized entries at virtual address `AddressOfCallBacks` up to (not including)
the FIRST zero entry; if the readable bytes end before a zero entry: `Bounds` — never a truncated list,
never a read past the section / image. -/
theorem C15_tls_callbacks (v : View) (t : Ref) (s : Ref)
    (hat : v.at (.va (tlsCallBacks v t)) 0 v.fmt.ptrSize = .ok s) :
    (∀ r, tlsCallbacks v t = .ok r →
      ∃ l, Spec.vaListUntilZero v.b s.off v.fmt.ptrSize (s.len / v.fmt.ptrSize) = some l ∧
        r = ⟨s.off, l.length * v.fmt.ptrSize, v.fmt.ptrSize⟩ ∧
        l = (List.range l.length).map fun j => leN v.b (s.off + j * v.fmt.ptrSize) v.fmt.ptrSize) ∧
    (Spec.vaListUntilZero v.b s.off v.fmt.ptrSize (s.len / v.fmt.ptrSize) = none →
      tlsCallbacks v t = .err .bounds) := by
  rw [tlsCallbacks_eq hat]
  refine ⟨fun r hr => ?_, fun hn => by rw [hn]⟩
  cases hl : Spec.vaListUntilZero v.b s.off v.fmt.ptrSize (s.len / v.fmt.ptrSize) with
  | none => rw [hl] at hr; cases hr
  | some l => rw [hl] at hr; cases hr; exact ⟨l, rfl, rfl, (vaListUntilZero_eq_some.1 hl).2.2.2⟩

/-- Completeness of `callbacks`: the answer is DETERMINED by the bytes.  With `s` the readable bytes at virtual
address `AddressOfCallBacks`: when the specification's list exists (a zero pointer among the whole pointers of
`s`) the answer is exactly that list — `l.length` pointers at the start of `s`, whose values are `l` —; when it
does not, `Bounds`; when the address does not resolve, the error of the resolution (`Null` for a zero address).
So a decoder that gave up on a well-formed list (or returned a shorter / longer one) would contradict this. -/
theorem C15_tls_callbacks_complete (v : View) (t : Ref) :
    (∀ s, v.at (.va (tlsCallBacks v t)) 0 v.fmt.ptrSize = .ok s →
      tlsCallbacks v t =
        (match Spec.vaListUntilZero v.b s.off v.fmt.ptrSize (s.len / v.fmt.ptrSize) with
         | some l => .ok ⟨s.off, l.length * v.fmt.ptrSize, v.fmt.ptrSize⟩
         | none => .err .bounds) ∧
      ∀ l, Spec.vaListUntilZero v.b s.off v.fmt.ptrSize (s.len / v.fmt.ptrSize) = some l →
        l.length * v.fmt.ptrSize + v.fmt.ptrSize ≤ s.len ∧
        l = (List.range l.length).map fun j => leN v.b (s.off + j * v.fmt.ptrSize) v.fmt.ptrSize) ∧
    (∀ e, v.at (.va (tlsCallBacks v t)) 0 v.fmt.ptrSize = .err e → tlsCallbacks v t = .err e) ∧
    (tlsCallBacks v t = 0 → tlsCallbacks v t = .err .null) := by
  have hps := ptrSize_pos v.fmt
  refine ⟨fun s hat => ?_, fun e he => dervaSliceS_at_err v _ _ _ 0 e he, fun h0 => ?_⟩
  · refine ⟨tlsCallbacks_eq hat, fun l hl => ?_⟩
    obtain ⟨g1, _, _, g4⟩ := vaListUntilZero_eq_some.1 hl
    have g1 := (Nat.le_div_iff_mul_le (by omega)).1 g1
    rw [Nat.succ_mul] at g1
    exact ⟨g1, g4⟩
  · unfold tlsCallbacks
    rw [h0]
    exact (C05_null_typed v v.fmt.ptrSize v.fmt.ptrSize 0 0).2.2.2.2.1.2     -- its `dervaSliceS (.va 0)` conjunct

/-- Instances of the hypothesis `v.at … = .ok s` of `C15_tls_callbacks` / `_complete`, with the specification's
list: PE32 mapped (two 4-byte callbacks), PE32+ mapped (two 8-byte callbacks), PE32 FILE view (one callback, the
VA resolved through the section table to file offset 408); and a PE32+ image whose `AddressOfCallBacks` points
at the last 8 bytes of the image (non-zero): no zero pointer before the bytes end ⇒ `Bounds`. -/
example :
    demoView.at (.va (tlsCallBacks demoView ⟨504, 24, 4⟩)) 0 4 = .ok ⟨492, 124, 4⟩ ∧
    Spec.vaListUntilZero demoBytes 492 4 (124 / 4) = some [0x400064, 0x400084] ∧
    tlsCallbacks demoView ⟨504, 24, 4⟩ = .ok ⟨492, 2 * 4, 4⟩ ∧
    tlsTryFrom demoView64 = .ok ⟨512, 40, 8⟩ ∧
    demoView64.at (.va (tlsCallBacks demoView64 ⟨512, 40, 8⟩)) 0 8 = .ok ⟨488, 176, 8⟩ ∧
    Spec.vaListUntilZero demoBytes64 488 8 (176 / 8) = some [0x140000064, 0x140000078] ∧
    tlsCallbacks demoView64 ⟨512, 40, 8⟩ = .ok ⟨488, 2 * 8, 8⟩ ∧
    tlsTryFrom demoFile32 = .ok ⟨416, 24, 4⟩ ∧
    demoFile32.at (.va (tlsCallBacks demoFile32 ⟨416, 24, 4⟩)) 0 4 = .ok ⟨408, 72, 4⟩ ∧
    Spec.vaListUntilZero demoFileBytes 408 4 (72 / 4) = some [0x401010] ∧
    tlsCallbacks demoFile32 ⟨416, 24, 4⟩ = .ok ⟨408, 1 * 4, 4⟩ := by
  have f := demoFile32_sheet
  have at64 : demoView64.at (.va (tlsCallBacks demoView64 ⟨512, 40, 8⟩)) 0 8 = .ok ⟨488, 176, 8⟩ := by
    rw [demo64_sheet.callBacks]; exact View.at_va_view rfl demo64_sheet.size demo64_sheet.soi _ 0 8 (by decide)
  have atF : demoFile32.at (.va (tlsCallBacks demoFile32 ⟨416, 24, 4⟩)) 0 4 = .ok ⟨408, 72, 4⟩ := by
    rw [f.callBacks, View.at_va_file rfl f.size f.secs f.soi]; decide +kernel
  exact ⟨demo_callbacks.1, demo_callbacks.2, tlsCallbacks_of_list demo_callbacks.1 demo_callbacks.2,
    (C15_tls_image _ _).2 ⟨_, _, demo64_sheet.dir9, _, View.at_rva_view rfl demo64_sheet.size 512 40 8 (by decide), rfl⟩,
    at64, demo64_sheet.list, tlsCallbacks_of_list at64 demo64_sheet.list,
    (C15_tls_image _ _).2 ⟨_, _, f.dir9, ⟨416, 64, 4⟩, by rw [View.at_rva_file rfl f.size f.secs]; decide +kernel, rfl⟩,
    atF, f.list, tlsCallbacks_of_list atF f.list⟩

example :
    let v : View := ⟨⟨(demoBytes64.set! 536 0x90).set! 537 0x02, 0⟩, .pe64, .view, 0x140000000⟩
    tlsTryFrom v = .ok ⟨512, 40, 8⟩ ∧ tlsCallBacks v ⟨512, 40, 8⟩ = 0x140000290 ∧
    v.at (.va (tlsCallBacks v ⟨512, 40, 8⟩)) 0 8 = .ok ⟨656, 8, 8⟩ ∧
    Spec.vaListUntilZero v.b 656 8 (8 / 8) = none ∧
    tlsCallbacks v ⟨512, 40, 8⟩ = .err .bounds := by
  intro v
  -- the first four by one evaluation (the holes are filled from the statement); the fifth is the theorem on the last two
  suffices h : _ ∧ _ ∧ _ ∧ _ from ⟨h.1, h.2.1, h.2.2.1, h.2.2.2, (C15_tls_callbacks v _ _ h.2.2.1).2 h.2.2.2⟩
  simp only [tlsTryFrom_eq, structTryFrom_bind, View.dataDir_toNat, hdr_toNat, tlsCallBacks, ptrAt,
    vaListUntilZero_eq_find, leN_toNat]
  decide +kernel

/-- Absent directories: an image whose data-directory array is too short for the TLS (9) / load-config (10)
slot — `NumberOfRvaAndSizes` (capped at 16) `≤` the slot — or whose slot holds RVA 0 reports `Null`. -/
theorem C15_tls_lc_absent (v : View) :
    (v.dataDir 9 = none → tlsTryFrom v = .err .null) ∧
    (∀ size, v.dataDir 9 = some (0, size) → tlsTryFrom v = .err .null) ∧
    (v.dataDir 10 = none → lcTryFrom v = .err .null) ∧
    (∀ size, v.dataDir 10 = some (0, size) → lcTryFrom v = .err .null) ∧
    (∀ i, v.dataDir i = none ↔ min (numberOfRvaAndSizes v.fmt v.b) 16 ≤ i) := by
  rw [tlsTryFrom_eq, lcTryFrom_eq]
  obtain ⟨t1, t2⟩ := structTryFrom_absent v 9 (tlsSize v.fmt) (tlsAlign v.fmt)
  obtain ⟨l1, l2⟩ := structTryFrom_absent v 10 (lcSize v.fmt) (lcAlign v.fmt)
  refine ⟨t1, t2, l1, l2, fun i => ?_⟩
  unfold View.dataDir numDataDirs
  by_cases hi : i < min (numberOfRvaAndSizes v.fmt v.b) 16
  · rw [if_pos hi]; exact ⟨fun hh => (by cases hh), fun hh => by omega⟩
  · rw [if_neg hi]; exact ⟨fun _ => by omega, fun _ => rfl⟩

/-- Instances: `demoBytes` with `NumberOfRvaAndSizes` lowered to 9 (the array ends before the TLS slot) — TLS and
load config absent, the debug directory (slot 6) still there; `demoFile32` has sixteen slots with slot 10 all
zero (RVA 0): load config absent. -/
example :
    let v : View := ⟨⟨demoBytes.set! 180 9, 0⟩, .pe32, .view, 0x400000⟩
    Accept .pe32 v.img ∧ numberOfRvaAndSizes .pe32 v.b = 9 ∧ v.dataDir 9 = none ∧ v.dataDir 10 = none ∧
    tlsTryFrom v = .err .null ∧ lcTryFrom v = .err .null ∧ debugTryFrom v = .ok ⟨428, 56, 4⟩ ∧
    demoFile32.dataDir 10 = some (0, 0) ∧ lcTryFrom demoFile32 = .err .null ∧
    excTryFrom demoFile32 = .err .null ∧ securityTryFrom demoFile32 = .err .null := by
  simp only [Accept, tlsTryFrom_eq, lcTryFrom_eq, debugTryFrom_eq, excTryFrom_eq, structTryFrom_bind, tableTryFrom_bind,
    View.dataDir_toNat, hdr_toNat]
  decide +kernel

/-- In a mapped view the three TLS pointers resolve to `pointer − image base`: the template is the
`End − Start` bytes at buffer offset `Start − base`. -/
theorem C15_tls_raw_data_mapped (v : View) (hk : v.kind = .view) (t : Ref)
    (h1 : v.imageBase < tlsStart v t) (h2 : tlsStart v t ≤ tlsEnd v t)
    (h3 : tlsStart v t - v.imageBase ≤ sizeOfImage v.b)
    (h4 : tlsEnd v t - v.imageBase ≤ v.img.bytes.size) :
    tlsRawData v t = .ok ⟨tlsStart v t - v.imageBase, tlsEnd v t - tlsStart v t, 1⟩ := by
  apply ((C15_tls_raw_data v t).1 _).2
  have h4' : tlsEnd v t - v.imageBase ≤ v.b.size := h4
  exact ⟨h2, _, View.at_va_view hk rfl rfl _ _ 1 ⟨by omega, by omega, h3, isPow2_1, Nat.mod_one _, by omega⟩, rfl⟩

/-- hypotheses of `C15_tls_raw_data_mapped` on the PE32 and the PE32+ mapped view -/
example :
    demoView.kind = .view ∧ demoView.imageBase < tlsStart demoView ⟨504, 24, 4⟩ ∧
    tlsStart demoView ⟨504, 24, 4⟩ ≤ tlsEnd demoView ⟨504, 24, 4⟩ ∧
    tlsStart demoView ⟨504, 24, 4⟩ - demoView.imageBase ≤ sizeOfImage demoView.b ∧
    tlsEnd demoView ⟨504, 24, 4⟩ - demoView.imageBase ≤ demoView.img.bytes.size ∧
    demoView64.kind = .view ∧ demoView64.imageBase < tlsStart demoView64 ⟨512, 40, 8⟩ ∧
    tlsStart demoView64 ⟨512, 40, 8⟩ ≤ tlsEnd demoView64 ⟨512, 40, 8⟩ ∧
    tlsStart demoView64 ⟨512, 40, 8⟩ - demoView64.imageBase ≤ sizeOfImage demoView64.b ∧
    tlsEnd demoView64 ⟨512, 40, 8⟩ - demoView64.imageBase ≤ demoView64.img.bytes.size ∧
    tlsRawData demoView64 ⟨512, 40, 8⟩ = .ok ⟨472, 8, 1⟩ ∧ tlsSlot demoView64 ⟨512, 40, 8⟩ = .ok ⟨480, 4, 4⟩ ∧
    tlsRawData demoFile32 ⟨416, 24, 4⟩ = .ok ⟨352, 4, 1⟩ ∧ tlsSlot demoFile32 ⟨416, 24, 4⟩ = .ok ⟨356, 4, 4⟩ := by
  have f := demoFile32_sheet
  simp only [tlsRawData, tlsSlot, tlsStart, tlsEnd, tlsIndex, ptrAt, leN_toNat, dervaSlice_unfold, derva_eq_bind,
    View.at_va_file rfl f.size f.secs f.soi]
  decide +kernel

/-! ## load config directory -/

/-- The IMAGE_LOAD_CONFIG_DIRECTORY prefix the crate declares (72 bytes / align 4 for PE32, 112 bytes /
align 8 for PE32+) at the directory RVA — whatever size the directory itself declares. -/
theorem C15_load_config_image (v : View) (t : Ref) :
    lcTryFrom v = .ok t ↔
      ∃ va size, v.dataDir 10 = some (va, size) ∧
        ∃ s, v.at (.rva va) (lcSize v.fmt) (lcAlign v.fmt) = .ok s ∧ t = ⟨s.off, lcSize v.fmt, lcAlign v.fmt⟩ := by
  rw [lcTryFrom_eq]; exact structTryFrom_ok_iff v 10 _ _ t

/-- `security_cookie`: the aligned dword at virtual address `SecurityCookie`; `se_handler_table`:
`SEHandlerCount` pointer-sized entries at virtual address `SEHandlerTable` (`Overflow` when the byte
count does not fit a `usize`, `Null` first when the table address is zero). -/
theorem C15_load_config_fields (v : View) (t : Ref) (r : Ref) :
    (lcSecurityCookie v t = .ok r ↔ ∃ s, v.at (.va (lcCookieVa v t)) 4 4 = .ok s ∧ r = ⟨s.off, 4, 4⟩) ∧
    (lcSeHandlerTable v t = .ok r ↔ v.fmt.ptrSize * lcCount v t < 18446744073709551616 ∧
      ∃ s, v.at (.va (lcTableVa v t)) (v.fmt.ptrSize * lcCount v t) v.fmt.ptrSize = .ok s ∧
        r = ⟨s.off, v.fmt.ptrSize * lcCount v t, v.fmt.ptrSize⟩) ∧
    (v.fmt.ptrSize * lcCount v t ≥ 18446744073709551616 →
      lcSeHandlerTable v t = .err (if lcTableVa v t = 0 then .null else .overflow)) := by
  unfold lcSecurityCookie lcSeHandlerTable
  refine ⟨C05_derva v _ 4 4 r, C05_derva_slice v _ _ _ _ r, fun h => ?_⟩
  rw [dervaSlice_unfold]
  rw [if_pos h]
  simp [Addr.isZero]

/-- PE32+ load config (112 bytes, align 8; cookie / table / count at +88 / +96 / +104) and exception directory -/
example :
    lcTryFrom demoView64 = .ok ⟨552, 112, 8⟩ ∧ lcDeclaredSize demoView64 ⟨552, 112, 8⟩ = 112 ∧
    lcCookieVa demoView64 ⟨552, 112, 8⟩ = 0x1400001E0 ∧ lcCount demoView64 ⟨552, 112, 8⟩ = 2 ∧
    lcSecurityCookie demoView64 ⟨552, 112, 8⟩ = .ok ⟨480, 4, 4⟩ ∧
    lcSeHandlerTable demoView64 ⟨552, 112, 8⟩ = .ok ⟨488, 16, 8⟩ ∧
    excTryFrom demoView64 = .ok ⟨336, 24, 4⟩ ∧ checkSorted demoBytes64 ⟨336, 24, 4⟩ = true ∧
    indexOf demoBytes64 ⟨336, 24, 4⟩ 100 = .found 0 ∧ indexOf demoBytes64 ⟨336, 24, 4⟩ 118 = .notFound 1 ∧
    fnBytes demoView64 ⟨336, 24, 4⟩ 1 = .ok ⟨120, 10, 1⟩ ∧ unwindInfo demoView64 ⟨336, 24, 4⟩ 0 = .ok ⟨328, 4, 1⟩ ∧
    debugTryFrom demoView64 = .ok ⟨416, 56, 4⟩ ∧ pdbFileName demoView64 ⟨416, 56, 4⟩ = some ⟨384, 6, 1⟩ ∧
    securityTryFrom demoView64 = .err .unmapped := by
  have s := demo64_sheet
  have he : dirEntry demoView64 416 = .ok (.codeView (.cv70 ⟨360, 24, 4⟩ ⟨384, 6, 1⟩)) := by
    rw [(C15_debug_entry_dispatch demoView64 416).1 s.type416,
      codeView_of_rsds demoView64 416 _ s.data416 (by decide) 5 demo64_isRSDS]; rfl
  -- all but `pdb_file_name`, whose reads sit in a loop, in one evaluation
  suffices h : (_ ∧ _ ∧ _ ∧ _ ∧ _ ∧ _ ∧ _ ∧ _ ∧ _ ∧ _ ∧ _ ∧ _ ∧ _) ∧ _ from
    let ⟨⟨a1, a2, a3, a4, a5, a6, a7, a8, a9, a10, a11, a12, a13⟩, a15⟩ := h
    ⟨a1, a2, a3, a4, a5, a6, a7, a8, a9, a10, a11, a12, a13, pdbFileName_of_first (t := ⟨416, 56, 4⟩) (by decide) he, a15⟩
  simp only [lcTryFrom_eq, structTryFrom_bind, excTryFrom_eq, debugTryFrom_eq, tableTryFrom_bind, View.dataDir_toNat, hdr_toNat, lcDeclaredSize, lcSecurityCookie, lcSeHandlerTable, lcCookieVa, lcTableVa, lcCount, ptrAt,
    checkSorted, indexOf_eq, rfCmp, fnBytes, unwindInfo_eq, rfBegin, rfEnd, rfUnwind, rfOff, byteAt_toNat, le32_toNat,
    leN_toNat]
  decide +kernel

/-! ## security directory -/

/-- `certificate_data` is everything after the first 8-byte header up to the END OF THE DIRECTORY, whatever
`dwLength` says (padding and any further certificates included, a `dwLength` larger than the directory ignored):
all that holds without the hypothesis `dwLength = Size` of `C15_security_file`. -/
theorem C15_security_data_partial (v : View) (hb : v.img.base % 4 = 0) (r : Ref) (h : securityTryFrom v = .ok r) :
    secCertData v r = .ok ⟨r.off + 8, r.len - 8, 1⟩ ∧ RefOK v.img ⟨r.off + 8, r.len - 8, 1⟩ := by
  obtain ⟨_, va, size, hd, ⟨w1, w2, w3, w4, w5⟩, rfl⟩ := (securityTryFrom_ok_iff v hb r).1 h
  have w5' : va + size ≤ v.img.bytes.size := w5
  unfold secCertData
  simp only
  rw [if_neg (by omega), rawRef_eq_ok (by omega) (Nat.mod_one _)]
  exact ⟨rfl, ⟨by simp only; omega, Nat.mod_one _⟩⟩

/-- For a file view (buffer at a dword-aligned address, as every constructed view is) the certificate
table is decoded iff the directory is well formed: non-zero 8-aligned FILE OFFSET, 8-aligned size ≥ 8,
inside the file.  The type is the word at +6 of the WIN_CERTIFICATE header; for a directory holding one
certificate of the directory's size (`dwLength = Size`) the data is exactly the stored certificate bytes. -/
theorem C15_security_file (v : View) (hb : v.img.base % 4 = 0) (r : Ref) :
    (securityTryFrom v = .ok r ↔
      v.kind = .file ∧ ∃ va size, v.dataDir 4 = some (va, size) ∧ Spec.CertWellFormed v.b.size va size ∧
        r = ⟨va, size, 1⟩) ∧
    (securityTryFrom v = .ok r →
      secImage v r = .ok ⟨r.off, 8, 4⟩ ∧ RefOK v.img ⟨r.off, 8, 4⟩ ∧
      secCertType v r = .ok (Spec.certType v.b r.off) ∧
      (Spec.SingleCert v.b r.off r.len →
        secCertData v r = .ok (Spec.certBytes v.b r.off) ∧ RefOK v.img (Spec.certBytes v.b r.off))) := by
  refine ⟨securityTryFrom_ok_iff v hb r, fun h => ?_⟩
  have hp := C15_security_data_partial v hb r h
  obtain ⟨_, va, size, hd, ⟨w1, w2, w3, w4, w5⟩, rfl⟩ := (securityTryFrom_ok_iff v hb r).1 h
  have w5' : va + size ≤ v.img.bytes.size := w5
  have hal : (v.img.base + va) % 4 = 0 := by omega
  unfold secCertType secImage Spec.certType
  simp only
  rw [rawRef_eq_ok (by omega) hal]
  refine ⟨rfl, ⟨by simp only; omega, hal⟩, rfl, fun hsingle => ?_⟩
  unfold Spec.certBytes
  rw [show Spec.certLength v.b va = size from hsingle]
  exact hp

/-- Mapped views have no certificate table: `Unmapped`, whatever the directory says. -/
theorem C15_security_view (v : View) (hk : v.kind = .view) : securityTryFrom v = .err .unmapped := by
  unfold securityTryFrom
  rw [if_pos (by rw [hk]; decide)]

/-- The remaining error kinds of the security directory, in the order the code tests them. -/
theorem C15_security_errors (v : View) (hk : v.kind = .file) :
    (v.dataDir 4 = none → securityTryFrom v = .err .null) ∧
    (∀ size, v.dataDir 4 = some (0, size) → securityTryFrom v = .err .null) ∧
    (∀ va size, v.dataDir 4 = some (va, size) → va ≠ 0 → (va % 8 ≠ 0 ∨ size % 8 ≠ 0) →
      securityTryFrom v = .err .misaligned) ∧
    (∀ va size, v.dataDir 4 = some (va, size) → va ≠ 0 → va % 8 = 0 → size % 8 = 0 → size ≠ 0 →
      v.b.size < va + size → securityTryFrom v = .err .bounds) := by
  unfold securityTryFrom
  rw [if_neg (by rw [hk]; decide)]
  refine ⟨fun h => by rw [h], fun size h => by rw [h]; simp, fun va size h h0 hm => ?_, fun va size h h0 h1 h2 h3 h4 => ?_⟩
  · rw [h]; simp only; rw [if_neg h0, if_pos hm]
  · obtain ⟨l1, l2⟩ := dataDir_lt h
    rw [h]; simp only
    rw [if_neg h0, if_neg (by omega), if_neg h3]
    unfold cadd64
    rw [if_pos (by omega)]
    simp only
    rw [if_neg (by omega)]

/-- Absent directories, all five: no data-directory slot ⇒ `Null`; RVA 0 ⇒ `Null` (for the two record tables when the
size passes the record-multiple check that comes first, for the certificate table in file views — mapped
views answer `Unmapped` before looking, `C15_security_view`).  A summary: every conjunct is one of
`C15_debug_entries`, `C15_exception_entries`, `C15_tls_lc_absent`, `C15_security_errors`. -/
theorem C15_absent_null (v : View) :
    (v.dataDir 6 = none → debugTryFrom v = .err .null) ∧
    (v.dataDir 3 = none → excTryFrom v = .err .null) ∧
    (v.dataDir 9 = none → tlsTryFrom v = .err .null) ∧
    (v.dataDir 10 = none → lcTryFrom v = .err .null) ∧
    (v.kind = .file → v.dataDir 4 = none → securityTryFrom v = .err .null) ∧
    (∀ size, v.dataDir 6 = some (0, size) → size % 28 = 0 → debugTryFrom v = .err .null) ∧
    (∀ size, v.dataDir 3 = some (0, size) → size % 12 = 0 → excTryFrom v = .err .null) ∧
    (∀ size, v.dataDir 9 = some (0, size) → tlsTryFrom v = .err .null) ∧
    (∀ size, v.dataDir 10 = some (0, size) → lcTryFrom v = .err .null) ∧
    (∀ size, v.kind = .file → v.dataDir 4 = some (0, size) → securityTryFrom v = .err .null) := by
  obtain ⟨t1, t2, l1, l2, _⟩ := C15_tls_lc_absent v
  exact ⟨(C15_debug_entries v).2.1, (C15_exception_entries v).2.1, t1, l1,
    fun hk => (C15_security_errors v hk).1,
    (C15_debug_entries v).2.2.2, (C15_exception_entries v).2.2.2, t2, l2,
    fun size hk => (C15_security_errors v hk).2.1 size⟩

/-! ## C01 / C02 / C03 for every decoder of the module: ANY view, ANY bytes -/

/-- Directory constructors: a value or a typed error; returned references are inside the buffer and aligned
for their type. -/
theorem C15_constructors_safe (v : View) :
    (OkOrErr (debugTryFrom v) ∧ ∀ t, debugTryFrom v = .ok t → RefOK v.img t ∧ t.align = 4) ∧
    (OkOrErr (excTryFrom v) ∧ ∀ t, excTryFrom v = .ok t → RefOK v.img t ∧ t.align = 4) ∧
    (OkOrErr (tlsTryFrom v) ∧ ∀ t, tlsTryFrom v = .ok t → RefOK v.img t ∧ t.len = tlsSize v.fmt ∧ t.align = tlsAlign v.fmt) ∧
    (OkOrErr (lcTryFrom v) ∧ ∀ t, lcTryFrom v = .ok t → RefOK v.img t ∧ t.len = lcSize v.fmt ∧ t.align = lcAlign v.fmt) ∧
    (v.img.base % 4 = 0 → OkOrErr (securityTryFrom v) ∧ ∀ t, securityTryFrom v = .ok t → RefOK v.img t) := by
  rw [debugTryFrom_eq, excTryFrom_eq, tlsTryFrom_eq, lcTryFrom_eq]
  refine ⟨tableTryFrom_safe v 6 28, tableTryFrom_safe v 3 12, ?_, ?_, ?_⟩
  · exact structTryFrom_safe v 9 _ _ (isPow2_tls v.fmt)
  · exact structTryFrom_safe v 10 _ _ (isPow2_lc v.fmt)
  · intro hb
    refine ⟨securityTryFrom_okOrErr v hb, fun t ht => ?_⟩
    obtain ⟨_, va, size, _, ⟨_, _, _, _, w5⟩, rfl⟩ := (securityTryFrom_ok_iff v hb t).1 ht
    exact ⟨w5, Nat.mod_one _⟩

/-- Accessors: a value or a typed error; returned references valid — for ANY directory reference `t`
(even one not produced by the constructors) and any bytes. -/
theorem C15_accessors_safe (v : View) (t : Ref) (i : Nat) :
    (OkOrErr (tlsRawData v t) ∧ ∀ r, tlsRawData v t = .ok r → RefOK v.img r) ∧
    (OkOrErr (tlsSlot v t) ∧ ∀ r, tlsSlot v t = .ok r → RefOK v.img r ∧ r.len = 4 ∧ r.align = 4) ∧
    (OkOrErr (tlsCallbacks v t) ∧ ∀ r, tlsCallbacks v t = .ok r → RefOK v.img r ∧ r.len % v.fmt.ptrSize = 0 ∧ r.align = v.fmt.ptrSize) ∧
    (OkOrErr (lcSecurityCookie v t) ∧ ∀ r, lcSecurityCookie v t = .ok r → RefOK v.img r ∧ r.len = 4 ∧ r.align = 4) ∧
    (OkOrErr (lcSeHandlerTable v t) ∧ ∀ r, lcSeHandlerTable v t = .ok r → RefOK v.img r ∧ r.align = v.fmt.ptrSize) ∧
    (OkOrErr (fnBytes v t i) ∧ ∀ r, fnBytes v t i = .ok r → RefOK v.img r) ∧
    OkOrErr (unwindInfo v t i) ∧
    OkOrErr (dirEntry v (debugEntryOff t i)) := by
  refine ⟨rangeSlice_safe .., derva_safe v _ 4 4 isPow2_4,
    dervaSliceS_safe v _ _ _ 0 (ptrSize_pos v.fmt) (isPow2_ptr v.fmt),
    derva_safe v _ 4 4 isPow2_4, ?_, rangeSlice_safe .., (C15_unwind_info v t i).1, (dirEntry_safe v _).1⟩
  · obtain ⟨h1, h2⟩ := dervaSlice_safe v (.va (lcTableVa v t)) v.fmt.ptrSize v.fmt.ptrSize (lcCount v t) (isPow2_ptr v.fmt)
    exact ⟨h1, fun r hr => ⟨(h2 r hr).1, (h2 r hr).2.2⟩⟩

/-- Every view the crate can construct sits at a dword-aligned address (the hypothesis of the security
theorems): format-specific and format-agnostic constructors, with or without an overridden base. -/
theorem C15_constructed_views_aligned (k : Kind) (img : Img) (v : View) :
    ((∃ f, fromBytes f k img = .ok v) ∨ wrapFromBytes k img = .ok v) →
    ∀ base, (v.setBase base).img.base % 4 = 0 ∧ v.img.base % 4 = 0 := by
  intro h base
  have key : ∀ f, fromBytes f k img = .ok v → v.img.base % 4 = 0 := by
    intro f hf
    obtain ⟨ha, rfl⟩ := (fromBytes_ok_iff f k img v).1 hf
    unfold Accept at ha
    exact ha.2.1
  rcases h with ⟨f, hf⟩ | hw
  · exact ⟨key f hf, key f hf⟩
  · have := wrap_ok_imp k img v hw
    exact ⟨key _ this, key _ this⟩

/-! ## non-vacuity: the whole of each directory on the demo images (offset maps: header of `Lemmas/DirsExamples.lean`) -/

example : fromBytes .pe32 .view ⟨demoBytes, 0⟩ = .ok demoView ∧ fromBytes .pe32 .file ⟨demoBytes, 0⟩ = .ok demoFile ∧
    fromBytes .pe64 .view ⟨demoBytes64, 0⟩ = .ok demoView64 ∧ fromBytes .pe32 .file ⟨demoFileBytes, 0⟩ = .ok demoFile32 :=
  ⟨demo_views_constructed.1, demo_views_constructed.2.1, demo_views_constructed.2.2.1, demo_views_constructed.2.2.2.1⟩

/-- exception directory: three records, sorted (with an empty range in the middle); hits, the exclusive end,
the gap, before the first and after the last; function bytes and unwind codes -/
example :
    excTryFrom demoView = .ok ⟨320, 36, 4⟩ ∧ excCount ⟨320, 36, 4⟩ = 3 ∧
    checkSorted demoBytes ⟨320, 36, 4⟩ = true ∧
    indexOf demoBytes ⟨320, 36, 4⟩ 99 = .notFound 0 ∧
    indexOf demoBytes ⟨320, 36, 4⟩ 100 = .found 0 ∧
    indexOf demoBytes ⟨320, 36, 4⟩ 115 = .found 0 ∧
    indexOf demoBytes ⟨320, 36, 4⟩ 116 = .notFound 2 ∧
    indexOf demoBytes ⟨320, 36, 4⟩ 120 = .notFound 2 ∧
    indexOf demoBytes ⟨320, 36, 4⟩ 132 = .found 2 ∧
    indexOf demoBytes ⟨320, 36, 4⟩ 148 = .notFound 3 ∧
    lookupFunctionEntry demoBytes ⟨320, 36, 4⟩ 147 = .ok (some ⟨344, 12, 4⟩) ∧
    fnBytes demoView ⟨320, 36, 4⟩ 0 = .ok ⟨100, 16, 1⟩ ∧
    unwindInfo demoView ⟨320, 36, 4⟩ 0 = .ok ⟨312, 4, 1⟩ ∧
    unwindCodes demoView ⟨312, 4, 1⟩ = .ok ⟨316, 2, 1⟩ := by
  -- one evaluation; `lookup_function_entry` is the record of the hit that `index_of` reports
  suffices h : (_ ∧ _ ∧ _ ∧ _ ∧ _ ∧ _ ∧ _ ∧ _ ∧ _ ∧ _) ∧ indexOf demoBytes ⟨320, 36, 4⟩ 147 = .found 2 ∧ _ from
    let ⟨⟨a1, a2, a3, a4, a5, a6, a7, a8, a9, a10⟩, a11, a12⟩ := h
    ⟨a1, a2, a3, a4, a5, a6, a7, a8, a9, a10, ((C15_lookup_function_entry _ _ 147).1 2 a11).1, a12⟩
  simp only [excTryFrom_eq, tableTryFrom_bind, View.dataDir_toNat, hdr_toNat, checkSorted, indexOf_eq,
    rfCmp, fnBytes, unwindInfo_eq, unwindCodes, rfBegin, rfEnd, rfUnwind, rfOff, byteAt_toNat, le32_toNat]
  decide +kernel

/-- debug directory: two entries; the first a CodeView RSDS record satisfying `IsRSDS`, the second POGO data
satisfying `PogoLayout` with two records -/
example :
    debugTryFrom demoView = .ok ⟨428, 56, 4⟩ ∧ debugCount ⟨428, 56, 4⟩ = 2 ∧
    dirData demoView 428 = some ⟨356, 30, 1⟩ ∧
    dirEntry demoView 428 = .ok (.codeView (.cv70 ⟨356, 24, 4⟩ ⟨380, 6, 1⟩)) ∧
    (CodeView.cv70 ⟨356, 24, 4⟩ ⟨380, 6, 1⟩).age demoBytes = 7 ∧
    pdbFileName demoView ⟨428, 56, 4⟩ = some ⟨380, 6, 1⟩ ∧
    dirEntry demoView 456 = .ok (.pgo ⟨388, 40, 4⟩) ∧
    pgoItems demoBytes ⟨388, 40, 4⟩ = .ok [⟨4096, 16, ⟨400, 6, 1⟩⟩, ⟨8192, 32, ⟨416, 10, 1⟩⟩] := by
  have s := demo_sheet
  have he : dirEntry demoView 428 = .ok (.codeView (.cv70 ⟨356, 24, 4⟩ ⟨380, 6, 1⟩)) := by
    rw [(C15_debug_entry_dispatch demoView 428).1 s.type428, demo_codeView]; rfl
  have hp := C15_debug_entry_pogo_records demoView 456 ⟨388, 40, 1⟩ _ 428 s.type456 s.data456
    (by decide) (by decide) demo_pogoLayout (by decide) (by decide)
  exact ⟨((C15_debug_entries _).1 _).2 ⟨_, _, s.dir6, by decide, _, View.at_rva_view rfl s.size 428 56 4 (by decide), rfl⟩,
    rfl, s.data428, he, by simp only [CodeView.age, cv70OffAge, le32_toNat]; decide +kernel,
    pdbFileName_of_first (t := ⟨428, 56, 4⟩) (by decide) he, hp.1, hp.2.1⟩

example : Spec.IsRSDS demoBytes 356 30 5 := demo_isRSDS

example : Spec.PogoLayout demoBytes 392 [(4096, 16, 5), (8192, 32, 9)] 428 := demo_pogoLayout

/-- TLS, load config (mapped view) and the certificate table (file view only) -/
example :
    tlsTryFrom demoView = .ok ⟨504, 24, 4⟩ ∧
    tlsRawData demoView ⟨504, 24, 4⟩ = .ok ⟨484, 4, 1⟩ ∧
    tlsSlot demoView ⟨504, 24, 4⟩ = .ok ⟨488, 4, 4⟩ ∧
    tlsCallbacks demoView ⟨504, 24, 4⟩ = .ok ⟨492, 8, 4⟩ ∧
    Spec.vaListUntilZero demoBytes 492 4 31 = some [0x400064, 0x400084] ∧
    lcTryFrom demoView = .ok ⟨528, 72, 4⟩ ∧
    lcSecurityCookie demoView ⟨528, 72, 4⟩ = .ok ⟨488, 4, 4⟩ ∧
    lcSeHandlerTable demoView ⟨528, 72, 4⟩ = .ok ⟨492, 8, 4⟩ ∧
    securityTryFrom demoView = .err .unmapped ∧
    securityTryFrom demoFile = .ok ⟨600, 16, 1⟩ ∧
    Spec.CertWellFormed demoBytes.size 600 16 ∧
    secCertType demoFile ⟨600, 16, 1⟩ = .ok 2 ∧
    Spec.SingleCert demoBytes 600 16 ∧
    secCertData demoFile ⟨600, 16, 1⟩ = .ok ⟨608, 8, 1⟩ := by
  suffices h : _ ∧ _ ∧ _ ∧ _ ∧ _ ∧ _ ∧ _ from
    let ⟨a1, a2, a3, a4, a5, a6, a7⟩ := h
    ⟨a1, a2, a3, tlsCallbacks_of_list demo_callbacks.1 demo_callbacks.2, demo_callbacks.2, a4, a5, a6,
      C15_security_view _ rfl, a7⟩
  simp only [tlsTryFrom_eq, lcTryFrom_eq, structTryFrom_bind, View.dataDir_toNat, hdr_toNat, tlsRawData, tlsSlot,
    tlsStart, tlsEnd, tlsIndex, lcSecurityCookie, lcSeHandlerTable, lcCookieVa, lcTableVa, lcCount, ptrAt,
    securityTryFrom, secCertType, secCertData, Spec.SingleCert, Spec.certLength, le16_toNat, le32_toNat, leN_toNat]
  decide +kernel

/-- The hypothesis `dwLength = Size` of `C15_security_file` is needed: for a stored certificate of 12 bytes
(4 data bytes) padded to a 16-byte directory, `certificate_data` returns 8 bytes — the 4 stored bytes plus
the padding (`C15_security_data_partial` is what holds in general). -/
theorem C15_security_data_ignores_dwLength :
    let v : View := ⟨⟨demoBytes.set! 600 12, 0⟩, .pe32, .file, 0x400000⟩
    securityTryFrom v = .ok ⟨600, 16, 1⟩ ∧ Spec.certLength v.b 600 = 12 ∧
    secCertData v ⟨600, 16, 1⟩ = .ok ⟨608, 8, 1⟩ ∧ Spec.certBytes v.b 600 = ⟨608, 4, 1⟩ := by
  simp only [securityTryFrom, View.dataDir_toNat, hdr_toNat, secCertData, Spec.certBytes,
    Spec.certLength, le32_toNat]
  decide +kernel

end Pelite.Dirs
