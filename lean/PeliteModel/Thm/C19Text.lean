import PeliteModel.Lemmas.JsonDirs
import PeliteModel.Lemmas.DirsExamples
/-!
C19 — "the JSON rendering is well formed", stated against the grammar of RFC 8259 itself
(`Spec/JsonText.lean`, written from the RFC, imports nothing of the project) instead of the project's
own reader `Json.parse` (`C19_json_wellformed`, Thm/C19Json.lean, which adds that nothing is lost).  `Json.print` is the
model of what `serde_json::to_string` writes, compared byte for byte with the real output by the `jsontext` operations.
-/
namespace Pelite.Pe
open Pelite Pelite.Json Pelite.Spec

/-- **Every text the serializer's printer produces is a JSON text of RFC 8259** — for every value tree,
the grammar being the RFC's own (`Spec/JsonText.lean`), not the project's reader. -/
theorem C19_json_text (j : Json) : JsonText j.print :=
  value_jsonText (print_value j)

/-- … and for a tree of byte strings (what a `Serialize` implementation can describe: `&str`, `&[u8]`
keys and strings) the text is a byte string, hence inside the alphabet bound the RFC's `unescaped` names. -/
theorem C19_json_text_rfc (j : Json) (hb : j.BytesOK) : JsonTextRFC j.print ∧ ∀ c ∈ j.print, c < 256 := by
  have hlt := print_lt j hb
  exact ⟨⟨C19_json_text j, fun c hc => by have := hlt c hc; omega⟩, hlt⟩

-- the hypothesis is satisfiable on a tree with a nested object, an escape, a control character and a byte ≥ 0x80
example : (Json.obj [(Json.asc "k\"", .arr [.num 0, .num 1203, .str [0x41, 0x0A, 0x1F, 0xC3, 0xA9], .null, .bool true, .obj []])]).BytesOK := by
  simp [Json.BytesOK, Json.BytesOKElems, Json.BytesOKMembers, Json.asc]

/-- … instantiated at the document `serialize_pe` produces for any view (PE32 / PE32+, file / mapped) -/
theorem C19_json_text_document (v : View) (p : PeJson) (_h : v.serializePe = .ok p) :
    JsonText p.toJson.print :=
  C19_json_text _

-- the hypothesis holds on PE32 and PE32+ images, opened as mapped views and as files (Lemmas/DirsExamples.lean)
def demoFile64 : View := ⟨⟨Dirs.demoBytes64, 0⟩, .pe64, .file, 0x140000000⟩
example : Dirs.demoView.serializePe.toOption.isSome = true ∧ Dirs.demoFile32.serializePe.toOption.isSome = true ∧
    Dirs.demoView64.serializePe.toOption.isSome = true ∧ demoFile64.serializePe.toOption.isSome = true := by
  have ret {v : View} (hb : v.img.base % 4 = 0) (hsz : v.img.bytes.size < 4294967296) :
      v.serializePe.toOption.isSome = true := by
    obtain ⟨j, hj⟩ := serializePe_total v hb hsz
    rw [hj]; rfl
  exact ⟨ret rfl (by decide +kernel), ret rfl (by decide +kernel), ret rfl (by decide +kernel),
    ret rfl (by decide +kernel)⟩

/-- **The grammar refuses**: the empty text, a text starting with `]`, `}`, `,`, `:` or any other character
that cannot start a value (so `C19_json_text` is not true of arbitrary printers). -/
theorem C19_json_text_rejects :
    ¬ JsonText [] ∧ ¬ JsonText [0x5D] ∧ ¬ JsonText [0x2C, 0x31] ∧ ¬ JsonText [0x7D, 0x7B] ∧
    ¬ JsonText [0x3A] ∧ ¬ JsonText [0x2B, 0x31] ∧ ¬ JsonText [0x2E, 0x35] ∧ ¬ JsonText [0x27, 0x61, 0x27] := by
  refine ⟨?_, ?_, ?_, ?_, ?_, ?_, ?_, ?_⟩ <;> intro h <;> obtain ⟨x, r, hx, hs⟩ := jsonText_head h <;>
    cases hx <;> (unfold ValueStart JsonText.IsWs JsonText.IsDigit at hs; omega)

end Pelite.Pe
