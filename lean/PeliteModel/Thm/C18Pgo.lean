import PeliteModel.Lemmas.Dirs
import PeliteModel.Lemmas.IterSeq
/-!
C18 (POGO records) — `PgoIter` behaves as the plain front-to-back sequence of its items.

`PgoIter` (src/wrap/debug.rs; `Iterator + Clone`) implements `Iterator::next` only: `nth`, `count`, `size_hint`
are the provided methods of `core` (`nth` and `count` loops over `next`, `size_hint` the constant `(0, None)`); there
is no `next_back`, no `len`; `clone` copies the state (a `&[u32]`).  `pgoNext` (Model/Dirs.lean) is ONE call of `next`;
`pgoItemsFrom b st` the sequence of items a `for` loop over the iterator in state `st` yields (`pgoItems` = the same
from `Pgo::iter()`); it always is `.ok (pgoList b st)`, the unfold of the pure step `pgoStep` behind `next`
(`pgoItemsFrom_eq`, Lemmas/Dirs.lean), and the proofs below exhibit that list.
`b` ranges over ALL byte buffers, `st` over ALL states (offset, number of words).
-/
namespace Pelite.Dirs
open Pelite Pelite.Pe

/-- `k` successive calls of `next` on an iterator in state `st`: the answers in call order and the final state -/
def pgoCalls (b : Bytes) : Nat → Nat × Nat → Out (List (Option PgoItem) × (Nat × Nat))
  | 0, st => .ok ([], st)
  | k+1, st => pgoNext b st >>= fun r => pgoCalls b k r.2 >>= fun rs => .ok (r.1 :: rs.1, rs.2)

/-- `Pgo::iter()` / `into_iter()` start the iterator behind the signature word. -/
theorem C18_pgo_iter_start (b : Bytes) (image : Ref) :
    pgoItems b image = pgoItemsFrom b (pgoIterStart image) := rfl

/-- One call of `next`, in ANY state: it never panics, answers the head of the sequence of remaining items
(`None` iff that sequence is empty) and leaves the iterator in a state whose remaining items are the tail. -/
theorem C18_pgo_next_is_head (b : Bytes) (st : Nat × Nat) :
    ∃ l r, pgoItemsFrom b st = .ok l ∧ pgoNext b st = .ok r ∧ r.1 = l.head? ∧ pgoItemsFrom b r.2 = .ok l.tail :=
  ⟨_, _, pgoItemsFrom_eq b st, pgoNext_eq b st, (pgoStep_head b st).1, by rw [pgoItemsFrom_eq, (pgoStep_head b st).2]⟩

/-- Fused: a `None` does not move the iterator, so every later call answers `None` again. -/
theorem C18_pgo_fused (b : Bytes) (st st' : Nat × Nat) (h : pgoNext b st = .ok (none, st')) :
    st' = st ∧ pgoNext b st' = .ok (none, st') ∧
    ∀ k, pgoCalls b k st' = .ok (List.replicate k none, st') := by
  obtain ⟨rfl, -⟩ := pgoNext_none h
  refine ⟨rfl, h, fun k => ?_⟩
  induction k with
  | zero => rfl
  | succ k ih =>
    rw [pgoCalls, h]
    simp only [Out.bind_ok]
    rw [ih]
    rfl

theorem pgoCalls_eq (b : Bytes) : ∀ (k : Nat) (st : Nat × Nat),
    ∃ st', pgoCalls b k st = .ok ((List.range k).map (fun i => (pgoList b st)[i]?), st') ∧
      pgoList b st' = (pgoList b st).drop k
  | 0, st => ⟨st, rfl, rfl⟩
  | k + 1, st => by
    obtain ⟨hh, ht⟩ := pgoStep_head b st
    obtain ⟨st', h1, h2⟩ := pgoCalls_eq b k (pgoStep b st).2
    refine ⟨st', ?_, by rw [h2, ht, List.drop_tail]⟩
    rw [pgoCalls, pgoNext_eq]
    simp only [Out.bind_ok]
    rw [h1, hh, ht, List.range_succ_eq_map, List.map_cons, List.map_map]
    cases pgoList b st <;> simp [Function.comp_def]

/-- Every call history: `k` calls of `next` from ANY state answer the first `k` positions of the sequence
of items (`None` past its end — in particular all `None` once exhausted) and leave the iterator on the rest.
With `C18_pgo_iter_start`: the iterator handed out by `Pgo::iter()` is the front-to-back sequence `pgoItems`. -/
theorem C18_pgo_history (b : Bytes) (k : Nat) (st : Nat × Nat) :
    ∃ l st', pgoItemsFrom b st = .ok l ∧
      pgoCalls b k st = .ok ((List.range k).map (fun i => l[i]?), st') ∧
      pgoItemsFrom b st' = .ok (l.drop k) := by
  obtain ⟨st', h1, h2⟩ := pgoCalls_eq b k st
  exact ⟨_, st', pgoItemsFrom_eq b st, h1, by rw [pgoItemsFrom_eq, h2]⟩

/-- The number of items is bounded by the window (`count`, `size_hint` terminate): every item takes at least
three words. -/
theorem C18_pgo_count_le (b : Bytes) (st : Nat × Nat) :
    ∃ l, pgoItemsFrom b st = .ok l ∧ 3 * l.length ≤ st.2 :=
  ⟨_, pgoItemsFrom_eq b st, (pgoList_bounds b st).1⟩

/-! ### every call `PgoIter` offers: next, nth k, size_hint, count, clone

`pgoStepOp` / `pgoRunOps` (Spec/Dirs.lean) run a history on the model's iterator object — `pgoNext` and the provided
methods `pgoNth`, `pgoCount`, `pgoSizeHint` over it (Model/Dirs.lean) —, `Seq.runSeq` (Lemmas/IterSeq.lean) the same
history on a plain list.  The op `pogo_hist` runs the same histories on the real `PgoIter`. -/
open Pelite.Seq

/-- ONE call of any kind, in any state: the answer and the items left are those of the same call on the list of
the remaining items. -/
theorem C18_pgo_step_is_seq (b : Bytes) (st : Nat × Nat) (l : List PgoItem) (hl : pgoItemsFrom b st = .ok l) (o : Op) :
    ∃ st', pgoStepOp b st o = .ok ((stepSeq Hint.unknown l o).1, st') ∧
      pgoItemsFrom b st' = .ok (stepSeq Hint.unknown l o).2 := by
  obtain rfl : pgoList b st = l := by rw [pgoItemsFrom_eq] at hl; exact Out.ok.inj hl
  simp only [pgoItemsFrom_eq, Out.ok.injEq]
  cases o with
  | next => exact ⟨_, by simp only [pgoStepOp, pgoNext_eq, Out.bind_ok, stepSeq, DequeSpec.next, (pgoStep_head b st).1],
      (pgoStep_head b st).2⟩
  | nth n =>
    obtain ⟨st', h1, h2⟩ := pgoNth_eq b n st
    exact ⟨st', by simp only [pgoStepOp, h1, Out.bind_ok, stepSeq, DequeSpec.nth], h2⟩
  | sizeHint => exact ⟨st, rfl, rfl⟩
  | count => exact ⟨st, by simp only [pgoStepOp, pgoCount_eq, Out.bind_ok, stepSeq], rfl⟩
  | clone => exact ⟨st, by simp only [pgoStepOp, pgoItemsFrom_eq, Out.bind_ok, stepSeq], rfl⟩

/-- **`PgoIter` is a faithful sequence.**  For ALL bytes, every iterator state and every finite history over
{next, nth k, size_hint, count, clone} — all the calls a `PgoIter` offers — the model of the iterator object
never panics and answers exactly like the same calls on the plain list of its remaining items. -/
theorem C18_pgo_is_seq (b : Bytes) (ops : List Op) (st : Nat × Nat) :
    ∃ l, pgoItemsFrom b st = .ok l ∧ pgoRunOps b st ops = .ok (runSeq Hint.unknown l ops) := by
  refine ⟨_, pgoItemsFrom_eq b st, ?_⟩
  induction ops generalizing st with
  | nil => rfl
  | cons o os ih =>
    obtain ⟨st', h1, h2⟩ := C18_pgo_step_is_seq b st _ (pgoItemsFrom_eq b st) o
    rw [pgoItemsFrom_eq] at h2
    rw [pgoRunOps, h1]
    simp only [Out.bind_ok]
    rw [ih st', Out.ok.inj h2]
    rfl

/-- … in particular for the iterator `Pgo::iter()` hands out, on the items `pgoItems` (what C15 decodes). -/
theorem C18_pgo_iter_is_seq (b : Bytes) (image : Ref) (ops : List Op) :
    ∃ l, pgoItems b image = .ok l ∧ pgoRunOps b (pgoIterStart image) ops = .ok (runSeq Hint.unknown l ops) :=
  C18_pgo_is_seq b ops (pgoIterStart image)

/-- The size hint is the provided `(0, None)`: sound, and nothing more is asked of an iterator that is not
exact-size. -/
theorem C18_pgo_hint_sound : Seq.Hint.Sound Seq.Hint.unknown ∧
    ∀ b st l, pgoItemsFrom b st = .ok l → pgoSizeHint st = Seq.Hint.unknown l.length :=
  ⟨Seq.Hint.unknown_sound, fun _ _ _ _ => rfl⟩

/-- Fused, for histories: once `next` has answered `None`, every later call of every kind sees the empty
sequence. -/
theorem C18_pgo_fused_history (b : Bytes) (st st' : Nat × Nat) (h : pgoNext b st = .ok (none, st')) (ops : List Op) :
    ∃ rs, pgoRunOps b st' ops = .ok rs ∧
      ∀ r ∈ rs, r = .item none ∨ r = .num 0 ∨ r = .hint 0 none ∨ r = .list [] := by
  obtain ⟨rfl, hnil⟩ := pgoNext_none h
  obtain ⟨l, g1, g2⟩ := C18_pgo_is_seq b ops st'
  rw [pgoItemsFrom_eq] at g1
  rw [← Out.ok.inj g1, hnil] at g2
  exact ⟨_, g2, runSeq_nil_fused Hint.unknown ops⟩

/-! ### non-vacuity: the POGO data of the C15 demo image ("LTCG", then (0x1000, 16, ".text"), (0x2000, 32, ".rdata$zz")) -/

def demoPogo : Bytes := #[
    76, 84, 67, 71, 0, 16, 0, 0, 16, 0, 0, 0, 46, 116, 101, 120, 116, 0, 0, 0, 0, 32, 0, 0, 32, 0, 0, 0,
    46, 114, 100, 97, 116, 97, 36, 122, 122, 0, 0, 0]

/-- two items; four calls of `next` answer them and then `None` twice; the state after the second call is
the empty window at the end of the data -/
example :
    pgoIterStart ⟨0, 40, 4⟩ = (4, 9) ∧
    pgoItems demoPogo ⟨0, 40, 4⟩ = .ok [⟨4096, 16, ⟨12, 6, 1⟩⟩, ⟨8192, 32, ⟨28, 10, 1⟩⟩] ∧
    pgoNext demoPogo (4, 9) = .ok (some ⟨4096, 16, ⟨12, 6, 1⟩⟩, (20, 5)) ∧
    pgoItemsFrom demoPogo (20, 5) = .ok [⟨8192, 32, ⟨28, 10, 1⟩⟩] ∧
    pgoCalls demoPogo 4 (4, 9) =
      .ok ([some ⟨4096, 16, ⟨12, 6, 1⟩⟩, some ⟨8192, 32, ⟨28, 10, 1⟩⟩, none, none], (40, 0)) := by
  decide +kernel

/-- a history over every kind of call -/
example :
    pgoRunOps demoPogo (4, 9) [.sizeHint, .count, .nth 1, .count, .next, .clone, .nth 0] =
      .ok [.hint 0 none, .num 2, .item (some ⟨8192, 32, ⟨28, 10, 1⟩⟩), .num 0, .item none, .list [], .item none] ∧
    pgoRunOps demoPogo (4, 9) [.clone, .next, .nth 5, .next] =
      .ok [.list [⟨4096, 16, ⟨12, 6, 1⟩⟩, ⟨8192, 32, ⟨28, 10, 1⟩⟩], .item (some ⟨4096, 16, ⟨12, 6, 1⟩⟩), .item none,
        .item none] := by
  decide +kernel

/-- a name without terminator inside the data (the last record cut after "zz"): `next` answers `None`
WITHOUT consuming the record (`?` before the reslice) and keeps doing so -/
example :
    pgoItems demoPogo ⟨0, 36, 4⟩ = .ok [⟨4096, 16, ⟨12, 6, 1⟩⟩] ∧
    pgoNext demoPogo (20, 4) = .ok (none, (20, 4)) ∧
    pgoCalls demoPogo 3 (4, 8) = .ok ([some ⟨4096, 16, ⟨12, 6, 1⟩⟩, none, none], (20, 4)) := by
  decide +kernel

end Pelite.Dirs
