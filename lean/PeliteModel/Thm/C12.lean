import PeliteModel.Lemmas.ResIco
import PeliteModel.Lemmas.ResFindLocal
import PeliteModel.Lemmas.ResFsck
import PeliteModel.Lemmas.ResSink
import PeliteModel.Lemmas.ResPrint
import PeliteModel.Lemmas.ResView
/-!
C12 — resource tree traversal, lookup and reassembly reflect the stored directory.

The model is Model/{Resources,ResFind,ResGroup}.lean, the specification (abstract tree, layout relation `IsNode`,
reference writer, documented name matching, `.ico` files) is Spec/Resources.lean.

Throughout, `Aligned r` says that the section starts at a multiple of 4, which is what
`Pe::resources` establishes (`C12_resources_aligned`).  `Safe o` = the operation neither panics nor
dereferences outside the section / misaligned nor runs out of fuel; `IsVal o` = it returns a Rust value.
-/
namespace Pelite.Resources
open Pelite

/-! ## 1. Arbitrary section bytes: no ub, no panic, references in bounds, bounded work -/

/-- `Pe::resources` hands `Resources::new` a section that lies inside the image buffer, starts at a
4-aligned address, is clamped to the directory `Size`, and carries the directory RVA. -/
theorem C12_resources_aligned (v : Pe.View) (r : Resources) (secOff : Nat) (h : ofView v = .ok (r, secOff)) :
    Aligned r ∧ secOff + r.sec.size ≤ v.img.bytes.size ∧ r.base = v.img.base + secOff ∧
    ∃ va size, v.dataDir 2 = some (va, size) ∧ r.dirVA = va ∧ r.sec.size ≤ size ∧
      r.sec = v.b.extract secOff (secOff + r.sec.size) :=
  ofView_ok h

/-- C02 / C03 (termination) for everything in `resources/mod.rs` and `art.rs`, for arbitrary section
bytes: root, the consistency checks and both `Display` implementations end in a value or an error. -/
theorem C12_safe_traversal (r : Resources) (hb : Aligned r) :
    Safe (root r) ∧ Safe (fsck r) ∧ Safe (display r) ∧
    (∀ off, Safe (dirTryFrom r off) ∧ Safe (dataTryFrom r off)) ∧
    (∀ d, DirOK r d → Safe (d.entries r) ∧ Safe (d.fsck r) ∧ Safe (d.display r)) ∧
    (∀ e : DirEntry, Safe (e.getName r) ∧ Safe (e.entry r) ∧ Safe (e.fsck r)) ∧
    (∀ de : DataEntry, Safe (de.bytes r) ∧ Safe (de.fsck r)) :=
  ⟨safe_root hb, safe_fsck hb, safe_display hb,
   fun off => ⟨safe_dirTryFrom hb off, safe_dataTryFrom hb off⟩,
   fun _ hd => ⟨safe_entries hb hd, safe_dirFsck hb hd, safe_dirDisplay hb hd⟩,
   fun e => ⟨safe_getName hb e, safe_entry hb e, safe_entryFsck hb e⟩,
   fun de => ⟨safe_bytes r de, safe_dataFsck r de⟩⟩

/-- every directory the code hands out satisfies the invariant `DirOK` the unchecked accesses rely on -/
theorem C12_dir_invariant (r : Resources) (hb : Aligned r) :
    (∀ off d, dirTryFrom r off = .ok d → DirOK r d ∧ d.off = off) ∧
    (∀ (e : DirEntry) d, e.entry r = .ok (.dir d) → DirOK r d) :=
  ⟨fun off d h => ⟨(dirTryFrom_ok hb h).1, by rw [(dirTryFrom_ok hb h).2]⟩,
   fun _ _ h => (entry_dir_ok hb h).1⟩

/-- C02 for the find API (`find.rs`), for arbitrary section bytes and arbitrary paths / names: every
lookup returns a Rust `Result` (possibly `Err(FindError)`), never panics, never reads outside. -/
theorem C12_safe_find (r : Resources) (hb : Aligned r) :
    (∀ p, IsVal (find r p) ∧ IsVal (findData r p) ∧ IsVal (findDir r p)) ∧
    (∀ d, DirOK r d → ∀ q, IsVal (d.get r q) ∧ IsVal (d.getData r q) ∧ IsVal (d.getDir r q)) ∧
    (∀ d, DirOK r d → IsVal (d.first r) ∧ IsVal (d.firstData r) ∧ IsVal (d.firstDir r)) ∧
    (∀ d, DirOK r d → ∀ p, IsVal (d.find r p)) ∧
    (∀ t n, IsVal (findResource r t n) ∧ IsVal (findResources r t n)) ∧
    (∀ t n l, IsVal (findResourceEx r t n l)) ∧
    IsVal (manifest r) ∧ IsVal (versionBytes r) ∧ IsVal (versionInfo r) :=
  ⟨fun p => ⟨isVal_find hb p, isVal_findData hb p, isVal_findDir hb p⟩,
   fun _ hd q => ⟨isVal_get hb hd q, isVal_getData hb hd q, (valP_getDir hb hd q).1⟩,
   fun _ hd => ⟨(valP_first hb hd).1, isVal_firstData hb hd, (valP_firstDir hb hd).1⟩,
   fun _ hd p => isVal_dirFind hb hd p,
   fun t n => ⟨isVal_findResource hb t n, (valP_findResources hb t n).1⟩,
   fun t n l => isVal_findResourceEx hb t n l,
   isVal_manifest hb, isVal_versionBytes hb, isVal_versionInfo hb⟩

/-- C02 for `group.rs` and `icons()` / `cursors()`: the iterators always yield a list of results;
every group they hold satisfies the invariant of `GroupResource::new`; on such a group `entries`,
`ty`, `image` and `write` (into a vector) cannot fail other than by a `FindError` value. -/
theorem C12_safe_groups (r : Resources) (hb : Aligned r) :
    (∀ ty, ∃ items, groups r ty = .ok items ∧ ∀ it ∈ items, ItemOK r it) ∧
    (∀ bytes : Ref, bytes.off + bytes.len ≤ r.sec.size → Safe (groupNew r bytes) ∧
      ∀ g, groupNew r bytes = .ok g → GroupOK r g) ∧
    (∀ g, GroupOK r g →
      g.entries r = .ok (groupEntriesFrom r (g.off + 6) g.count) ∧
      (∃ t, g.typeId = .ok t ∧ (t = RT_ICON ∨ t = RT_CURSOR)) ∧
      (∀ id, IsVal (g.image r id)) ∧ ∃ out, g.write r = .ok out) :=
  ⟨fun ty => groups_ok hb ty,
   fun _ hbnd => ⟨safe_groupNew hbnd, fun _ h => (groupNew_ok hbnd h).1⟩,
   fun _ hg => ⟨groupEntries_eq hg, typeId_ok hg, fun id => isVal_image hb hg id, write_ok hb hg⟩⟩

/-- Why the alignment hypothesis: `Resources::new` is public and takes any slice, but the accessors
check the alignment of *offsets* only.  A zeroed 16-byte section at an odd address is dereferenced
as `&IMAGE_RESOURCE_DIRECTORY` — undefined behaviour (not reachable through `Pe::resources`). -/
theorem C12_unaligned_section_is_ub_partial :
    (root ⟨Array.replicate 16 0, 0, 1⟩).isUb = true ∧ root ⟨Array.replicate 16 0, 0, 4⟩ = .ok ⟨0, 0, 0⟩ := by
  decide

/-- C01: every reference handed back — directory headers, entry records, name words, data entry
headers and data bytes — lies inside the section and is aligned for its type. -/
theorem C12_refs_ok (r : Resources) (hb : Aligned r) :
    (∀ d, DirOK r d → RefOK r.img d.ref ∧ ∀ e ∈ entriesFrom r (d.off + 16) (d.named + d.ids), RefOK r.img e.ref) ∧
    (∀ (e : DirEntry) w, e.nameRef r = .ok (some w) → RefOK r.img w ∧ w.align = 2) ∧
    (∀ off de, dataTryFrom r off = .ok de → RefOK r.img de.ref) ∧
    (∀ (de : DataEntry) ref, de.bytes r = .ok ref → RefOK r.img ref) :=
  ⟨fun d hd => ⟨dirRef_ok hb hd, fun e he => entryRef_ok hb hd he⟩, fun e w h => nameRef_ok hb h,
    fun _ _ h => dataRef_ok hb h, fun _ _ h => bytesRef_ok h⟩

/-- C03, printer: the text of `Display for Resources` is `"Resources/\n"` followed by one record per
entry drawn, and at most `(len / 16) * (len / 8)` entries are drawn — whatever the bytes are (in
particular for directories that contain themselves or share children). -/
theorem C12_display_work (r : Resources) (hb : Aligned r) (text : List Nat) (h : display r = .ok text) :
    (∃ e, root r = .err e ∧ text = asc "Resources/\n" ++ errText e) ∨
    ∃ records : List (List Nat), text = asc "Resources/\n" ++ records.flatten ∧
      records.length ≤ (r.sec.size / 16) * (r.sec.size / 8) :=
  display_work hb h

/-- C03, fsck: the instrumented twin `fsckDirW` returns exactly the model's result, never has more
budget left than it was given, and examines at most `len / 8` directory entries per unit of budget
it consumed; with the initial budget `len / 16` that is at most `(len / 16) * (len / 8)` entries. -/
theorem C12_fsck_work (r : Resources) (hb : Aligned r) (d : Dir) (hd : DirOK r d) :
    (fsckDirW r FSCK_MAX_DEPTH d (fsckBudget r)).1 = fsckDir r FSCK_MAX_DEPTH d (fsckBudget r) ∧
    (fsckDirW r FSCK_MAX_DEPTH d (fsckBudget r)).2.2 ≤ (r.sec.size / 16) * (r.sec.size / 8) := by
  obtain ⟨_, _, _, hw, _, h2⟩ := fsckDirW_twin hb FSCK_MAX_DEPTH d (fsckBudget r) hd
  rw [hw]
  exact ⟨rfl, h2.total⟩

/-! ## 2. One level of traversal -/

/-- `entries()` is the stored array: `NumberOfNamedEntries + NumberOfIdEntries` records of 8 bytes
right after the 16-byte header, in stored order, and it is `named_entries()` followed by `id_entries()`. -/
theorem C12_entries (r : Resources) (hb : Aligned r) (d : Dir) (hd : DirOK r d) :
    ∃ all named ids, d.entries r = .ok all ∧ d.namedEntries r = .ok named ∧ d.idEntries r = .ok ids ∧
      all = named ++ ids ∧ named.length = d.named ∧ ids.length = d.ids ∧
      d.named = le16 r.sec (d.off + 12) ∧ d.ids = le16 r.sec (d.off + 14) ∧
      ∀ i, i < d.named + d.ids →
        all[i]? = some ⟨d.off + 16 + 8 * i, le32 r.sec (d.off + 16 + 8 * i), le32 r.sec (d.off + 16 + 8 * i + 4)⟩ :=
  ⟨_, _, _, entries_eq hb hd, namedEntries_eq hb hd, idEntries_eq hb hd, entriesFrom_append r _ _ _,
   entriesFrom_length r _ _, entriesFrom_length r _ _, hd.2.2.1, hd.2.2.2,
   fun i hi => entriesFrom_get r _ _ i hi⟩

/-- `name()`: an id when the high bit of the Name field is clear; otherwise the length-prefixed
UTF-16 string at the offset in the low 31 bits, `Misaligned` for an odd offset and `Bounds` when the
length word or the words do not fit. -/
theorem C12_name (r : Resources) (hb : Aligned r) (e : DirEntry) :
    e.getName r =
      if e.name < 0x80000000 then .ok (.id e.name)
      else if (e.name % 0x80000000) % 2 ≠ 0 then .err .misaligned
      else if e.name % 0x80000000 + 2 > r.sec.size then .err .bounds
      else if e.name % 0x80000000 + 2 + le16 r.sec (e.name % 0x80000000) * 2 > r.sec.size then .err .bounds
      else .ok (.wide (wordsAt r.sec (e.name % 0x80000000 + 2) (le16 r.sec (e.name % 0x80000000)))) :=
  getName_eq hb e

/-- `entry()`: the high bit of the Offset field selects a sub-directory (validated at the offset in
the low 31 bits) or a data entry (at the offset itself); `is_dir()` is that bit. -/
theorem C12_entry_target (r : Resources) (hb : Aligned r) (e : DirEntry) :
    (e.isDir = true ↔ e.offset ≥ 0x80000000) ∧
    (∀ d, e.entry r = .ok (.dir d) → e.offset ≥ 0x80000000 ∧ d.off = e.offset % 0x80000000 ∧
      dirTryFrom r (e.offset % 0x80000000) = .ok d) ∧
    (∀ de, e.entry r = .ok (.data de) → e.offset < 0x80000000 ∧ de.off = e.offset ∧
      de = ⟨e.offset, le32 r.sec e.offset, le32 r.sec (e.offset + 4), le32 r.sec (e.offset + 8)⟩) := by
  refine ⟨by simp [DirEntry.isDir], fun d h => ?_, fun de h => ?_⟩
  · rcases entry_eq_ok.1 h with ⟨hge, d', hd, he⟩ | ⟨_, _, _, he⟩ <;> cases he
    exact ⟨hge, by rw [(dirTryFrom_ok hb hd).2], hd⟩
  · obtain ⟨h1, h2⟩ := entry_data_ok h
    obtain ⟨_, _, rfl⟩ := dataTryFrom_ok hb h2
    exact ⟨h1, rfl, rfl⟩

/-- `bytes()`: exactly `Size` bytes at `OffsetToData - directory RVA`; `Overflow` when the
subtraction or the addition leaves `u32`, `Bounds` when the range is not inside the section.
`size()` and `code_page()` are the stored fields. -/
theorem C12_data_bytes (r : Resources) (de : DataEntry) :
    de.bytes r =
      (if de.offsetToData < r.dirVA then .err .overflow
       else if de.offsetToData - r.dirVA + de.size ≥ 4294967296 then .err .overflow
       else if de.offsetToData - r.dirVA + de.size > r.sec.size then .err .bounds
       else .ok ⟨de.offsetToData - r.dirVA, de.size, 1⟩) ∧
    de.sizeOf = de.size ∧ de.codePageOf = de.codePage :=
  ⟨rfl, rfl, rfl⟩

/-! ## 3. The whole tree -/

/-- Traversing a section that represents the tree `t` (layout relation `IsTree`) with `entries`,
`name`, `entry`, `bytes` and `code_page` reports exactly `t`: at every level the entries in stored
order with their names, sub-directories and data entries, data bytes and code pages. -/
theorem C12_traversal_reports_tree (r : Resources) (hb : Aligned r) (t : Node) (h : IsTree r t) (k : Nat)
    (hk : t.depth ≤ k) : readTree r k = .ok t :=
  readTree_of_isTree hb h hk

/-- The reference writer produces a section that represents the tree (so the hypothesis `IsTree` of
the theorems of this file is satisfiable for every encodable tree, of any size and depth). -/
theorem C12_writer_represents (dirVA : Nat) (t : Node) (h : Encodable dirVA t) :
    IsTree (resourcesOf dirVA t) t ∧ Aligned (resourcesOf dirVA t) ∧ (resourcesOf dirVA t).sec.size = t.size :=
  ⟨isTree_resourcesOf h, aligned_resourcesOf dirVA t, resourcesOf_size dirVA t⟩

/-- Round trip: writing any encodable tree and traversing the result gives the tree back. -/
theorem C12_round_trip (dirVA : Nat) (t : Node) (h : Encodable dirVA t) :
    readTree (resourcesOf dirVA t) t.depth = .ok t :=
  readTree_of_isTree (aligned_resourcesOf dirVA t) (isTree_resourcesOf h) (Nat.le_refl _)

/-! ## 4. Name matching -/

/-- The `RSRC_TYPES` table transcribed from the source is `#` + the winuser.h `RT_*` name at
exactly the predefined ids, and nothing anywhere else. -/
theorem C12_rsrc_types_table :
    rsrcTypes.length = 25 ∧
    (∀ n, n < 25 → typeName rsrcTypes n = (msResourceTypes.find? (·.1 = n)).map fun p => 35 :: asc p.2) ∧
    msResourceTypes.map (·.1) = [1, 2, 3, 4, 5, 6, 7, 8, 9, 10, 11, 12, 14, 16, 17, 19, 20, 21, 22, 23, 24] :=
  ⟨rfl, fun n _ => typeName_eq n, rfl⟩

theorem C12_rsrc_types_all (n : Nat) : typeName rsrcTypes n = typeString n := typeName_eq n

/-- `str::parse::<u32>` after a first digit `1`‥`9`: succeeds with `v` iff every byte is a decimal
digit and the decimal value is `v < 2^32` (leading `+`, signs, blanks, overflow: rejected). -/
theorem C12_parse_u32 (d : Nat) (ds : List Nat) (v : Nat) (hd : 49 ≤ d ∧ d ≤ 57) :
    parseU32 (d :: ds) = some v ↔ (∀ c ∈ d :: ds, 48 ≤ c ∧ c ≤ 57) ∧ v = decVal (d :: ds) ∧ v < 4294967296 := by
  rw [parseU32_digit d ds hd]
  exact parseDigits_eq_some (d :: ds) 0 v (by omega)

/-- the near misses: `#0`, `#01`, `#+1`, `#1 `, `#4294967297` do not name ids 0 / 1; `#ICON` and
`#3` both name id 3, `#icon` does not -/
theorem C12_near_miss_names :
    (Name.id 0).eqString (asc "#0") = false ∧ (Name.id 1).eqString (asc "#01") = false ∧
    (Name.id 1).eqString (asc "#+1") = false ∧ (Name.id 1).eqString (asc "#1 ") = false ∧
    (Name.id 1).eqString (asc "#4294967297") = false ∧ (Name.id 1).eqString (asc "#1") = true ∧
    (Name.id 3).eqString (asc "#ICON") = true ∧ (Name.id 3).eqString (asc "#3") = true ∧
    (Name.id 3).eqString (asc "#icon") = false ∧ (Name.id 4294967295).eqString (asc "#4294967295") = true := by
  decide +kernel

/-- `decode_utf16(words).eq(chars.map(Ok))` holds exactly when the words are the UTF-16 encoding of
the characters (surrogate pairs for non-BMP characters; an unpaired surrogate matches nothing). -/
theorem C12_utf16_exact (ws cs : List Nat) (hw : ∀ w ∈ ws, w < 65536) (hc : ∀ c ∈ cs, IsScalar c) :
    decodeUtf16 ws = cs.map .ok ↔ ws = utf16Encode cs :=
  decode_eq_iff ws cs hw hc

/-- The comparison every lookup makes (`de.name() == Ok(name)`, i.e. `Name::eq`) decides exactly the
documented rule `nameMatch`: ids and UTF-16 names compare exactly and never with each other; a
string matches an id as `#<decimal id>` (first digit not `0`) or as the predefined `#TYPE` name of
that id, and matches a UTF-16 name iff that is the string's UTF-16 encoding. -/
theorem C12_name_match (stored : RName) (q : Name) (h : stored.InRange) :
    stored.toName.eq q = nameMatch stored q :=
  eq_eq_nameMatch stored q h

/-! ## 5. Lookup -/

/-- For arbitrary section bytes: `entries().find(|de| de.name() == Ok(q))` returns the FIRST entry in
stored order whose name can be read and matches, and `None` iff there is none. -/
theorem C12_first_match (r : Resources) (hb : Aligned r) (q : Name) (es : List DirEntry) :
    (∀ e, firstMatch r q es = .ok (some e) →
      ∃ pre post, es = pre ++ e :: post ∧ entryMatches r q e ∧ ∀ x ∈ pre, ¬ entryMatches r q x) ∧
    (firstMatch r q es = .ok none ↔ ∀ x ∈ es, ¬ entryMatches r q x) :=
  ⟨fun e h => find_nameIs_some.1 (Out.ok.inj ((firstMatch_eq_find hb q es).symm.trans h)),
   by rw [firstMatch_eq_find hb, Out.ok.injEq, find_nameIs_none]⟩

/-- `get` / `get_data` / `get_dir` / `first*` on a directory that represents `t`: the answer of the
specification on `t` (first matching entry under `nameMatch`, `NotFound`, `UnDirectory`,
`UnDataEntry`), as an entry that represents the node found. -/
theorem C12_get_on_tree (r : Resources) (hb : Aligned r) (d : Dir) (t : Node) (h : RepDir r d t) (q : Name) :
    FRelG (Rep r) (d.get r q) (t.get q) ∧ FRelG (RepData r) (d.getData r q) (t.getData q) ∧
    FRelG (RepDir r) (d.getDir r q) (t.getDir q) ∧ FRelG (Rep r) (d.first r) t.first ∧
    FRelG (RepData r) (d.firstData r) t.firstData ∧ FRelG (RepDir r) (d.firstDir r) t.firstDir :=
  ⟨lookup_rep (repLike_rep hb) hb h q, getData_rep (repLike_rep hb) hb h q, getDir_rep (repLike_rep hb) hb h q,
   first_rep (repLike_rep hb) h, firstData_rep (repLike_rep hb) h, firstDir_rep (repLike_rep hb) h⟩

/-- `find(path)` on a section that represents `t`: the node the path names in `t` (component by
component, first match per level), or the documented error. -/
theorem C12_find_on_tree (r : Resources) (hb : Aligned r) (t : Node) (h : IsTree r t) (p : List Nat) :
    FRelG (Rep r) (find r p) (t.find p) :=
  find_rep hb h p

/-- `find_resource`, `find_resource_ex`, `manifest` and the lookup behind `version_info` on a section
that represents `t`: the bytes of the data entry the specification finds in `t`. -/
theorem C12_helpers_on_tree (r : Resources) (hb : Aligned r) (t : Node) (h : IsTree r t) :
    (∀ ty name, FRelG (RepBytes r) (findResource r ty name) (t.findResource ty name)) ∧
    (∀ ty name lang, FRelG (RepBytes r) (findResourceEx r ty name lang) (t.findResourceEx ty name lang)) ∧
    FRelG (RepBytes r) (manifest r) t.manifest ∧
    FRelG (RepBytes r) (versionBytes r) t.version :=
  ⟨fun ty name => findResource_rep hb h ty name, fun ty name lang => findResourceEx_rep hb h ty name lang,
   manifest_rep hb h, findResource_rep hb h _ _⟩

/-- the helpers are the documented compositions of the basic lookups (by definition of the model,
which mirrors find.rs line by line) -/
theorem C12_helpers_composed (r : Resources) (ty name lang : Name) (p : List Nat) :
    findResources r ty name = liftE (root r) (fun d => bindF (d.getDir r ty) fun t => t.getDir r name) ∧
    findResource r ty name = bindF (findResources r ty name) (fun n => bindF (n.firstData r) fun de => liftE (de.bytes r) okF) ∧
    findResourceEx r ty name lang =
      bindF (findResources r ty name) (fun n => bindF (n.getData r lang) fun de => liftE (de.bytes r) okF) ∧
    versionBytes r = findResource r (.id 16) (.id 1) ∧
    findData r p = bindF (find r p) asData ∧ findDir r p = bindF (find r p) asDir ∧
    icons r = groups r 14 ∧ cursors r = groups r 12 :=
  ⟨rfl, rfl, rfl, rfl, rfl, rfl, rfl, rfl⟩

/-! ## 6. The consistency check -/

/-- **What `fsck` decides, exactly.**  It succeeds iff the section represents a tree — every
reference reachable from the root is 4-aligned (2 for names) and in bounds, every data range lies
in the section — whose directories nest at most 32 deep and number, counted with multiplicity along
every path, at most `len / 16` (the visit budget). -/
theorem C12_fsck_exact (r : Resources) (hb : Aligned r) :
    fsck r = .ok () ↔ ∃ t : Node, IsTree r t ∧ t.depth ≤ 32 ∧ t.dirCount ≤ r.sec.size / 16 :=
  fsck_ok_iff hb

/-- Soundness in terms of the stored graph: after a successful `fsck` every directory reachable from
the root by sub-directory references is reached in fewer than 32 steps, represents a tree (so every
reference below it is in bounds), and no directory is reachable from itself. -/
theorem C12_fsck_sound (r : Resources) (hb : Aligned r) (h : fsck r = .ok ()) (n b : Nat) (hr : Reach r 0 n b) :
    n < 32 ∧ (∃ m es, IsNode r b (.dir m es)) ∧ ∀ k, ¬ Reach r b (k + 1) b := by
  obtain ⟨t, ht, hdep, _⟩ := (fsck_ok_iff hb).1 h
  exact ⟨Nat.lt_of_lt_of_le (reach_isTree ht hr).1 hdep, (reach_isTree ht hr).2⟩

/-- The tree a section represents is unique, so `C12_fsck_exact` speaks about *the* stored tree. -/
theorem C12_tree_unique (r : Resources) (t1 t2 : Node) (h1 : IsTree r t1) (h2 : IsTree r t2) : t1 = t2 :=
  isTree_unique h1 h2

/-- Hence on a section that represents `t`, `fsck` succeeds iff `t` nests at most 32 directories
deep and has at most `len / 16` directories (with multiplicity). -/
theorem C12_fsck_on_tree (r : Resources) (hb : Aligned r) (t : Node) (h : IsTree r t) :
    fsck r = .ok () ↔ t.depth ≤ 32 ∧ t.dirCount ≤ r.sec.size / 16 := by
  rw [fsck_on_tree hb h]
  split <;> simp [*]

/-- **The limit of "succeeds on every well-formed tree"** (`_partial`): for a written tree the only
reason to fail is the depth limit — `fsck` accepts it iff it has at most 32 levels of directories.
A perfectly well-formed tree with 33 nested directories is rejected (`FSCK_MAX_DEPTH`). -/
theorem C12_fsck_well_formed_partial (dirVA : Nat) (t : Node) (h : Encodable dirVA t) :
    fsck (resourcesOf dirVA t) = .ok () ↔ t.depth ≤ 32 := by
  rw [C12_fsck_on_tree _ (aligned_resourcesOf dirVA t) t (isTree_resourcesOf h), resourcesOf_size]
  have := dirCount_le_size t
  constructor
  · intro h'; exact h'.1
  · intro h'; exact ⟨h', by omega⟩

/-- Completeness for written trees: `fsck` accepts the section the reference writer produces for any
encodable tree with at most 32 levels of directories (the budget never binds: every directory
occupies at least 16 bytes). -/
theorem C12_fsck_complete (dirVA : Nat) (t : Node) (h : Encodable dirVA t) (hd : t.depth ≤ 32) :
    fsck (resourcesOf dirVA t) = .ok () :=
  (C12_fsck_well_formed_partial dirVA t h).2 hd

/-- 32 nested directories pass, 33 do not -/
theorem C12_fsck_depth_limit :
    fsck (resourcesOf 0 (chain 32)) = .ok () ∧ fsck (resourcesOf 0 (chain 33)) ≠ .ok () := by
  refine ⟨(C12_fsck_well_formed_partial 0 _ (chain_encodable (by decide) (by decide))).2 ?_, fun h => ?_⟩
  · rw [(chain_measures 32).1]; exact Nat.le_refl _
  · have := (C12_fsck_well_formed_partial 0 _ (chain_encodable (by decide) (by decide))).1 h
    rw [(chain_measures 33).1] at this
    omega

/-! ### The two limits of `fsck` as a finding

The statement says "the consistency check succeeds on every well-formed tree".  The repair of the
unbounded recursion (1a28b42) gave `fsck` a depth limit (`FSCK_MAX_DEPTH = 32`) and a budget of
`len / 16` directory VISITS.  Both reject sections that are well formed in the statement's sense. -/

/-- What "well formed" means on the stored graph, independently of `fsck`: when the section
represents a tree, every directory reachable from the root by sub-directory references represents a
tree itself (so all references below it are aligned and in bounds, every data range lies in the
section) and no directory is reachable from itself. -/
theorem C12_tree_is_well_formed (r : Resources) (t : Node) (h : IsTree r t) (n b : Nat) (hr : Reach r 0 n b) :
    (∃ m es, IsNode r b (.dir m es)) ∧ ∀ k, ¬ Reach r b (k + 1) b :=
  (reach_isTree h hr).2

/-- **`fsck` on a well-formed section, exactly**: it succeeds when the tree nests at most 32
directories deep and has at most `len / 16` directories counted with multiplicity; otherwise it
answers `Insanity` — and nothing else can happen. -/
theorem C12_fsck_on_tree_exact (r : Resources) (hb : Aligned r) (t : Node) (h : IsTree r t) :
    fsck r = if t.depth ≤ 32 ∧ t.dirCount ≤ r.sec.size / 16 then .ok () else .err .insanity :=
  fsck_on_tree hb h

/-- the witness of `C12_fsck_rejects_shared`: 56 bytes, a root with three id entries (1, 2, 3) whose
Offset fields all designate ONE empty sub-directory at offset 40 -/
def sharedSection : Resources :=
  ⟨#[0,0,0,0, 0,0,0,0, 0,0,0,0, 0,0,3,0,  1,0,0,0, 40,0,0,0x80,  2,0,0,0, 40,0,0,0x80,  3,0,0,0, 40,0,0,0x80,
     0,0,0,0, 0,0,0,0, 0,0,0,0, 0,0,0,0], 0, 0⟩

/-- the tree it represents (what a traversal reports): three empty sub-directories -/
def sharedTree : Node :=
  .dir 0 (.cons (.id 1) (.dir 0 .nil) (.cons (.id 2) (.dir 0 .nil) (.cons (.id 3) (.dir 0 .nil) .nil)))

/-- **Known finding (budget).**  A well-formed section — all references in bounds and aligned, no
directory contains itself, two levels deep, a traversal reports its tree — in which three entries
share one child is rejected with `Insanity`: unfolded it has 4 directories, the budget is
`56 / 16 = 3` visits. -/
theorem C12_fsck_rejects_shared :
    Aligned sharedSection ∧ IsTree sharedSection sharedTree ∧
    readTree sharedSection 2 = .ok sharedTree ∧
    (∀ n b, Reach sharedSection 0 n b → ∀ k, ¬ Reach sharedSection b (k + 1) b) ∧
    sharedTree.depth = 2 ∧ sharedTree.dirCount = 4 ∧ fsckBudget sharedSection = 3 ∧
    fsck sharedSection = .err .insanity := by
  have hb : Aligned sharedSection := by decide
  have ht : IsTree sharedSection sharedTree := by decide +kernel
  refine ⟨hb, ht, readTree_of_isTree hb ht (by decide), fun n b hr => (C12_tree_is_well_formed _ _ ht n b hr).2,
    by decide, by decide, by decide, ?_⟩
  rw [C12_fsck_on_tree_exact _ hb _ ht, if_neg (by decide)]

/-- A directory that contains itself is rejected with `Insanity` (depth limit); a shared
sub-directory is accepted as long as the unfolded tree fits the budget and rejected otherwise. -/
theorem C12_fsck_examples :
    -- root with one entry pointing back at the root
    fsck ⟨#[0,0,0,0, 0,0,0,0, 0,0,0,0, 0,0,1,0,  1,0,0,0, 0,0,0,0x80], 0, 0⟩ = .err .insanity ∧
    -- root with two entries sharing one empty sub-directory at offset 32
    fsck ⟨#[0,0,0,0, 0,0,0,0, 0,0,0,0, 0,0,2,0,  1,0,0,0, 32,0,0,0x80,  2,0,0,0, 32,0,0,0x80,
            0,0,0,0, 0,0,0,0, 0,0,0,0, 0,0,0,0], 0, 0⟩ = .ok () ∧
    -- root with three entries sharing one empty sub-directory at offset 40: every reference is in
    -- bounds and nothing contains itself, but 4 directory visits exceed the budget 56 / 16 = 3
    fsck ⟨#[0,0,0,0, 0,0,0,0, 0,0,0,0, 0,0,3,0,  1,0,0,0, 40,0,0,0x80,  2,0,0,0, 40,0,0,0x80,  3,0,0,0, 40,0,0,0x80,
            0,0,0,0, 0,0,0,0, 0,0,0,0, 0,0,0,0], 0, 0⟩ = .err .insanity :=
  ⟨by decide +kernel, by decide +kernel, C12_fsck_rejects_shared.2.2.2.2.2.2.2⟩

/-- **Known finding (depth).**  The section the reference writer produces for a chain of 33 nested
directories above one data entry is well formed (it represents the chain, a traversal reports it, the
budget does not bind: 33 directories, `len / 16 ≥ 33`), and `fsck` answers `Insanity`. -/
theorem C12_fsck_rejects_deep :
    Aligned (resourcesOf 0 (chain 33)) ∧ IsTree (resourcesOf 0 (chain 33)) (chain 33) ∧
    readTree (resourcesOf 0 (chain 33)) 33 = .ok (chain 33) ∧
    (∀ n b, Reach (resourcesOf 0 (chain 33)) 0 n b → ∀ k, ¬ Reach (resourcesOf 0 (chain 33)) b (k + 1) b) ∧
    (chain 33).depth = 33 ∧ (chain 33).dirCount = 33 ∧ 33 ≤ fsckBudget (resourcesOf 0 (chain 33)) ∧
    fsck (resourcesOf 0 (chain 33)) = .err .insanity := by
  have henc : Encodable 0 (chain 33) := chain_encodable (by decide) (by decide)
  obtain ⟨hdep, hcnt, hsize⟩ := chain_measures 33
  have hb := aligned_resourcesOf 0 (chain 33)
  have ht : IsTree (resourcesOf 0 (chain 33)) (chain 33) := isTree_resourcesOf henc
  refine ⟨hb, ht, readTree_of_isTree hb ht (by omega), fun n b hr => (C12_tree_is_well_formed _ _ ht n b hr).2,
    hdep, hcnt, ?_, ?_⟩
  · rw [fsckBudget, resourcesOf_size, hsize]; decide
  · rw [C12_fsck_on_tree_exact _ hb _ ht, if_neg (by omega)]

/-- the general form of the depth finding: EVERY encodable tree with more than 32 levels of
directories is written to a well-formed section that `fsck` rejects with `Insanity` -/
theorem C12_fsck_rejects_every_deep_tree (dirVA : Nat) (t : Node) (h : Encodable dirVA t) (hd : 32 < t.depth) :
    IsTree (resourcesOf dirVA t) t ∧ fsck (resourcesOf dirVA t) = .err .insanity := by
  refine ⟨isTree_resourcesOf h, ?_⟩
  rw [C12_fsck_on_tree_exact _ (aligned_resourcesOf dirVA t) _ (isTree_resourcesOf h), if_neg (by omega)]

/-! ## 7. Group icons / cursors -/

/-- `write` outputs the 6 header bytes, then one 16-byte record per entry, then for every entry (in
entry order) the image bytes the lookup `RT_ICON|RT_CURSOR / nId / first language` yields (nothing
when that lookup fails). -/
theorem C12_write_shape (r : Resources) (hb : Aligned r) (g : Group) (hg : GroupOK r g) :
    g.write r = .ok (bytesAt r.sec g.off 6 ++
      writeEntries r (groupEntriesFrom r (g.off + 6) g.count) (6 + (groupEntriesFrom r (g.off + 6) g.count).length * 16) ++
      ((groupEntriesFrom r (g.off + 6) g.count).map (imageOf r g)).flatten) ∧
    (groupEntriesFrom r (g.off + 6) g.count).length = g.count ∧
    ∀ es off, (writeEntries r es off).length = 16 * es.length :=
  ⟨write_eq hb hg, groupEntriesFrom_length r _ _, fun es off => writeEntries_length r es off⟩

/-- the record written for an entry is the first 12 bytes of its GRPICONDIRENTRY followed by
`dwImageOffset = (start + Σ dwBytesInRes of the entries before it) mod 2^32`; `write` starts at
`6 + 16 n` -/
theorem C12_write_offsets (r : Resources) (pre : List GroupEntry) (e : GroupEntry) (post : List GroupEntry)
    (start : Nat) (h : start < 4294967296) :
    writeEntries r (pre ++ e :: post) start =
      writeEntries r pre start ++
      (bytesAt r.sec e.off 12 ++ le32Bytes ((start + (pre.map (·.bytesInRes)).sum) % 4294967296)) ++
      writeEntries r post ((start + (pre.map (·.bytesInRes)).sum + e.bytesInRes) % 4294967296) :=
  writeEntries_split r pre e post start h

/-- **Reassembly reproduces the file.**  Take any `.ico` (kind 1) or `.cur` (kind 2) file — any number
of images, any image data — whose sizes fit their fields (`IcoOK`), turn it into a resource section
the way a resource compiler does (`icoToResources`: `RT_ICON`/`RT_CURSOR` entries `i+1 ↦ image i`, one
`RT_GROUP_*` entry named 1 holding the GRPICONDIR).  Then `icons()` / `cursors()` yields exactly that
one group and `write` outputs the original file byte for byte: header, entries with the recomputed
offsets, image data in entry order. -/
theorem C12_ico_round_trip (kind : Nat) (imgs : List IcoImage) (hok : IcoOK kind imgs)
    (henc : Encodable 0 (icoToTree kind imgs)) :
    ∃ g, (if kind = 1 then icons (icoToResources kind imgs) else cursors (icoToResources kind imgs)) =
        .ok [.ok (.id 1, g)] ∧
      g.write (icoToResources kind imgs) = .ok (icoFile kind imgs) := by
  obtain ⟨g, h1, h2⟩ := ico_round_trip hok henc
  refine ⟨g, ?_, h2⟩
  unfold icoGroupType at h1
  by_cases hk : kind = 1
  · rw [if_pos hk] at h1 ⊢; exact h1
  · rw [if_neg hk] at h1 ⊢; exact h1

/-- the same on ANY 4-aligned section that represents that tree with each data entry directly
followed by its bytes (`Canon`), whatever else the section contains -/
theorem C12_write_reproduces_ico (r : Resources) (hb : Aligned r) (kind : Nat) (imgs : List IcoImage) (hok : IcoOK kind imgs)
    (ht : IsTree r (icoToTree kind imgs)) (hc : Canon r 0 (icoToTree kind imgs)) :
    ∃ g, groups r (icoGroupType kind) = .ok [.ok (.id 1, g)] ∧ g.write r = .ok (icoFile kind imgs) :=
  write_ico hb hok ht hc

/-- **Reassembly into any sink that makes progress.**  `write` takes a `&mut dyn io::Write`; such a
sink may accept fewer bytes per call than it is offered (a pipe, a cursor over a short buffer).
`Group.writeChunked r g n` is `write` into a sink that accepts at most `n` bytes per call, every piece
handed over with `write_all` (1c97be5; before, `write` was called once per piece and the count it
returned was ignored).  For every `n ≥ 1` the sink receives exactly the bytes a vector receives and
`write` succeeds; a sink that accepts nothing makes it fail (`WriteZero`) having received nothing. -/
theorem C12_write_any_sink (r : Resources) (hb : Aligned r) (g : Group) (hg : GroupOK r g) :
    ∃ out, g.write r = .ok out ∧ (∀ n, 0 < n → g.writeChunked r n = .ok ⟨out, false⟩) ∧
      g.writeChunked r 0 = .ok ⟨[], true⟩ := by
  obtain ⟨out, ho⟩ := write_ok hb hg
  exact ⟨out, ho, fun n hn => by rw [writeChunked_eq r g hn, ho]; rfl, writeChunked_zero hb hg⟩

/-- the round trip of `C12_ico_round_trip` through any sink that accepts at least one byte per call -/
theorem C12_ico_round_trip_any_sink (kind : Nat) (imgs : List IcoImage) (hok : IcoOK kind imgs)
    (henc : Encodable 0 (icoToTree kind imgs)) (n : Nat) (hn : 0 < n) :
    ∃ g, (if kind = 1 then icons (icoToResources kind imgs) else cursors (icoToResources kind imgs)) =
        .ok [.ok (.id 1, g)] ∧
      g.writeChunked (icoToResources kind imgs) n = .ok ⟨icoFile kind imgs, false⟩ := by
  obtain ⟨g, h1, h2⟩ := C12_ico_round_trip kind imgs hok henc
  exact ⟨g, h1, by rw [writeChunked_eq _ g hn, h2]; rfl⟩

/-! ## 8. The hypotheses are satisfiable on non-trivial instances -/

/-- a tree with named (BMP, non-BMP, empty) and id entries, three levels, an empty directory -/
def sampleTree : Node :=
  .dir 2 (.cons (.wide [0x4D, 0x41, 0x49, 0x4E]) (.dir 1 (.cons (.wide [0xD83D, 0xDE00]) (.data [1, 2, 3] 1252) (.cons (.id 7) (.dir 0 .nil) .nil)))
    (.cons (.wide []) (.data [] 0)
    (.cons (.id 3) (.dir 0 (.cons (.id 1) (.dir 0 (.cons (.id 1033) (.data [0xAA, 0xBB] 65001) .nil)) .nil))
    (.cons (.id 24) (.data [60, 97, 47, 62] 0) .nil))))

example : Encodable 0x2000 sampleTree ∧ sampleTree.depth = 3 := by decide
example : fsck (resourcesOf 0x2000 sampleTree) = .ok () := C12_fsck_complete _ _ (by decide) (by decide)
/-- observations of a lookup result (the tree type has no decidable equality) -/
def foundData : FRes Node → Option (List UInt8 × Nat)
  | .ok (.data c cp) => some (c, cp)
  | _ => none
def foundDir : FRes Node → Option (Nat × Nat)
  | .ok (.dir n es) => some (n, es.length)
  | _ => none
def foundErr : FRes Node → Option FindError
  | .error e => some e
  | _ => none

example : foundDir (sampleTree.find (asc "/MAIN/#7")) = some (0, 0) := by decide +kernel
example : foundData (sampleTree.find (asc "/#ICON/#1/#1033")) = some ([0xAA, 0xBB], 65001) := by decide +kernel
example : foundData (sampleTree.find (asc "/#3//#1/./#1033/")) = some ([0xAA, 0xBB], 65001) := by decide +kernel
example : foundErr (sampleTree.find (asc "/#03")) = some .notFound := by decide +kernel
example : foundErr (sampleTree.find (asc "/#3/#1/#1033/x")) = some .unDataEntry := by decide +kernel
example : foundErr (sampleTree.find (asc "#3")) = some .noRootPath := by decide +kernel
-- "/MAIN/😀" as UTF-8 finds the entry whose stored name is the surrogate pair D83D DE00
example : foundData (sampleTree.find [47, 77, 65, 73, 78, 47, 0xF0, 0x9F, 0x98, 0x80]) = some ([1, 2, 3], 1252) := by
  decide +kernel
example : foundErr (sampleTree.find [47, 77, 65, 73, 78, 47, 0xF0, 0x9F]) = some .bad8Path := by decide +kernel

def sampleIco : List IcoImage := [⟨[16, 16, 0, 0, 1, 0, 32, 0], [1, 2, 3, 4, 5]⟩, ⟨[32, 32, 0, 0, 1, 0, 8, 0], []⟩]

example : IcoOK 1 sampleIco ∧ Encodable 0 (icoToTree 1 sampleIco) :=
  ⟨⟨Or.inl rfl, by decide, by decide, by decide, by decide⟩, by decide⟩

end Pelite.Resources
