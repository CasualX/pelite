import PeliteModel.Lemmas.PeChecked
import PeliteModel.Thm.C02
import PeliteModel.Thm.C06
import PeliteModel.Thm.C07Checksum
/-!
C02 — the arithmetic, indexing and unchecked-access sites of the PE core.

`Model/Pe.lean`, `Model/Typed.lean` and `Model/Convert.lean` compute on unbounded `Nat`, so their `C02_*` theorems
(`Thm/C02.lean`) say nothing about the places where the Rust code has fixed-width `+ - *`, `&bytes[..len]`, `s[i]`,
`copy_from_slice` (PANIC in a checked build) or `&*(p as *const T)`, `from_raw_parts`, `get_unchecked` (UB).
`Model/PeChecked.lean` has a CHECKED variant of every function with such a site; the drivers run those against the real code.
This file proves `fChk args = f args` for ALL inputs in the range of their Rust types — no panic / ub branch is ever
taken, every theorem about `f` transfers — and the corollaries `…_never_panics`.

The only hypotheses are type ranges: `align < 2^64`, element `size < 2^64`, buffers `< 4 GiB` (only the sentinel loop, `CStr`
and `check_sum` need it), `SizeOfHeaders ≤ 2^32` / `SizeOfImage < 2^32` where they are free parameters, `size % align = 0`
for the element type of the sentinel loop, and — for the conversions only — that the view came out of `from_bytes`.
The section table needs NO hypothesis (not even `Sec.InRange`): the guards of the Rust code suffice.
-/
namespace Pelite.Pe

/-! ### constructors -/

theorem C02_validate_checked_eq (f : Fmt) (img : Img) : validateChk f img = validate f img := by
  have he : eLfanew img.bytes < 4294967296 := le32_lt _ _
  have hn : numberOfSections img.bytes < 65536 := le16_lt _ _
  have ho : sizeOfOptionalHeader img.bytes < 65536 := le16_lt _ _
  have h24 : f.ntSize - f.optSize = 24 := by cases f <;> rfl
  have hnt : 120 ≤ f.ntSize ∧ f.ntSize ≤ 136 := by cases f <;> decide
  have hm : min (numberOfRvaAndSizes f img.bytes) 16 ≤ 16 := Nat.min_le_right _ _
  unfold validateChk validate optMagic ntEnd numDataDirs secTable optOff
  simp only [h24]
  refine ite_congr_else fun g1 => ite_congr_else fun g2 => ?_
  -- pe.rs:781: the DOS header lies inside the buffer (`64 ≤ len`) and the buffer is 4-aligned
  rw [rawRef_eq_ok (by omega) (by omega), Out.bind_ok]
  refine ite_congr_else fun g3 => ite_congr_else fun g4 => ite_congr_else fun g5 => ?_
  rw [padd64_ok (by omega), Out.bind_ok, padd64_ok (by omega), Out.bind_ok]
  refine ite_congr_else fun g6 => ?_
  -- pe.rs:801 / 802: signature and magic lie below `magic_offset + 2 ≤ len`; `e_lfanew` is a multiple of 4
  rw [rawRef_eq_ok (by omega) (by omega), Out.bind_ok, rawRef_eq_ok (by omega) (by omega), Out.bind_ok]
  refine ite_congr_else fun g7 => ite_congr_else fun g8 => ?_
  rw [padd64_ok (by omega), Out.bind_ok]
  refine ite_congr_else fun g9 => ?_
  -- pe.rs:817: the NT headers end at `nt_end ≤ len`
  rw [rawRef_eq_ok (by omega) (by omega), Out.bind_ok]
  refine ite_congr_else fun g10 => ite_congr_else fun g11 => ?_
  rw [pmulUsize_ok (by omega), Out.bind_ok, padd64_ok (by omega), Out.bind_ok]
  refine ite_congr_else fun g12 => ite_congr_else fun g13 => ?_
  rw [pmulUsize_ok (by omega), Out.bind_ok, padd64_ok (by omega), Out.bind_ok, padd64_ok (by omega),
    Out.bind_ok, padd64_ok (by omega), Out.bind_ok]

theorem C02_fromBytes_checked_eq (f : Fmt) (k : Kind) (img : Img) : fromBytesChk f k img = fromBytes f k img := by
  unfold fromBytesChk fromBytes
  rw [C02_validate_checked_eq]
  cases validate f img <;> rfl

theorem C02_wrapFromBytes_checked_eq (k : Kind) (img : Img) : wrapFromBytesChk k img = wrapFromBytes k img := by
  unfold wrapFromBytesChk wrapFromBytes
  rw [C02_fromBytes_checked_eq, C02_fromBytes_checked_eq]
  cases fromBytes .pe64 k img with
  | err e => cases e <;> rfl
  | _ => rfl

theorem C02_validate_never_panics (f : Fmt) (img : Img) : (validateChk f img).Clean := by
  rw [C02_validate_checked_eq]; exact C02_validate f img
theorem C02_fromBytes_never_panics (f : Fmt) (k : Kind) (img : Img) : (fromBytesChk f k img).Clean := by
  rw [C02_fromBytes_checked_eq]; exact C02_from_bytes f k img
theorem C02_wrapFromBytes_never_panics (k : Kind) (img : Img) : (wrapFromBytesChk k img).Clean := by
  rw [C02_wrapFromBytes_checked_eq]; exact C02_wrap_from_bytes k img

/-! ### address conversion: every section table, every rva / offset / va -/

theorem C02_r2fSecs_checked_eq (secs : List Sec) (rva : Nat) : r2fSecsChk secs rva = r2fSecs secs rva := by
  induction secs with
  | nil => rfl
  | cons s rest ih =>
    unfold r2fSecsChk r2fSecs
    dsimp only
    refine ite_congr rfl (fun hc => ite_congr_else fun ho => ?_) (fun _ => ih)
    have hlt : s.prd + s.rs < 4294967296 := Nat.lt_of_not_ge fun h => ho ((cadd32_isNone _ _).2 h)
    rw [psub_ok hc.1, Out.bind_ok]
    refine ite_congr rfl (fun h1 => ?_) (fun _ => rfl)
    rw [padd32_ok (by omega)]

theorem C02_f2rSecs_checked_eq (secs : List Sec) (fo : Nat) : f2rSecsChk secs fo = f2rSecs secs fo := by
  induction secs with
  | nil => rfl
  | cons s rest ih =>
    unfold f2rSecsChk f2rSecs
    dsimp only
    refine ite_congr rfl (fun hc => ?_) (fun _ => ih)
    -- `file_offset as u32`: below a wrapped `u32` end
    have hfo : fo % 4294967296 = fo := by
      have : wadd32 s.prd s.rs < 4294967296 := Nat.mod_lt _ (by decide)
      omega
    refine ite_congr_else fun ho => ?_
    have hlt : s.va + s.vs < 4294967296 := Nat.lt_of_not_ge fun h => ho ((cadd32_isNone _ _).2 h)
    rw [hfo, psub_ok hc.1, Out.bind_ok]
    refine ite_congr rfl (fun h1 => ?_) (fun _ => rfl)
    rw [padd32_ok (by omega)]

theorem C02_rvaToFileOffset_checked_eq (soh : Nat) (secs : List Sec) (rva : Nat) :
    rvaToFileOffsetChk soh secs rva = rvaToFileOffset soh secs rva := by
  unfold rvaToFileOffsetChk rvaToFileOffset
  rw [C02_r2fSecs_checked_eq]

/-- `soh ≤ 2^32`: `SizeOfHeaders` is a `u32` (`file_offset as Rva` truncates below it) -/
theorem C02_fileOffsetToRva_checked_eq (soh : Nat) (secs : List Sec) (fo : Nat) (hs : soh ≤ 4294967296) :
    fileOffsetToRvaChk soh secs fo = fileOffsetToRva soh secs fo := by
  unfold fileOffsetToRvaChk fileOffsetToRva
  rw [C02_f2rSecs_checked_eq]
  refine ite_congr rfl (fun h => ?_) (fun _ => rfl)
  rw [Nat.mod_eq_of_lt (by omega)]

/-- the hypothesis is needed (the cast is real) and satisfiable -/
example : fileOffsetToRvaChk 8589934592 [] 4294967296 = .ok 0 ∧ fileOffsetToRva 8589934592 [] 4294967296 = .ok 4294967296 ∧
    fileOffsetToRvaChk 240 demo64File.secs 250 = .ok 266 := by rw [demo64File_layout.secs]; decide +kernel

theorem C02_rva_to_file_offset_checked_eq (v : View) (rva : Nat) : v.rvaToFileOffsetChk rva = v.rvaToFileOffset rva :=
  C02_rvaToFileOffset_checked_eq _ _ _

theorem C02_file_offset_to_rva_checked_eq (v : View) (fo : Nat) : v.fileOffsetToRvaChk fo = v.fileOffsetToRva fo :=
  C02_fileOffsetToRva_checked_eq _ _ _ (Nat.le_of_lt (le32_lt _ _))

theorem C02_va_to_rva_checked_eq (v : View) (va : Nat) : v.vaToRvaChk va = v.vaToRva va := by
  unfold View.vaToRvaChk View.vaToRva
  have hsoi : sizeOfImage v.b < 4294967296 := le32_lt _ _
  refine ite_congr_else fun h0 => ?_
  rw [vaGuard_eq]
  refine ite_congr_else fun hb => ?_
  rw [Nat.mod_eq_of_lt (by omega)]

theorem C02_r2fSecs_never_panics (secs : List Sec) (rva : Nat) : (r2fSecsChk secs rva).Clean := by
  rw [C02_r2fSecs_checked_eq]; exact r2fSecs_clean secs rva
theorem C02_f2rSecs_never_panics (secs : List Sec) (fo : Nat) : (f2rSecsChk secs fo).Clean := by
  rw [C02_f2rSecs_checked_eq]; exact f2rSecs_clean secs fo
theorem C02_rva_to_file_offset_never_panics (v : View) (rva : Nat) : (v.rvaToFileOffsetChk rva).Clean := by
  rw [C02_rva_to_file_offset_checked_eq]; exact C02_rva_to_file_offset v rva
theorem C02_file_offset_to_rva_never_panics (v : View) (fo : Nat) : (v.fileOffsetToRvaChk fo).Clean := by
  rw [C02_file_offset_to_rva_checked_eq]; exact C02_file_offset_to_rva v fo
theorem C02_va_to_rva_never_panics (v : View) (va : Nat) : (v.vaToRvaChk va).Clean := by
  rw [C02_va_to_rva_checked_eq]; exact C02_va_to_rva v va

/-- C04: file offsets below SizeOfHeaders map to themselves (the model's — and the code's — condition is
`file_offset < SizeOfHeaders`, pe.rs:135; the answer is `file_offset as Rva`, the same number as
`SizeOfHeaders` is a `u32`). -/
theorem C04_f2r_headers (soh : Nat) (secs : List Sec) (fo : Nat) (h : fo < soh) :
    fileOffsetToRva soh secs fo = .ok fo := by
  unfold fileOffsetToRva
  rw [if_pos h]

/-- the same through the checked function, on a view -/
theorem C04_f2r_headers_checked (v : View) (fo : Nat) (h : fo < sizeOfHeaders v.b) :
    v.fileOffsetToRvaChk fo = .ok fo := by
  rw [C02_file_offset_to_rva_checked_eq]
  exact C04_f2r_headers _ _ _ h

example : sizeOfHeaders demo64File.b = 240 ∧ demo64File.fileOffsetToRva 239 = .ok 239 ∧
    demo64File.fileOffsetToRva 240 = .ok 256 := by
  simp only [View.fileOffsetToRva, demo64File_layout.eqs]; decide +kernel

/-! ### the alignment test and the untyped slices -/

/-- `self & (align - 1) == 0` after `debug_assert!(align.is_power_of_two())` is `self % align == 0` -/
theorem C02_alignedTo_checked_eq (site : String) (addr align : Nat) :
    alignedToChk site addr align = alignedTo site addr align := by
  unfold alignedToChk alignedTo
  refine ite_congr rfl (fun hp => ?_) (fun _ => rfl)
  obtain ⟨k, rfl⟩ := (isPow2_iff align).1 hp
  rw [psub_ok (Nat.two_pow_pos k), Out.bind_ok, Nat.and_two_pow_sub_one_eq_mod]

/-- `usize::wrapping_add(image.as_ptr() as usize, start).aligned_to(align)`: the wrap at 2^64 cannot be seen -/
theorem C02_alignedTo_wrapping (site : String) (a b align : Nat) (ha : align < 18446744073709551616) :
    alignedToChk site (wadd64 a b) align = alignedTo site (a + b) align := by
  rw [C02_alignedTo_checked_eq]
  exact alignedTo_wrap site (a + b) align ha

theorem C02_rangeFile_checked_eq (size : Nat) (secs : List Sec) (rva min : Nat) :
    rangeFileChk size secs rva min = rangeFile size secs rva min := by
  induction secs with
  | nil => rfl
  | cons s rest ih =>
    unfold rangeFileChk rangeFile
    dsimp only
    refine ite_congr rfl (fun hc => ?_) (fun _ => ih)
    unfold getRange
    by_cases hr : s.prd ≤ wadd32 s.prd s.rs ∧ wadd32 s.prd s.rs ≤ size
    · rw [if_pos hr, if_pos hr]
      dsimp only
      rw [psub_ok hc.1, Out.bind_ok, psub_ok (Nat.le_of_lt hc.2), Out.bind_ok]
      -- the error tail is the same on both sides: hidden, so that the `if_pos` / `if_neg` below meet only the `getFrom` test
      generalize (if min > wadd32 s.va (max s.vs s.rs) - rva then (Out.err Err.bounds : Out (Nat × Nat))
        else Out.err Err.zeroFill) = F
      unfold getFrom
      by_cases h1 : rva - s.va ≤ wadd32 s.prd s.rs - s.prd
      · rw [if_pos h1]
        dsimp only
        by_cases h2 : rva - s.va < wadd32 s.prd s.rs - s.prd ∧ wadd32 s.prd s.rs - s.prd - (rva - s.va) ≥ min
        · rw [if_pos h2, if_pos ⟨by omega, h2.2⟩]
        · rw [if_neg h2, if_neg (by omega)]
      · rw [if_neg h1]
        dsimp only
        rw [if_neg (by omega)]
    · rw [if_neg hr, if_neg hr]

theorem C02_sliceSection_checked_eq (img : Img) (rva min align : Nat) (ha : align < 18446744073709551616) :
    sliceSectionChk img rva min align = sliceSection img rva min align := by
  unfold sliceSectionChk sliceSection
  dsimp only
  rw [C02_alignedTo_wrapping _ _ _ _ ha]
  refine ite_congr_else fun h0 => ?_
  cases alignedTo "slice_section:aligned_to" (img.base + rva) align with
  | ok b =>
    cases b
    · rfl
    · exact getFrom_eq ..
  | _ => rfl

theorem fileTailChk_eq (site : String) (img : Img) (secs : List Sec) (rva min align : Nat)
    (hp : isPow2 align = true) :
    fileTailChk site img secs rva min align = fileTail img secs rva min align := by
  unfold fileTailChk fileTail
  rw [C02_rangeFile_checked_eq]
  cases rangeFile img.bytes.size secs rva min with
  | ok p =>
    obtain ⟨o, l⟩ := p
    dsimp only
    rw [C02_alignedTo_checked_eq, alignedTo, if_pos hp]
    by_cases ha : (img.base + o) % align = 0
    · rw [if_pos ha]; simp [ha]
    · rw [if_neg ha]; simp [ha]
  | _ => rfl

theorem C02_sliceFile_checked_eq (img : Img) (secs : List Sec) (rva min align : Nat)
    (ha : align < 18446744073709551616) :
    sliceFileChk img secs rva min align = sliceFile img secs rva min align := by
  unfold sliceFileChk sliceFile
  rw [C02_alignedTo_wrapping _ _ _ _ ha]
  refine ite_congr_else fun h0 => ?_
  cases hal : alignedTo "slice_file:aligned_to" (img.base + rva) align with
  | ok b =>
    cases b
    · rfl
    · exact fileTailChk_eq _ _ _ _ _ _ (alignedTo_ok_pow2 hal)
  | _ => rfl

theorem C02_readSection_checked_eq (img : Img) (imageBase soi va min align : Nat)
    (ha : align < 18446744073709551616) :
    readSectionChk img imageBase soi va min align = readSection img imageBase soi va min align := by
  unfold readSectionChk readSection
  refine ite_congr_else fun h0 => ?_
  rw [vaGuard_eq]
  refine ite_congr_else fun hb => ?_
  dsimp only
  rw [C02_alignedTo_wrapping _ _ _ _ ha]
  cases alignedTo "read_section:aligned_to" (img.base + (va - imageBase)) align with
  | ok b =>
    cases b
    · rfl
    · exact getFrom_eq ..
  | _ => rfl

/-- `soi < 2^32`: `SizeOfImage` is a `u32` (`(va - image_base) as Rva` truncates below it) -/
theorem C02_readFile_checked_eq (img : Img) (secs : List Sec) (imageBase soi va min align : Nat)
    (hs : soi < 4294967296) (ha : align < 18446744073709551616) :
    readFileChk img secs imageBase soi va min align = readFile img secs imageBase soi va min align := by
  unfold readFileChk readFile
  refine ite_congr_else fun h0 => ?_
  rw [vaGuard_eq]
  refine ite_congr_else fun hb => ?_
  rw [Nat.mod_eq_of_lt (by omega : va - imageBase < 4294967296)]
  dsimp only
  rw [C02_alignedTo_wrapping _ _ _ _ ha]
  cases hal : alignedTo "read_file:aligned_to" (img.base + (va - imageBase)) align with
  | ok b =>
    cases b
    · rfl
    · exact fileTailChk_eq _ _ _ _ _ _ (alignedTo_ok_pow2 hal)
  | _ => rfl

/-- `slice`: every view, every rva, every minimum size, every `usize` alignment (power of two or not:
then both sides are the same `debug_assert!` panic) -/
theorem C02_slice_checked_eq (v : View) (rva min align : Nat) (ha : align < 18446744073709551616) :
    v.sliceChk rva min align = v.slice rva min align := by
  unfold View.sliceChk View.slice
  cases v.kind
  · exact C02_sliceFile_checked_eq _ _ _ _ _ ha
  · exact C02_sliceSection_checked_eq _ _ _ _ ha

theorem C02_read_checked_eq (v : View) (va min align : Nat) (ha : align < 18446744073709551616) :
    v.readChk va min align = v.read va min align := by
  unfold View.readChk View.read
  cases v.kind
  · exact C02_readFile_checked_eq _ _ _ _ _ _ _ (le32_lt _ _) ha
  · exact C02_readSection_checked_eq _ _ _ _ _ _ ha

theorem C02_at_checked_eq (v : View) (a : Addr) (min align : Nat) (ha : align < 18446744073709551616) :
    v.atChk a min align = v.at a min align := by
  cases a with
  | rva r => exact C02_slice_checked_eq v r min align ha
  | va x => exact C02_read_checked_eq v x min align ha

theorem C02_rangeFile_never_panics (size : Nat) (secs : List Sec) (rva min : Nat) :
    (rangeFileChk size secs rva min).Clean := by
  rw [C02_rangeFile_checked_eq]; exact clean_iff_okOrErr.2 (rangeFile_okOrErr size secs rva min)

/-- for every alignment the typed API can pass (a power of two) -/
theorem C02_slice_never_panics (v : View) (rva min align : Nat) (ha : align < 18446744073709551616)
    (hp : isPow2 align = true) : (v.sliceChk rva min align).Clean := by
  rw [C02_slice_checked_eq v rva min align ha]; exact C02_slice v rva min align hp

theorem C02_read_never_panics (v : View) (va min align : Nat) (ha : align < 18446744073709551616)
    (hp : isPow2 align = true) : (v.readChk va min align).Clean := by
  rw [C02_read_checked_eq v va min align ha]; exact C02_read v va min align hp

/-- the only panic of the checked `slice` is the `debug_assert!` of `aligned_to` (known finding) -/
theorem C02_slice_checked_panics_only_if (v : View) (rva min align : Nat) (ha : align < 18446744073709551616)
    (s : String) (h : v.sliceChk rva min align = .panic s) : isPow2 align = false ∧ rva ≠ 0 := by
  rw [C02_slice_checked_eq v rva min align ha] at h
  exact C02_slice_panics_only_if v rva min align s h

/-- the checked functions evaluated on the PE32+ file and the PE32 view (same answers as the real
code, see the correspondence run); the last three: the panic branches are live code -/
example : demo64File.sliceChk 256 0 1 = .ok ⟨240, 16, 1⟩ ∧ demo64File.sliceChk 271 2 1 = .err .zeroFill ∧
    demo64File.readChk 0x140000100 4 4 = .ok ⟨240, 16, 4⟩ ∧ demo64File.rvaToFileOffsetChk 272 = .err .zeroFill ∧
    demo64File.vaToRvaChk 0x140000120 = .ok 288 ∧ demoView.sliceChk 184 0 1 = .ok ⟨184, 16, 1⟩ ∧
    demoView.readChk 0x4000b8 0 8 = .ok ⟨184, 16, 8⟩ ∧
    demoView.sliceChk 184 0 3 = .panic "slice_section:aligned_to" ∧
    psub "site" 1 2 = .panic "site" ∧ pmulUsize "site" 4294967296 4294967296 = .panic "site" := by
  simp only [View.sliceChk, View.readChk, View.rvaToFileOffsetChk, View.vaToRvaChk, demo64File_layout.eqs]
  decide +kernel

/-! ### `Headers::check_sum` -/

/-- the checked checksum (u64 additions, `dwords[i]`, `&image[n * 4..]`, `last[..tail.len()]`,
`copy_from_slice`, `as u32`) never panics and is the model's checksum.

`hbase`: `check_sum` reinterprets the buffer as `&[u32]` (`slice::from_raw_parts`, headers.rs:39) without testing
its alignment; the checked model has `rawRef` there, so the statement needs the buffer to be dword aligned.  Every view that came out of a constructor is
(`C02_checkSum_checked_eq_constructed`: `validate_headers` tests `image.as_ptr().aligned_to(4)`, pe.rs:778);
for other `View` values the hypothesis is necessary (`C02_checkSum_needs_aligned_base`). -/
theorem C02_checkSum_checked_eq (v : View) (hb : v.b.size < 4294967296) (hbase : v.img.base % 4 = 0) :
    v.checkSumChk = .ok v.checkSum := by
  unfold View.checkSumChk View.checkSum
  have he : eLfanew v.b < 4294967296 := le32_lt _ _
  have hsz : v.img.bytes.size = v.b.size := rfl
  rw [padd64_ok (by omega), Out.bind_ok, padd64_ok (by omega), Out.bind_ok]
  dsimp only
  rw [rawRef_eq_ok (by omega) (by omega), Out.bind_ok]
  obtain ⟨h1, h2⟩ := csumLoopChk_eq v.b ((eLfanew v.b + 24 + 64) / 4) (v.b.size / 4) (v.b.size / 4) 0
    (Nat.le_refl _) (by decide)
  rw [h1, Out.bind_ok, pmulUsize_ok (by omega), Out.bind_ok, pIndexFrom_ok (by omega), Out.bind_ok]
  generalize csumLoop v.b ((eLfanew v.b + 24 + 64) / 4) (v.b.size / 4) (v.b.size / 4) 0 = c0 at h2 ⊢
  have hmul : v.b.size / 4 * 4 = 4 * (v.b.size / 4) := Nat.mul_comm _ _
  by_cases ht : v.b.size % 4 ≠ 0
  · rw [if_pos (by omega), if_pos ht, pIndexTo_ok (by omega), Out.bind_ok]
    rw [pCopyLen_ok rfl, Out.bind_ok, csumStepChk_eq _ _ _ h2 (le32_lt _ _), Out.bind_ok, hmul]
    have h3 := csumStep_bound c0 (le32 v.b (4 * (v.b.size / 4))) h2 (le32_lt _ _)
    generalize csumStep c0 (le32 v.b (4 * (v.b.size / 4))) = c1 at h3 ⊢
    rw [padd64_ok (by omega), Out.bind_ok, padd64_ok (by omega), Out.bind_ok, padd64_ok (by omega)]
    rfl
  · rw [if_neg (by omega), if_neg ht, Out.bind_ok]
    rw [padd64_ok (by omega), Out.bind_ok, padd64_ok (by omega), Out.bind_ok, padd64_ok (by omega)]
    rfl

/-- the guard of the constructor discharges the alignment: every constructed view, both formats, both
kinds, any overridden base address (`set_base_address` changes `imageBase`, not the buffer) -/
theorem C02_checkSum_checked_eq_constructed (f : Fmt) (k : Kind) (img : Img) (v : View)
    (hv : fromBytes f k img = .ok v) (base : Nat) (hb : img.bytes.size < 4294967296) :
    (v.setBase base).checkSumChk = .ok (v.setBase base).checkSum := by
  obtain ⟨ha, rfl⟩ := (fromBytes_ok_iff _ _ _ _).1 hv
  exact C02_checkSum_checked_eq _ hb ha.2.1

theorem C02_checkSum_never_panics (v : View) (hb : v.b.size < 4294967296) (hbase : v.img.base % 4 = 0) :
    v.checkSumChk.Clean := by
  rw [C02_checkSum_checked_eq v hb hbase]; exact clean_iff_okOrErr.2 (okOrErr_ok _)

/-- a `View` VALUE over a buffer at an odd address (no constructor returns one): the dword view is a
misaligned `from_raw_parts` -/
theorem C02_checkSum_needs_aligned_base :
    (⟨⟨demo64Img.bytes, 2⟩, .pe64, .file, 0⟩ : View).checkSumChk =
      .ub "headers.rs:39 slice::from_raw_parts(image.as_ptr() as *const u32, image.len() / 4)" ∧
    fromBytes .pe64 .file ⟨demo64Img.bytes, 2⟩ = .err .misaligned :=
  ⟨by decide +kernel, fromBytes_err_of_validate (by decide +kernel)⟩

example : demo64File.b.size = 256 ∧ demo64File.img.base % 4 = 0 ∧ demo64File.checkSumChk = .ok 45333 ∧
    demoView.checkSumChk = .ok demoView.checkSum ∧ (demoView.setBase 0x10000).checkSumChk = .ok demoView.checkSum := by
  have h : demo64File.b.size = 256 ∧ demoView.b.size < 4294967296 := by decide +kernel
  obtain ⟨hsize, hview⟩ := h
  have hsum : demo64File.checkSum = 45333 := by
    rw [C07_checksum_accepted _ _ _ _ demo64File_ok, stdPeChecksum_eq_list]; decide +kernel
  have hbase : ∀ (v : View) (base : Nat), (v.setBase base).checkSum = v.checkSum := fun _ _ => rfl
  refine ⟨hsize, by decide, ?_, C02_checkSum_checked_eq demoView hview (by decide), ?_⟩
  · rw [C02_checkSum_checked_eq demo64File (by rw [hsize]; decide) (by decide), hsum]
  · rw [C02_checkSum_checked_eq (demoView.setBase 0x10000) hview (by decide), hbase]

/-! ### `SectionHeaders::by_name` -/

/-- the two index expressions of the copy loop `name_buf[i] = name[i]` (wrap/sections.rs:104) are in range
for EVERY query (the length guard `name.len() > 8 → None` precedes the loop): the checked function —
the one the `byname` driver runs — never panics and is the model's `byNameBytes` -/
theorem C02_byNameBytes_checked_eq (secs : List Sec) (n : Bytes) :
    byNameBytesChk secs n = .ok (byNameBytes secs n) := by
  unfold byNameBytesChk byNameBytes
  by_cases h : n.size > 8
  · rw [if_pos h, if_pos h]
  · rw [if_neg h, if_neg h, nameBufLoopChk_eq n (by omega) n.size _ (Nat.le_refl _) (by simp), Out.bind_ok]
    unfold nameBuf
    rw [Nat.sub_self, List.range_eq_range']

theorem C02_byNameBytes_never_panics (secs : List Sec) (n : Bytes) : (byNameBytesChk secs n).Clean := by
  rw [C02_byNameBytes_checked_eq]; exact clean_iff_okOrErr.2 (okOrErr_ok _)

/-- queries of length 0, 4, 8 (no padding left) and 9 (too long) on the two sections of `twoSecPe32`;
the panicking primitive is live code (`pIndex`) -/
example : byNameBytesChk (sections twoSecPe32) #[46, 98, 115, 115] = .ok (some 1) ∧
    byNameBytesChk (sections twoSecPe32) #[46, 97] = .ok (some 0) ∧
    byNameBytesChk (sections twoSecPe32) #[] = .ok none ∧
    byNameBytesChk (sections twoSecPe32) #[46, 98, 115, 115, 0, 0, 0, 0] = .ok (some 1) ∧
    byNameBytesChk (sections twoSecPe32) #[46, 98, 115, 115, 0, 0, 0, 0, 0] = .ok none ∧
    byNameBytesChk (sections onePe64) #[46, 116] = .ok (some 0) ∧
    pIndex "site" 8 8 = .panic "site" := by
  rw [show sections twoSecPe32 = _ from twoSecPe32_hdr.secs, onePe64_sections]
  decide +kernel

/-! ### typed reads (arithmetic, `&bytes[..len]`, `copy_from_slice`, and the unchecked accesses) -/

theorem C02_derva_checked_eq (v : View) (a : Addr) (size align : Nat) (ha : align < 18446744073709551616) :
    v.dervaChk a size align = v.derva a size align := by
  unfold View.dervaChk View.derva
  rw [C02_at_checked_eq v a size align ha]
  cases h : v.at a size align with
  | ok r =>
    exact rawRef_of_at h (v.at_sound a size align r h).2.1
  | _ => rfl

theorem C02_dervaCopy_checked_eq (v : View) (a : Addr) (size : Nat) : v.dervaCopyChk a size = v.dervaCopy a size := by
  unfold View.dervaCopyChk View.dervaCopy
  rw [C02_at_checked_eq v a size 1 (by decide)]
  cases h : v.at a size 1 with
  | ok r =>
    dsimp only
    rw [rawRef_of_at h (v.at_sound a size 1 r h).2.1]
    rfl
  | _ => rfl

theorem C02_dervaInto_checked_eq (v : View) (a : Addr) (len : Nat) : v.dervaIntoChk a len = v.dervaInto a len := by
  unfold View.dervaIntoChk View.dervaInto
  rw [C02_at_checked_eq v a len 1 (by decide)]
  cases h : v.at a len 1 with
  | ok r =>
    obtain ⟨-, hm, -⟩ := v.at_sound a len 1 r h
    dsimp only
    rw [pIndexTo_ok hm, Out.bind_ok, pCopyLen_ok rfl]
    rfl
  | _ => rfl

theorem C02_dervaSlice_checked_eq (v : View) (a : Addr) (size align len : Nat) (ha : align < 18446744073709551616) :
    v.dervaSliceChk a size align len = v.dervaSlice a size align len := by
  unfold View.dervaSliceChk View.dervaSlice
  rw [C02_at_checked_eq v a (size * len) align ha]
  by_cases hz : a.isZero = true
  · rw [if_pos hz, if_pos hz]
  · rw [if_neg hz, if_neg hz]
    by_cases ho : size * len ≥ 18446744073709551616
    · rw [if_pos ho, if_pos ho]
    · rw [if_neg ho, if_neg ho]
      cases h : v.at a (size * len) align with
      | ok r =>
        exact rawRef_of_at h (v.at_sound a (size * len) align r h).2.1
      | _ => rfl

/-- the loop of `derva_slice_f`: `len * size_of::<T>()`, `offset + size_of::<T>()`, `len += 1`, `&*s`, driven by
a STATEFUL callable (`F: FnMut`; `stop i x` = the answer of call `i`, made on element `i` of value `x` —
`Model/Typed.lean:sliceFLoopI`): the `derva_slice_f` / `deref_slice_f` ops of the driver run this function.
`hsa`: the size of a Rust type is a multiple of its alignment. -/
theorem C02_dervaSliceFI_checked_eq (v : View) (a : Addr) (size align : Nat) (stop : Nat → Nat → Bool)
    (hb : v.b.size < 4294967296) (hsz : size < 18446744073709551616) (hsa : size % align = 0)
    (ha : align < 18446744073709551616) :
    v.dervaSliceFIChk a size align stop = v.dervaSliceFI a size align stop := by
  unfold View.dervaSliceFIChk View.dervaSliceFI
  rw [C02_at_checked_eq v a 0 align ha]
  cases h : v.at a 0 align with
  | ok r =>
    obtain ⟨⟨hin, hal⟩, -, hra⟩ := v.at_sound a 0 align r h
    rw [hra] at hal
    have hbs : v.img.bytes.size < 4294967296 := hb
    dsimp only
    rw [sliceFLoopIChk_eq v.img r.off r.len size align stop hin hal hsa (by omega) hsz (r.len + 2) 0
      (by omega) (by omega)]
    show (match sliceFLoopI v.b r.off r.len size stop (r.len + 2) 0 with
      | .ok n => rawRef _ v.img r.off (n * size) align
      | .err e => .err e | .panic s => .panic s | .ub s => .ub s | .diverge => .diverge) = _
    cases hL : sliceFLoopI v.b r.off r.len size stop (r.len + 2) 0 with
    | ok n =>
      obtain ⟨-, h2, -⟩ := sliceFLoopI_ok _ _ _ hL
      rw [Nat.succ_mul] at h2
      exact rawRef_of_at h (by omega)
    | _ => rfl
  | _ => rfl

/-- the stateless case (`F: Fn`) -/
theorem C02_dervaSliceF_checked_eq (v : View) (a : Addr) (size align : Nat) (stop : Nat → Bool)
    (hb : v.b.size < 4294967296) (hsz : size < 18446744073709551616) (hsa : size % align = 0)
    (ha : align < 18446744073709551616) :
    v.dervaSliceFChk a size align stop = v.dervaSliceF a size align stop := by
  rw [View.dervaSliceF_eq_I, ← C02_dervaSliceFI_checked_eq v a size align _ hb hsz hsa ha]
  unfold View.dervaSliceFChk View.dervaSliceFIChk
  simp only [sliceFLoopChk_eq_I]

theorem C02_dervaSliceS_checked_eq (v : View) (a : Addr) (size align sentinel : Nat)
    (hb : v.b.size < 4294967296) (hsz : size < 18446744073709551616) (hsa : size % align = 0)
    (ha : align < 18446744073709551616) :
    v.dervaSliceSChk a size align sentinel = v.dervaSliceS a size align sentinel :=
  C02_dervaSliceF_checked_eq v a size align _ hb hsz hsa ha

theorem C02_dervaCStr_checked_eq (v : View) (a : Addr) (hb : v.b.size < 4294967296) :
    v.dervaCStrChk a = v.dervaCStr a := by
  unfold View.dervaCStrChk View.dervaCStr
  rw [C02_at_checked_eq v a 0 1 (by decide)]
  cases h : v.at a 0 1 with
  | ok r =>
    obtain ⟨⟨hin, -⟩, -, -⟩ := v.at_sound a 0 1 r h
    dsimp only
    rw [cstrFromBytesChk_eq v.img r.off r.len hin hb]
    show _ = (match cstrFromBytes v.img.bytes r.off r.len with
      | some c => Out.ok c | none => .err .encoding)
    cases cstrFromBytes v.img.bytes r.off r.len <;> rfl
  | _ => rfl

theorem C02_dervaWStr_checked_eq (v : View) (a : Addr) : v.dervaWStrChk a = v.dervaWStr a := by
  unfold View.dervaWStrChk View.dervaWStr
  rw [C02_at_checked_eq v a 2 2 (by decide)]
  cases h : v.at a 2 2 with
  | ok r =>
    obtain ⟨⟨hin, hal⟩, hm, hra⟩ := v.at_sound a 2 2 r h
    rw [hra] at hal
    dsimp only
    rw [wstrFromBytesChk_eq v.img r.off r.len hin hm hal]
    show _ = (match wstrFromBytes v.img.bytes r.off r.len with
      | some c => Out.ok c | none => .err .encoding)
    cases wstrFromBytes v.img.bytes r.off r.len <;> rfl
  | _ => rfl

theorem C02_derva_never_panics (v : View) (a : Addr) (size align : Nat) (ha : align < 18446744073709551616)
    (hp : isPow2 align = true) : (v.dervaChk a size align).Clean := by
  rw [C02_derva_checked_eq v a size align ha]; exact C02_derva v a size align hp
theorem C02_dervaCopy_never_panics (v : View) (a : Addr) (size : Nat) : (v.dervaCopyChk a size).Clean := by
  rw [C02_dervaCopy_checked_eq]; exact C02_derva_copy v a size
theorem C02_dervaInto_never_panics (v : View) (a : Addr) (len : Nat) : (v.dervaIntoChk a len).Clean := by
  rw [C02_dervaInto_checked_eq]; exact C02_derva_into v a len
theorem C02_dervaSlice_never_panics (v : View) (a : Addr) (size align len : Nat) (ha : align < 18446744073709551616)
    (hp : isPow2 align = true) : (v.dervaSliceChk a size align len).Clean := by
  rw [C02_dervaSlice_checked_eq v a size align len ha]; exact C02_derva_slice v a size align len hp
/-- `1 ≤ size`: for a zero-sized element type the loop does not terminate (`C03_slice_f_zst_diverges`) -/
theorem C02_dervaSliceS_never_panics (v : View) (a : Addr) (size align sentinel : Nat)
    (hb : v.b.size < 4294967296) (hs : 1 ≤ size) (hsz : size < 18446744073709551616) (hsa : size % align = 0)
    (ha : align < 18446744073709551616) (hp : isPow2 align = true) :
    (v.dervaSliceSChk a size align sentinel).Clean := by
  rw [C02_dervaSliceS_checked_eq v a size align sentinel hb hsz hsa ha]
  exact C02_derva_slice_s v a size align sentinel hs hp
theorem C02_dervaSliceFI_never_panics (v : View) (a : Addr) (size align : Nat) (stop : Nat → Nat → Bool)
    (hb : v.b.size < 4294967296) (hs : 1 ≤ size) (hsz : size < 18446744073709551616) (hsa : size % align = 0)
    (ha : align < 18446744073709551616) (hp : isPow2 align = true) :
    (v.dervaSliceFIChk a size align stop).Clean := by
  rw [C02_dervaSliceFI_checked_eq v a size align stop hb hsz hsa ha]
  exact C02_derva_slice_fi v a size align stop hs hp
theorem C02_dervaCStr_never_panics (v : View) (a : Addr) (hb : v.b.size < 4294967296) : (v.dervaCStrChk a).Clean := by
  rw [C02_dervaCStr_checked_eq v a hb]; exact C02_derva_cstr v a
theorem C02_dervaWStr_never_panics (v : View) (a : Addr) : (v.dervaWStrChk a).Clean := by
  rw [C02_dervaWStr_checked_eq]; exact clean_iff_okOrErr.2 (dervaWStr_okOrErr v a)

/-- hypotheses satisfied and the checked typed reads evaluated (u16 table `7, 9, 0xffff` at rva 260,
`"hi\0"` at rva 256, wide string at rva 266 of the PE32+ file) -/
example : demo64File.b.size < 4294967296 ∧ 2 % 2 = 0 ∧ isPow2 2 = true ∧
    demo64File.dervaSliceSChk (.rva 260) 2 2 0xffff = .ok ⟨244, 4, 2⟩ ∧
    demo64File.dervaSliceSChk (.va 0x140000104) 2 2 0x1234 = .err .bounds ∧
    demo64File.dervaCStrChk (.rva 256) = .ok ⟨240, 3, 1⟩ ∧ demo64File.dervaWStrChk (.rva 266) = .ok ⟨250, 6, 2⟩ ∧
    demo64File.dervaCopyChk (.rva 262) 2 = .ok 9 ∧ demo64File.dervaIntoChk (.rva 256) 3 = .ok [104, 105, 0] ∧
    demo64File.dervaIntoChk (.rva 256) 17 = .err .zeroFill ∧ demo64File.dervaIntoChk (.rva 256) 25 = .err .bounds ∧
    demo64File.dervaChk (.rva 257) 4 4 = .err .misaligned ∧ demo64File.dervaSliceChk (.rva 260) 2 2 3 = .ok ⟨244, 6, 2⟩ := by
  decide +kernel

/-! ### conversions -/

/-- the loop bodies alone: every section header, every pair of buffers -/
theorem C02_toViewStep_checked_eq (image vec : Bytes) (s : Sec) :
    toViewStepChk image vec s = .ok (toViewStep image vec s) := by
  unfold toViewStepChk toViewStep
  exact copyStepChk_eq ..

theorem C02_toFileStep_checked_eq (image vec : Bytes) (s : Sec) :
    toFileStepChk image vec s = .ok (toFileStep image vec s) := by
  unfold toFileStepChk toFileStep
  exact copyStepChk_eq ..

theorem View.toViewChk_eq (v : View) (h1 : sizeOfHeaders v.b ≤ sizeOfImage v.b)
    (h2 : sizeOfHeaders v.b ≤ v.b.size) : v.toViewChk = .ok v.toView := by
  unfold View.toViewChk View.toView
  dsimp only
  rw [copyHeadersChk_eq _ _ _ _ (by rw [Array.size_replicate]; exact h1) h2, Out.bind_ok]
  exact foldSecsChk_ok _ _ (C02_toViewStep_checked_eq v.b) _ _

theorem View.toFileChk_eq (v : View) (h1 : sizeOfHeaders v.b ≤ v.fileSize)
    (h2 : sizeOfHeaders v.b ≤ v.b.size) : v.toFileChk = .ok v.toFile := by
  unfold View.toFileChk View.toFile
  dsimp only
  rw [copyHeadersChk_eq _ _ _ _ (by rw [Array.size_replicate]; exact h1) h2, Out.bind_ok]
  exact foldSecsChk_ok _ _ (C02_toFileStep_checked_eq v.b) _ _

/-- `to_view` (`get_unchecked(..SizeOfHeaders)`, `dest[..len]`, `&src[..len]`, `copy_from_slice`) on a
constructed file view -/
theorem C02_toView_checked_eq (f : Fmt) (k : Kind) (img : Img) (v : View) (hv : fromBytes f k img = .ok v) :
    v.toViewChk = .ok v.toView :=
  v.toViewChk_eq (accept_soh hv).2 (accept_soh hv).1

/-- `to_file` on a constructed view -/
theorem C02_toFile_checked_eq (f : Fmt) (k : Kind) (img : Img) (v : View) (hv : fromBytes f k img = .ok v) :
    v.toFileChk = .ok v.toFile :=
  v.toFileChk_eq (soh_le_fileSize hv) (accept_soh hv).1

theorem C02_toView_never_panics (f : Fmt) (k : Kind) (img : Img) (v : View) (hv : fromBytes f k img = .ok v) :
    v.toViewChk.Clean := by
  rw [C02_toView_checked_eq f k img v hv]; exact clean_iff_okOrErr.2 (okOrErr_ok _)
theorem C02_toFile_never_panics (f : Fmt) (k : Kind) (img : Img) (v : View) (hv : fromBytes f k img = .ok v) :
    v.toFileChk.Clean := by
  rw [C02_toFile_checked_eq f k img v hv]; exact clean_iff_okOrErr.2 (okOrErr_ok _)

/-- the hypothesis holds for the PE32+ file; its conversion has the declared SizeOfImage -/
example : fromBytes .pe64 .file demo64Img = .ok demo64File ∧
    (demo64File.toViewChk >>= fun b => .ok (b.size, byteAt b 256, byteAt b 272)) = .ok (288, 104, 0) := by
  -- size and bytes of the converted buffer from the C06 theorems (evaluating `blit` is dear)
  have h : Loadable demo64File ∧ sizeOfImage demo64File.b = 288 ∧ sizeOfHeaders demo64File.b ≤ 272 ∧
      (⟨0x7461642e, 0x61, 24, 256, 16, 240, 0⟩ : Sec) ∈ demo64File.secs ∧ byteAt demo64File.b 240 = 104 ∧
      ∀ s ∈ demo64File.secs, ¬ (s.va ≤ 272 ∧ 272 < s.va + min s.vs s.rs) := by
    unfold Loadable
    simp only [demo64File_layout.eqs]
    decide +kernel
  obtain ⟨hl, hsoi, hsoh, hs, hb, hout⟩ := h
  have hv := demo64File_ok
  have h256 := C06_to_view_section _ _ _ hv hl _ hs 0 (by decide)
  have h272 := C06_to_view_zero _ _ _ hv hl 272 (by rw [hsoi]; decide) hsoh hout
  refine ⟨hv, ?_⟩
  rw [C02_toView_checked_eq _ _ _ _ hv]
  show Out.ok (demo64File.toView.size, byteAt demo64File.toView (256 + 0), byteAt demo64File.toView 272) = _
  rw [C06_to_view_size _ _ _ hv, h256, h272, hsoi]
  exact congrArg (fun x => Out.ok (288, x, 0)) hb

end Pelite.Pe
