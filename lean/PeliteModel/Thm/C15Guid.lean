import PeliteModel.Model.JsonDirs
/-!
C15 / C19: the text of a CodeView 7.0 signature (`util/guid.rs:lower_dashed`, behind `Display`, `Debug` and the
serializer of `image::GUID`) loses nothing: it has the fixed shape `{8-4-4-4-12}` of lower-case hex digits
(38 bytes), and an independent reader of that shape (`guidParse`, written from the registry notation of a GUID:
Data1, Data2, Data3 as numbers, Data4 byte by byte) returns exactly the 16 stored bytes — so two records print the
same signature only if they store the same GUID.
-/
namespace Pelite.Pe

def unhexDigitL (c : Nat) : Option Nat :=
  if 48 ≤ c ∧ c ≤ 57 then some (c - 48) else if 97 ≤ c ∧ c ≤ 102 then some (c - 87) else none

def unhex2 (hi lo : Nat) : Option Nat :=
  match unhexDigitL hi, unhexDigitL lo with
  | some h, some l => some (h * 16 + l)
  | _, _ => none

/-- the reader: `{d1-d2-d3-d4a-d4b}`; Data1/2/3 are printed as numbers (most significant digit first) and stored
little endian, Data4 is printed in memory order.  Returns the 16 bytes in memory order. -/
def guidParse (l : List Nat) : Option (List Nat) :=
  if l.length = 38 ∧ l.getD 0 0 = 123 ∧ l.getD 9 0 = 45 ∧ l.getD 14 0 = 45 ∧ l.getD 19 0 = 45 ∧ l.getD 24 0 = 45 ∧ l.getD 37 0 = 125 then
    let at2 (i : Nat) := unhex2 (l.getD i 0) (l.getD (i + 1) 0)
    (at2 7).bind fun x0 => (at2 5).bind fun x1 => (at2 3).bind fun x2 => (at2 1).bind fun x3 =>
    (at2 12).bind fun x4 => (at2 10).bind fun x5 => (at2 17).bind fun x6 => (at2 15).bind fun x7 =>
    (at2 20).bind fun x8 => (at2 22).bind fun x9 =>
    (at2 25).bind fun x10 => (at2 27).bind fun x11 => (at2 29).bind fun x12 => (at2 31).bind fun x13 =>
    (at2 33).bind fun x14 => (at2 35).bind fun x15 =>
    some [x0, x1, x2, x3, x4, x5, x6, x7, x8, x9, x10, x11, x12, x13, x14, x15]
  else none

theorem unhex2_hex2 : ∀ x, x < 256 →
    unhex2 (Pelite.Json.hexDigitL (x / 16)) (Pelite.Json.hexDigitL (x % 16)) = some x := by
  decide +kernel

theorem guidText_length (b : Bytes) (o : Nat) : (guidText b o).length = 38 := by
  unfold guidText
  simp only [hex2, List.length_append, List.length_cons, List.length_nil]

/-- the reader on a text of the right shape with its 32 digits left as variables: the length test, the brace and hyphen tests and
the list lookups of `guidParse` are computed once, here, so that the round trip below only has to undo `unhex2 ∘ hex` -/
theorem guidParse_lit (a0 a1 a2 a3 a4 a5 a6 a7 b0 b1 b2 b3 c0 c1 c2 c3 d0 d1 d2 d3 e0 e1 e2 e3 e4 e5 e6 e7 e8 e9 f0 f1 : Nat) :
    guidParse [123, a0, a1, a2, a3, a4, a5, a6, a7, 45, b0, b1, b2, b3, 45, c0, c1, c2, c3, 45, d0, d1, d2, d3, 45,
      e0, e1, e2, e3, e4, e5, e6, e7, e8, e9, f0, f1, 125] =
    (unhex2 a6 a7).bind fun x0 => (unhex2 a4 a5).bind fun x1 => (unhex2 a2 a3).bind fun x2 => (unhex2 a0 a1).bind fun x3 =>
    (unhex2 b2 b3).bind fun x4 => (unhex2 b0 b1).bind fun x5 => (unhex2 c2 c3).bind fun x6 => (unhex2 c0 c1).bind fun x7 =>
    (unhex2 d0 d1).bind fun x8 => (unhex2 d2 d3).bind fun x9 =>
    (unhex2 e0 e1).bind fun x10 => (unhex2 e2 e3).bind fun x11 => (unhex2 e4 e5).bind fun x12 => (unhex2 e6 e7).bind fun x13 =>
    (unhex2 e8 e9).bind fun x14 => (unhex2 f0 f1).bind fun x15 =>
    some [x0, x1, x2, x3, x4, x5, x6, x7, x8, x9, x10, x11, x12, x13, x14, x15] := by
  rfl

/-- **the signature text determines the stored GUID** (round trip through an independent reader) -/
theorem C15_guid_text_round_trip (b : Bytes) (o : Nat) :
    guidParse (guidText b o) = some ((List.range 16).map fun i => byteAt b (o + i)) := by
  have hb : ∀ i, byteAt b i < 256 := fun i => byteAt_lt b i
  unfold guidText
  simp only [hex2, List.cons_append, List.nil_append]
  rw [guidParse_lit]
  simp only [unhex2_hex2 _ (hb _), Option.bind_some]
  rfl

theorem C15_guid_text_injective (b b' : Bytes) (o o' : Nat) (h : guidText b o = guidText b' o') :
    ∀ i, i < 16 → byteAt b (o + i) = byteAt b' (o' + i) := by
  have h1 := C15_guid_text_round_trip b o
  have h2 := C15_guid_text_round_trip b' o'
  rw [h, h2] at h1
  have := Option.some.inj h1
  intro i hi
  have hh := congrArg (fun l => l[i]?) this
  simp [hi] at hh
  exact hh.symm

-- the documentation's example: IID_IUnknown `{00000000-0000-0000-c000-000000000046}`
example : guidText (#[0,0,0,0, 0,0, 0,0, 0xC0,0,0,0,0,0,0,0x46] : Bytes) 0 =
    "{00000000-0000-0000-c000-000000000046}".toList.map Char.toNat := by decide +kernel
-- a GUID whose fourth group begins with a zero digit keeps it (`{:04x}`)
example : ((guidText (#[1,2,3,4, 5,6, 7,8, 0x0B,0x07,1,2,3,4,5,6] : Bytes) 0).drop 20).take 4 = [48, 98, 48, 55] := by decide +kernel

end Pelite.Pe
