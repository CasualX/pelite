import PeliteModel.Lemmas.Typed
import PeliteModel.Thm.C04
import PeliteModel.Thm.C07
/-!
C04 at the level of constructed FILE views.  `Thm/C04.lean` states the property
over arbitrary section tables with `Sec.InRange` as a hypothesis; here the table is the one
`PeFile::from_bytes` decoded, so the hypothesis is discharged from acceptance, and the VA path
(`read` → `read_file`) gets its own exact statement.
-/
namespace Pelite.Pe

/-- **`slice` on a constructed file view**: `C04_slice_file_ok_iff` with the view's own section table. -/
theorem C04_view_slice_ok_iff (f : Fmt) (img : Img) (v : View) (hv : fromBytes f .file img = .ok v)
    (rva min align : Nat) (hr : rva < 4294967296) (r : Ref) :
    v.slice rva min align = .ok r ↔
      rva ≠ 0 ∧ isPow2 align = true ∧ (img.base + rva) % align = 0 ∧
      ∃ s, firstV v.secs rva = some s ∧ s.prd + s.rs < 4294967296 ∧ s.prd + s.rs ≤ img.bytes.size ∧
        rva - s.va < s.rs ∧ min ≤ s.rs - (rva - s.va) ∧
        (img.base + (s.prd + (rva - s.va))) % align = 0 ∧
        r = ⟨s.prd + (rva - s.va), s.rs - (rva - s.va), align⟩ := by
  obtain ⟨-, rfl⟩ := (fromBytes_ok_iff _ _ _ _).1 hv
  exact C04_slice_file_ok_iff img _ (C07_sections_in_range _) rva min align hr r

/-- **`read_file`, every section table.**  `read(va, min, align)` on a file succeeds exactly when the
address is non-null, lies in `[image_base, image_base + SizeOfImage]`, `rva = va - image_base` is
aligned, and the section lookup of `C04_slice_file_ok_iff` succeeds for that rva; the bytes returned are
the same window.  (Unlike `slice`, `read` does not reject `rva = 0`, i.e. `va = image_base`: the answer
there is whatever the section lookup says.) -/
theorem C04_read_file_ok_iff (img : Img) (secs : List Sec) (hs : ∀ s ∈ secs, s.InRange)
    (imageBase soi va min align : Nat) (r : Ref) :
    readFile img secs imageBase soi va min align = .ok r ↔
      va ≠ 0 ∧ imageBase ≤ va ∧ va - imageBase ≤ soi ∧ isPow2 align = true ∧
      (img.base + (va - imageBase)) % align = 0 ∧
      ∃ s, firstV secs (va - imageBase) = some s ∧ s.prd + s.rs < 4294967296 ∧
        s.prd + s.rs ≤ img.bytes.size ∧ (va - imageBase) - s.va < s.rs ∧
        min ≤ s.rs - ((va - imageBase) - s.va) ∧
        (img.base + (s.prd + ((va - imageBase) - s.va))) % align = 0 ∧
        r = ⟨s.prd + ((va - imageBase) - s.va), s.rs - ((va - imageBase) - s.va), align⟩ :=
  readFile_ok_iff img secs hs imageBase soi va min align r

/-- **`read` on a constructed file view** (both formats; `image_base` is the header's ImageBase field) -/
theorem C04_view_read_ok_iff (f : Fmt) (img : Img) (v : View) (hv : fromBytes f .file img = .ok v)
    (va min align : Nat) (r : Ref) :
    v.read va min align = .ok r ↔
      va ≠ 0 ∧ v.imageBase ≤ va ∧ va - v.imageBase ≤ sizeOfImage img.bytes ∧ isPow2 align = true ∧
      (img.base + (va - v.imageBase)) % align = 0 ∧
      ∃ s, firstV v.secs (va - v.imageBase) = some s ∧ s.prd + s.rs < 4294967296 ∧
        s.prd + s.rs ≤ img.bytes.size ∧ (va - v.imageBase) - s.va < s.rs ∧
        min ≤ s.rs - ((va - v.imageBase) - s.va) ∧
        (img.base + (s.prd + ((va - v.imageBase) - s.va))) % align = 0 ∧
        r = ⟨s.prd + ((va - v.imageBase) - s.va), s.rs - ((va - v.imageBase) - s.va), align⟩ := by
  obtain ⟨-, rfl⟩ := (fromBytes_ok_iff _ _ _ _).1 hv
  exact C04_read_file_ok_iff img _ (C07_sections_in_range _) _ _ va min align r

/-- what `slice` / `read` answer on a constructed file lies inside the buffer (the view-level form of
`C04_slice_file_sound`, for both paths) -/
theorem C04_view_file_sound (f : Fmt) (img : Img) (v : View) (hv : fromBytes f .file img = .ok v)
    (a : Addr) (min align : Nat) (r : Ref) (h : v.at a min align = .ok r) :
    RefOK img r ∧ min ≤ r.len ∧ r.align = align := by
  have := v.at_sound a min align r h
  obtain ⟨-, rfl⟩ := (fromBytes_ok_iff _ _ _ _).1 hv
  exact this

/-! ### witnesses: PE32+ (`demo64File`) and PE32 (`twoSecPe32`) files -/

/-- the PE32 file `twoSecPe32` as a file view -/
def twoSecFile : View := ⟨⟨twoSecPe32, 0⟩, .pe32, .file, imageBaseField .pe32 twoSecPe32⟩

theorem twoSecFile_ok : fromBytes .pe32 .file ⟨twoSecPe32, 0⟩ = .ok twoSecFile :=
  fromBytes_ok_of twoSecPe32_hdr.accept rfl

/-- `C04_slice_below_headers_bounds_wf` on the PE32+ file (SizeOfHeaders 240, its section at rva 256) and on
the PE32 file (SizeOfHeaders 280, sections at 280 and 288): the rva of the section table itself (200) and
of the optional header (88) — inside the headers, covered by no section — is `Bounds` for `slice`, for
every length, while `rva_to_file_offset` maps it to itself -/
example :
    (∀ s ∈ demo64File.secs, sizeOfHeaders demo64File.b ≤ s.va) ∧ sizeOfHeaders demo64File.b = 240 ∧
    demo64File.slice 200 0 4 = .err .bounds ∧ demo64File.slice 88 2 2 = .err .bounds ∧
    demo64File.slice 239 0 1 = .err .bounds ∧
    demo64File.rvaToFileOffset 200 = .ok 200 ∧ demo64File.rvaToFileOffset 239 = .ok 239 ∧
    demo64File.read (0x140000000 + 200) 0 4 = .err .bounds ∧
    (∀ s ∈ twoSecFile.secs, sizeOfHeaders twoSecFile.b ≤ s.va) ∧
    twoSecFile.slice 200 0 4 = .err .bounds ∧ twoSecFile.rvaToFileOffset 200 = .ok 200 := by
  have hdr := twoSecPe32_hdr.of_eq (w := twoSecFile) rfl rfl
  have h2 := hdr.secs
  have hs := hdr.soh
  simp only [View.slice, View.read, View.rvaToFileOffset, demo64File_layout.eqs, h2, hs]
  decide +kernel

/-- derived from the theorem rather than evaluated -/
example : demo64File.slice 200 40 4 = .err .bounds ∧ demo64File.rvaToFileOffset 200 = .ok 200 :=
  have h : (∀ s ∈ demo64File.secs, sizeOfHeaders demo64File.b ≤ s.va) ∧ 200 < sizeOfHeaders demo64File.b ∧
      (demo64File.img.base + 200) % 4 = 0 := by simp only [demo64File_layout.eqs]; decide
  C04_slice_below_headers_bounds_wf demo64File.img (sizeOfHeaders demo64File.b) demo64File.secs 200 40 4
    h.1 (by decide) h.2.1 (by decide) h.2.2

/-- `demo64File` cut down to 248 bytes (its section declares raw data `[240, 256)`): still accepted by
`PeFile::from_bytes`; `rva_to_file_offset` maps rva 266 to file offset 250 ≥ 248 — beyond the buffer —
and `slice` refuses every rva of the section (`C04_r2f_ignores_buffer`) -/
def truncFile : View := ⟨⟨demo64Img.bytes.extract 0 248, 0⟩, .pe64, .file, 0x140000000⟩

theorem C04_r2f_ignores_buffer_witness :
    fromBytes .pe64 .file ⟨demo64Img.bytes.extract 0 248, 0⟩ = .ok truncFile ∧ truncFile.b.size = 248 ∧
    truncFile.rvaToFileOffset 266 = .ok 250 ∧ truncFile.rvaToFileOffset 271 = .ok 255 ∧
    truncFile.slice 266 0 1 = .err .invalid ∧ truncFile.slice 256 0 1 = .err .invalid ∧
    truncFile.read 0x14000010a 0 1 = .err .invalid := by
  unfold truncFile
  rw [show demo64Img.bytes.extract 0 248 = ⟨demo64Img.bytes.toList.take 248⟩ by rw [extract_eq_window]; rfl]
  exact fromBytes_ok_and (by simp only [Accept, hdr_toNat, le16_toNat, le32_toNat]; decide +kernel)

/-- `C04_view_slice_ok_iff` / `C04_view_read_ok_iff`: the hypotheses hold for both files, and both sides of
the equivalences are inhabited — the windows the two paths return on the PE32+ file (rva 260 = file offset
244, twelve bytes to the end of the raw data) and on the PE32 file (".bss": rva 288 stored at 284) -/
example : fromBytes .pe64 .file demo64Img = .ok demo64File ∧ fromBytes .pe32 .file ⟨twoSecPe32, 0⟩ = .ok twoSecFile ∧
    demo64File.slice 260 4 4 = .ok ⟨244, 12, 4⟩ ∧ demo64File.read 0x140000104 4 4 = .ok ⟨244, 12, 4⟩ ∧
    firstV demo64File.secs 260 = some ⟨0x7461642e, 0x61, 24, 256, 16, 240, 0⟩ ∧
    demo64File.read 0x140000000 0 1 = .err .bounds ∧ demo64File.slice 0 0 1 = .err .null ∧
    twoSecFile.slice 288 2 2 = .ok ⟨284, 4, 2⟩ ∧ twoSecFile.read (0x400000 + 288) 2 2 = .ok ⟨284, 4, 2⟩ ∧
    twoSecFile.read (0x400000 + 292) 0 1 = .err .zeroFill := by
  have hdr := twoSecPe32_hdr.of_eq (w := twoSecFile) rfl rfl
  have h2 := hdr.secs
  have hi := hdr.soi
  refine ⟨demo64File_ok, twoSecFile_ok, ?_⟩
  simp only [View.slice, View.read, demo64File_layout.eqs, h2, hi]
  decide +kernel

/-- … and the right-hand side of `C04_view_read_ok_iff` derived from the left through the theorem -/
example : ∃ s, firstV demo64File.secs (0x140000104 - demo64File.imageBase) = some s ∧ s.prd + s.rs ≤ demo64Img.bytes.size := by
  obtain ⟨-, -, -, -, -, s, h1, -, h2, -⟩ :=
    (C04_view_read_ok_iff .pe64 demo64Img demo64File demo64File_ok 0x140000104 4 4 ⟨244, 12, 4⟩).1
      (by simp only [View.read, demo64File_layout.eqs]; decide +kernel)
  exact ⟨s, h1, h2⟩

end Pelite.Pe
