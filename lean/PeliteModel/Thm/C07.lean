import PeliteModel.Lemmas.PeHdr
import PeliteModel.Spec.PeFormat
import PeliteModel.Generated.Tables
/-!
C07 — headers: accepted only if structurally in bounds, then reported verbatim.
-/
namespace Pelite.Pe

/-- The struct layout and constants of the *current source* (regenerated by the probe on every run)
equal the PE/COFF specification. -/
theorem C07_layout_matches_pe_spec : Generated.layoutVals = Spec.peFormatVals := by
  decide

/-- The literal sizes the model uses, spelled out (their tie to the regenerated layout is `C07_model_offsets`,
Thm/C07Layout.lean). -/
theorem C07_model_layout :
    Fmt.ntSize .pe32 = 120 ∧ Fmt.ntSize .pe64 = 136 ∧ Fmt.optSize .pe32 = 96 ∧ Fmt.optSize .pe64 = 112 ∧
    Fmt.magic .pe32 = 0x10b ∧ Fmt.magic .pe64 = 0x20b ∧ Fmt.offNumRva .pe32 = 92 ∧ Fmt.offNumRva .pe64 = 108 := by
  decide

/-- **Accepted iff structurally in bounds** (both directions), and the constructor reports
SizeOfImage. -/
theorem C07_validate_ok_iff (f : Fmt) (img : Img) (n : Nat) :
    validate f img = .ok n ↔ Accept f img ∧ n = sizeOfImage img.bytes :=
  validate_ok_iff f img n

/-- `validate` never panics, never performs an unchecked out-of-bounds access, never diverges. -/
theorem C07_validate_total (f : Fmt) (img : Img) :
    (∃ n, validate f img = .ok n) ∨ (∃ e, validate f img = .err e) :=
  validate_okOrErr f img

/-- A structurally valid image of the other format is rejected with the dedicated error. -/
theorem C07_other_format_pemagic (f g : Fmt) (hfg : f ≠ g) (img : Img) (h : Accept g img) :
    validate f img = .err .peMagic :=
  validate_other_format f g hfg img h

/-- The format-agnostic constructor ends up with the parser matching the magic … -/
theorem C07_wrap_selects_magic (k : Kind) (img : Img) (v : View) (h : wrapFromBytes k img = .ok v) :
    optMagic img.bytes = v.fmt.magic ∧ Accept v.fmt img ∧ v.img = img ∧ v.kind = k := by
  obtain ⟨ha, hv⟩ := (fromBytes_ok_iff _ _ _ _).1 (wrap_ok_imp k img v h)
  refine ⟨ha.2.2.2.2.2.2.2.1, ha, ?_, ?_⟩ <;> rw [hv]

/-- … and accepts everything either specific parser accepts. -/
theorem C07_wrap_complete (f : Fmt) (k : Kind) (img : Img) (v : View) (h : fromBytes f k img = .ok v) :
    wrapFromBytes k img = .ok v :=
  wrap_complete f k img v h

/-- After acceptance every header accessor returns a reference that lies inside the buffer and is
aligned for its type (C01 for the header accessors), at the offsets the PE format prescribes:
data directories truncated to 16 entries, section table located through SizeOfOptionalHeader. -/
theorem C07_header_refs_ok (f : Fmt) (k : Kind) (img : Img) (v : View) (h : fromBytes f k img = .ok v) :
    RefOK img v.dosHeader ∧ RefOK img v.dosImage ∧ RefOK img v.ntHeaders ∧ RefOK img v.fileHeader ∧
    RefOK img v.optionalHeader ∧ RefOK img v.dataDirectory ∧ RefOK img v.sectionHeaders ∧
    RefOK img v.headersImage ∧
    v.dataDirectory.len = 8 * min (numberOfRvaAndSizes f img.bytes) 16 ∧
    v.sectionHeaders.off = eLfanew img.bytes + 24 + sizeOfOptionalHeader img.bytes ∧
    v.sectionHeaders.len = 40 * numberOfSections img.bytes := by
  obtain ⟨ha, rfl⟩ := (fromBytes_ok_iff _ _ _ _).1 h
  have := f.sizes.1
  have := f.sizes.2.1
  obtain ⟨h1, h2, -, h4, -, h6, -, -, h9, -, h11, -, h13, h14⟩ := ha
  simp only [RefOK, View.dosHeader, View.dosImage, View.ntHeaders, View.fileHeader, View.optionalHeader,
    View.dataDirectory, View.sectionHeaders, View.headersImage, View.b, ntEnd, secTable, numDataDirs, optOff, and_true] at *
  and_intros <;> omega

/-- The fields of every section header of the decoded table are u32 (that the table lies inside an accepted buffer is
`C01_tables_inside`). -/
theorem C07_sections_in_range (b : Bytes) : ∀ s ∈ sections b, s.InRange :=
  sections_in_range b

theorem C07_sections_length (b : Bytes) : (sections b).length = numberOfSections b := by
  simp [sections]

/-- Section lookup by rva = index of the first section whose `[VirtualAddress, VirtualAddress + VirtualSize)`
(mod 2^32) contains it. -/
theorem C07_by_rva_first (secs : List Sec) (rva : Nat) :
    byRva secs rva = secs.findIdx? (fun s => decide (s.va ≤ rva ∧ rva < (s.va + s.vs) % 4294967296)) := by
  induction secs with
  | nil => rfl
  | cons s rest ih =>
    simp only [byRva, List.findIdx?_cons, wadd32, ge_iff_le, ih]
    split <;> simp_all

/-- Section lookup by name = index of the first section whose 8-byte name equals the NUL-padded query. -/
theorem C07_by_name_first (secs : List Sec) (lo hi : Nat) :
    byName secs lo hi = secs.findIdx? (fun s => decide (s.nameLo = lo ∧ s.nameHi = hi)) :=
  byName_eq_findIdx secs lo hi

/-- **`by_name` on the query bytes** (`SectionHeaders::by_name`, wrap/sections.rs): a query longer than
the 8-byte `Name` field matches nothing; otherwise the answer is the index of the FIRST section whose
8 name bytes equal the query padded with NULs to 8 bytes (so "`.bss`" does not match "`.bss1`" nor a
prefix of it, and a query with explicit trailing NULs matches like the bare name). -/
theorem C07_by_name_bytes (secs : List Sec) (hs : ∀ s ∈ secs, s.nameLo < 4294967296 ∧ s.nameHi < 4294967296)
    (n : Bytes) :
    byNameBytes secs n =
      if n.size > 8 then none
      else secs.findIdx? (fun s : Sec => decide (∀ j : Nat, j < 8 → s.nameByte j = paddedName n j)) :=
  byNameBytes_eq secs hs n

/-- … on the section table of an image: the hypothesis of `C07_by_name_bytes` holds for every decoded
table, and the name bytes compared are the first 8 bytes of each 40-byte section header in the buffer. -/
theorem C07_by_name_image (b : Bytes) (n : Bytes) :
    byNameBytes (sections b) n =
      (if n.size > 8 then none
       else (sections b).findIdx? (fun s : Sec => decide (∀ j : Nat, j < 8 → s.nameByte j = paddedName n j))) ∧
    ∀ i, i < numberOfSections b → ∀ j, j < 8 →
      ((sections b)[i]?.map (·.nameByte j)) = some (byteAt b (secTable b + 40 * i + j)) := by
  refine ⟨byNameBytes_eq _ (sections_name_lt b) n, fun i hi j hj => ?_⟩
  simp only [sections, List.getElem?_map, List.getElem?_range hi, Option.map_some]
  rw [secAt_nameByte b _ j hj]

/-- the split query used by `byName` is the byte query: `byNameBytes` is `byName` on the two
little-endian halves of the NUL-padded name -/
theorem C07_by_name_bytes_halves (secs : List Sec) (n : Bytes) (hn : n.size ≤ 8) :
    byNameBytes secs n = byName secs (le32 n 0) (le32 n 4) := by
  have e : ∀ j, byteAt (nameBuf n) j = byteAt n j := by
    intro j
    rw [byteAt_nameBuf n hn]
    split
    · rfl
    · unfold byteAt
      simp [Array.getD, show ¬ j < n.size by assumption]
  unfold byNameBytes
  rw [if_neg (by omega)]
  simp only [le32, e]

/-- `Accept` (Spec/Pe.lean) has three alignment conjuncts the prose of the property does not list.
Each of them is a check of `validate_headers` (src/pe64/pe.rs) that answers `Misaligned`:

* `img.base % 4 = 0` — `if !image.as_ptr().aligned_to(4) { return Err(Error::Misaligned); }`, the
  second check, before any field is read (the headers are referenced in place as `#[repr(C)]`
  structs of alignment 4);
* `eLfanew b % 4 = 0` — `if !dos.e_lfanew.aligned_to(4) { return Err(Error::Misaligned); }`
  ("the Windows loader requires only a 4 byte alignment");
* `sizeOfOptionalHeader b % 4 = 0` — the last check,
  `if !start_of_sections.aligned_to(mem::align_of::<IMAGE_SECTION_HEADER>())` with
  `start_of_sections = e_lfanew + 24 + SizeOfOptionalHeader`; as `e_lfanew` is already known to be a
  multiple of 4 this is the alignment of SizeOfOptionalHeader alone.

The theorem states that each check fires with `Misaligned` exactly when it is the first failing one:
(1) a misaligned buffer of at least 64 bytes, (2) additionally "MZ" present, (3) every other conjunct of
`Accept` true. -/
theorem C07_alignment_checks (f : Fmt) (img : Img) :
    (64 ≤ img.bytes.size → img.base % 4 ≠ 0 → validate f img = .err .misaligned) ∧
    (64 ≤ img.bytes.size → img.base % 4 = 0 → le16 img.bytes 0 = 0x5A4D → eLfanew img.bytes % 4 ≠ 0 →
      validate f img = .err .misaligned) ∧
    (let b := img.bytes
     64 ≤ b.size → img.base % 4 = 0 → le16 b 0 = 0x5A4D → eLfanew b % 4 = 0 → eLfanew b ≤ 0x01000000 →
     eLfanew b + f.ntSize ≤ b.size → le32 b (eLfanew b) = 0x00004550 → optMagic b = f.magic →
     sizeOfHeaders b ≤ b.size → sizeOfHeaders b ≤ sizeOfImage b →
     eLfanew b + f.ntSize + 8 * min (numberOfRvaAndSizes f b) 16 ≤ b.size → numberOfSections b ≤ 96 →
     eLfanew b + 24 + sizeOfOptionalHeader b + 40 * numberOfSections b ≤ b.size →
     sizeOfOptionalHeader b % 4 ≠ 0 → validate f img = .err .misaligned) := by
  refine ⟨?_, ?_, ?_⟩
  · intro h1 h2
    unfold validate
    dsimp only
    rw [if_neg (by omega), if_pos h2]
  · intro h1 h2 h3 h4
    unfold validate
    dsimp only
    rw [if_neg (by omega), if_neg (by omega), if_neg (by omega), if_pos h4]
  · dsimp only
    intro h1 h2 h3 h4 h5 h6 h7 h8 h9 h10 h11 h12 h13 h14
    have hm := f.sizes
    have e1 : ntEnd f img.bytes = eLfanew img.bytes + f.ntSize := rfl
    have e2 : secTable img.bytes = eLfanew img.bytes + 24 + sizeOfOptionalHeader img.bytes := rfl
    have e3 : numDataDirs f img.bytes = min (numberOfRvaAndSizes f img.bytes) 16 := rfl
    unfold validate
    dsimp only
    rw [if_neg (by omega), if_neg (by omega), if_neg (by omega), if_neg (by omega), if_neg (by omega),
      if_neg (by omega), if_neg (by omega), if_neg (by omega), if_neg (by omega), if_neg (by omega),
      if_neg (by omega), if_neg (by omega), if_neg (by omega), if_neg (by omega), if_pos (by omega)]

/-! ### non-vacuity -/

/-- `Accept` holds of a hand-built PE32 file with two sections and two data directory entries
(`twoSecPe32`, Lemmas/PeHdr.lean) — so `fromBytes` succeeds on it, as a file and as a view, and the
format-agnostic constructor selects PE32; its header fields are read back verbatim. -/
example : Accept .pe32 ⟨twoSecPe32, 0⟩ ∧ validate .pe32 ⟨twoSecPe32, 0⟩ = .ok 296 ∧
    validate .pe64 ⟨twoSecPe32, 0⟩ = .err .peMagic ∧
    (∃ v, wrapFromBytes .file ⟨twoSecPe32, 0⟩ = .ok v ∧ v.fmt = .pe32 ∧ v.imageBase = 0x400000 ∧
      v.dataDir 0 = some (288, 4) ∧ v.dataDir 1 = some (0, 0) ∧ v.dataDir 2 = none) ∧
    sections twoSecPe32 = [⟨0x612e, 0, 4, 280, 4, 280, 0⟩, ⟨0x7373622e, 0, 8, 288, 4, 284, 0⟩] := by
  have ha := twoSecPe32_hdr.accept
  exact ⟨ha, (C07_validate_ok_iff _ _ _).2 ⟨ha, twoSecPe32_hdr.soi.symm⟩, C07_other_format_pemagic _ _ (by decide) _ ha,
    ⟨_, C07_wrap_complete .pe32 .file _ _ (fromBytes_ok_of ha rfl), rfl,
      by simp only [hdr_toNat, View.dataDir_toNat]; decide +kernel⟩, twoSecPe32_hdr.secs⟩

/-- … and of a hand-built PE32+ file (`onePe64`): the 64-bit ImageBase, NumberOfRvaAndSizes at +108 and
the 136-byte NT headers are exercised; the PE32 parser answers `PeMagic`. -/
example : Accept .pe64 ⟨onePe64, 0⟩ ∧ validate .pe64 ⟨onePe64, 0⟩ = .ok 256 ∧
    validate .pe32 ⟨onePe64, 0⟩ = .err .peMagic ∧
    (∃ v, wrapFromBytes .view ⟨onePe64, 0⟩ = .ok v ∧ v.fmt = .pe64 ∧ v.imageBase = 0x140000000 ∧
      v.dataDir 0 = some (248, 4) ∧ v.dataDir 1 = none) ∧
    sections onePe64 = [⟨0x742e, 0, 8, 248, 4, 248, 0⟩] := by
  have ha := onePe64_accept
  exact ⟨ha, (C07_validate_ok_iff _ _ _).2 ⟨ha, by simp only [hdr_toNat]; decide +kernel⟩,
    C07_other_format_pemagic _ _ (by decide) _ ha,
    ⟨_, C07_wrap_complete .pe64 .view _ _ (fromBytes_ok_of ha rfl), rfl,
      by simp only [hdr_toNat, View.dataDir_toNat]; decide +kernel⟩, onePe64_sections⟩

/-- `by_name` on `twoSecPe32`: found by the bare name and by the NUL-padded name, not by a prefix, not
by a longer name, never by a 9-byte query; `by_rva` finds the section of an address in `.bss`. -/
example : byNameBytes (sections twoSecPe32) #[46, 98, 115, 115] = some 1 ∧          -- ".bss"
    byNameBytes (sections twoSecPe32) #[46, 98, 115, 115, 0, 0, 0, 0] = some 1 ∧   -- ".bss\0\0\0\0"
    byNameBytes (sections twoSecPe32) #[46, 97] = some 0 ∧                          -- ".a"
    byNameBytes (sections twoSecPe32) #[46, 98, 115] = none ∧                       -- ".bs"
    byNameBytes (sections twoSecPe32) #[46, 98, 115, 115, 49] = none ∧              -- ".bss1"
    byNameBytes (sections twoSecPe32) #[46, 98, 115, 115, 0, 0, 0, 0, 0] = none ∧  -- 9 bytes
    byRva (sections twoSecPe32) 290 = some 1 := by
  rw [show sections twoSecPe32 = _ from twoSecPe32_hdr.secs]
  decide +kernel

/-- An instance of the rejection order: a 63-byte buffer is `Bounds`, whatever it contains. -/
example (img : Img) (f : Fmt) (h : img.bytes.size = 63) : validate f img = .err .bounds := by
  unfold validate; simp [h]

/-- An instance of the third alignment check: `twoSecPe32` with SizeOfOptionalHeader changed from 112
to 114 (byte 84) is rejected as `Misaligned` although everything is in bounds. -/
example : validate .pe32 ⟨twoSecPe32.set! 84 114, 0⟩ = .err .misaligned := by decide +kernel

end Pelite.Pe
