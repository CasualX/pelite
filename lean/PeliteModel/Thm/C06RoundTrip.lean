import PeliteModel.Thm.C06
/-! C06, last sentence: converting the mapped form back to file layout. -/
namespace Pelite.Pe

/-! ### the headers of the converted buffer are those of the file -/

/-- Under `LoadableFile` a view over `v.toView` sees the same SizeOfHeaders, SizeOfImage and section
table as the file view `v`. -/
theorem C06_to_view_same_headers (f : Fmt) (img : Img) (v : View) (hv : fromBytes f .file img = .ok v)
    (hl : LoadableFile v) :
    sizeOfHeaders v.toView = sizeOfHeaders v.b ∧ sizeOfImage v.toView = sizeOfImage v.b ∧
    sections v.toView = sections v.b := by
  have hagree : HdrAgree (sizeOfHeaders v.b) v.toView v.b :=
    fun i hi => C06_to_view_headers f img v hv hl.1 i hi
  obtain ⟨_, _, _, hst, hnt⟩ := hl
  have hf : 120 ≤ v.fmt.ntSize := by cases v.fmt <;> decide
  unfold ntEnd at hnt
  exact hagree.fields (by omega) hst

/-- The converted buffer is accepted by `PeView::from_bytes` at every 4-aligned address (so the
hypothesis `hw` of the round-trip theorems is satisfiable for every such file). -/
theorem C06_to_view_accepted (f : Fmt) (img : Img) (v : View) (hv : fromBytes f .file img = .ok v)
    (hl : LoadableFile v) (base : Nat) (hbase : base % 4 = 0) :
    fromBytes f .view ⟨v.toView, base⟩ =
      .ok ⟨⟨v.toView, base⟩, f, .view, imageBaseField f v.toView⟩ := by
  have hagree : HdrAgree (sizeOfHeaders v.b) v.toView v.b :=
    fun i hi => C06_to_view_headers f img v hv hl.1 i hi
  have hsize := C06_to_view_size f img v hv
  have hsoh := (accept_soh hv).2
  obtain ⟨ha, rfl⟩ := (fromBytes_ok_iff _ _ _ _).1 hv
  obtain ⟨_, _, _, hst, hnt⟩ := hl
  exact (fromBytes_ok_iff _ _ _ _).2
    ⟨hagree.accept f base img.base ha hbase (by rw [hsize]; exact hsoh) hnt hst (Nat.le_refl _), rfl⟩

/-- what a view `w` over the converted buffer sees -/
theorem C06_round_trip_setup (f : Fmt) (img : Img) (v : View) (hv : fromBytes f .file img = .ok v)
    (hl : LoadableFile v) (base : Nat) (w : View) (hw : fromBytes f .view ⟨v.toView, base⟩ = .ok w) :
    w.b = v.toView ∧ sizeOfHeaders w.b = sizeOfHeaders v.b ∧ sizeOfImage w.b = sizeOfImage v.b ∧
    w.secs = v.secs ∧ w.b.size = sizeOfImage v.b ∧ sizeOfHeaders w.b ≤ w.fileSize ∧
    sizeOfHeaders w.b ≤ w.b.size ∧ w.fileSize ≤ sizeOfImage v.b := by
  obtain ⟨e1, e2, e3⟩ := C06_to_view_same_headers f img v hv hl
  have hwb : w.b = v.toView := by rw [((fromBytes_ok_iff _ _ _ _).1 hw).2]; rfl
  refine ⟨hwb, by rw [hwb, e1], by rw [hwb, e2], by unfold View.secs; rw [hwb, e3],
    by rw [hwb]; exact C06_to_view_size f img v hv, soh_le_fileSize hw, (accept_soh hw).1, ?_⟩
  unfold View.fileSize
  rw [hwb, e2]
  exact Nat.min_le_right _ _

/-- Converting the mapped form back reproduces the original headers and every section's
stored-and-mapped bytes at their file offsets.  `w` is any view constructed over the converted
buffer (any placement, any base).

(`to_file` clamps the file size to SizeOfImage and copies the part of a section's raw data that still
fits: hence the side condition `s.prd + j < SizeOfImage`.  `C06_round_trip_formerly_failing` is the
regression input of /repo 7f79b4a, before which such a section was skipped entirely.) -/
theorem C06_round_trip (f : Fmt) (img : Img) (v : View) (hv : fromBytes f .file img = .ok v)
    (hl : LoadableFile v) (base : Nat) (w : View) (hw : fromBytes f .view ⟨v.toView, base⟩ = .ok w) :
    (∀ i, i < sizeOfHeaders v.b → byteAt w.toFile i = byteAt v.b i) ∧
    (∀ s ∈ v.secs, ∀ j, j < min s.vs s.rs → s.prd + j < sizeOfImage v.b →
        byteAt w.toFile (s.prd + j) = byteAt v.b (s.prd + j)) := by
  obtain ⟨hwb, hsoh, hsoi, hsecs, hsize, hF, hs1, hFle⟩ := C06_round_trip_setup f img v hv hl base w hw
  obtain ⟨hload, hprd, hraw, _, _⟩ := hl
  have hvs : (initVec w.fileSize w.b (sizeOfHeaders w.b)).size = w.fileSize :=
    initVec_size _ _ _ hF hs1
  constructor
  · intro i hi
    rw [toFile_eq, cfold_out _ _ _ _ _ _ endClamp_le, initVec_hdr _ _ _ hF hs1 _ (by omega), hwb]
    · exact C06_to_view_headers f img v hv hload i hi
    · intro s hs
      rw [hsecs] at hs
      have := hprd s hs
      omega
  · intro s hs j hj hfit
    obtain ⟨a1, a2, a3, a4, a5⟩ := hload.1 s hs
    -- the byte lies inside the clamped file: below the largest raw end and below SizeOfImage
    have hlt : s.prd + j < w.fileSize := by
      have := foldl_max_mem w.secs (fun s => wadd32 s.prd s.rs) (sizeOfHeaders w.b) s
        (by rw [hsecs]; exact hs)
      have h1 : wadd32 s.prd s.rs = s.prd + s.rs := Nat.mod_eq_of_lt a2
      rw [h1] at this
      unfold View.fileSize
      omega
    -- `to_file` clamps the destination range to the vector: only the byte in question must fit
    have := cfold_in endClamp w.b Sec.prd Sec.rs Sec.va Sec.vs endClamp_le w.secs
      (initVec w.fileSize w.b (sizeOfHeaders w.b)) s (by rw [hsecs]; exact hs) (by rw [hsecs]; exact hraw)
      a2 a1 (by omega) (Nat.min_le_right _ _) (by show s.prd ≤ min (s.prd + s.rs) _; omega) j
      (by show j < min (min (s.prd + s.rs) _ - s.prd) s.vs; omega)
    rw [toFile_eq, this, hwb]
    exact C06_to_view_section f img v hv hload s hs j hj

/-- Corollary: sections whose whole raw range lies below SizeOfImage (all that held before /repo 7f79b4a). -/
theorem C06_round_trip_partial (f : Fmt) (img : Img) (v : View) (hv : fromBytes f .file img = .ok v)
    (hl : LoadableFile v) (base : Nat) (w : View) (hw : fromBytes f .view ⟨v.toView, base⟩ = .ok w) :
    (∀ i, i < sizeOfHeaders v.b → byteAt w.toFile i = byteAt v.b i) ∧
    (∀ s ∈ v.secs, ∀ j, j < min s.vs s.rs → s.prd + s.rs ≤ sizeOfImage v.b →
        byteAt w.toFile (s.prd + j) = byteAt v.b (s.prd + j)) := by
  obtain ⟨h1, h2⟩ := C06_round_trip f img v hv hl base w hw
  exact ⟨h1, fun s hs j hj hfit => h2 s hs j hj (by omega)⟩

/-- Non-vacuity: the concrete file `tinyPe 2 226` (accepted, see the example in `Thm/C06.lean`) is
`LoadableFile` and its section has stored-and-mapped bytes below SizeOfImage; by
`C06_to_view_accepted` a view `w` exists for every 4-aligned base. -/
example : LoadableFile (tinyView 2 226) ∧
    ∀ s ∈ (tinyView 2 226).secs, 0 < min s.vs s.rs ∧ s.prd + s.rs ≤ sizeOfImage (tinyView 2 226).b := by
  simp only [LoadableFile, Loadable, tinyView_2_226.eqs]
  decide

/-! ### regression input of /repo 7f79b4a (`to_file` dropped a section whose raw data ends beyond the clamped size) -/

/-- The file `tinyPe 1 225` (Lemmas/Convert.lean): SizeOfImage = 225, one section with
VirtualAddress = 224, VirtualSize = 1, PointerToRawData = 224, SizeOfRawData = 2 — its raw range
`[224, 226)` is inside the 226-byte file but ends beyond SizeOfImage. -/
def cexBytes : Bytes := tinyPe 1 225
def cexV : View := tinyView 1 225
def cexW : View := ⟨⟨cexV.toView, 0⟩, .pe32, .view, imageBaseField .pe32 cexV.toView⟩

/-- All hypotheses of `C06_round_trip` hold with `s.prd + 0 = 224 < 225`, and the stored byte `aa` comes back at
offset 224.  (Before 7f79b4a the answer there was 0: `file_size` is clamped to SizeOfImage = 225,
`vec.get_mut(224 .. 226)` was `None` and the section was skipped.) -/
theorem C06_round_trip_formerly_failing :
    fromBytes .pe32 .file ⟨cexBytes, 0⟩ = .ok cexV ∧ LoadableFile cexV ∧
    fromBytes .pe32 .view ⟨cexV.toView, 0⟩ = .ok cexW ∧
    (⟨0, 0, 1, 224, 2, 224, 0⟩ : Sec) ∈ cexV.secs ∧ sizeOfImage cexV.b = 225 ∧
    byteAt cexW.toFile 224 = 170 ∧ byteAt cexV.b 224 = 170 := by
  have hdr : HdrIs cexV [⟨0, 0, 1, 224, 2, 224, 0⟩] 224 225 226 184 1 184 0 := .of_and <| by
    unfold cexV tinyView; rw [tinyPe_eq]; simp only [Accept, View.secs, sections, secAt, hdr_toNat, le16_toNat, le32_toNat]; decide +kernel
  have he := hdr.eqs
  have hsoi := hdr.soi
  have hb : byteAt cexV.b 224 = 170 := by unfold cexV tinyView; rw [tinyPe_eq, byteAt_toNat]; decide +kernel
  have h : LoadableFile cexV ∧ (⟨0, 0, 1, 224, 2, 224, 0⟩ : Sec) ∈ cexV.secs := by
    simp only [LoadableFile, Loadable, he]
    decide
  obtain ⟨h2, hs⟩ := h
  have h1 : fromBytes .pe32 .file ⟨cexBytes, 0⟩ = .ok cexV := tinyView_ok _ _ hdr.accept
  have h3 : fromBytes .pe32 .view ⟨cexV.toView, 0⟩ = .ok cexW :=
    C06_to_view_accepted _ _ _ h1 h2 0 (by decide)
  refine ⟨h1, h2, h3, hs, hsoi, ?_, hb⟩
  -- from the general theorem rather than by evaluation
  rw [← hb]
  exact (C06_round_trip _ _ _ h1 h2 _ _ h3).2 _ hs 0 (by decide) (by rw [hsoi]; decide)

/-! ### the `SizeOfImage` clamp: the side condition of `C06_round_trip` is necessary -/

/-- `tinyPe 2 226` with the raw data moved behind the image: SizeOfImage = 226, one section with
VirtualAddress = 224, VirtualSize = 2, PointerToRawData = 226, SizeOfRawData = 2 (raw bytes `cc dd` at
`[226, 228)` of the 228-byte file) — stored AND mapped, but stored at file offsets ≥ SizeOfImage. -/
def clampBytes : Bytes := ((tinyPe 2 226).set! 204 226) ++ #[204, 221]
def clampV : View := ⟨⟨clampBytes, 0⟩, .pe32, .file, imageBaseField .pe32 clampBytes⟩
def clampW : View := ⟨⟨clampV.toView, 0⟩, .pe32, .view, imageBaseField .pe32 clampV.toView⟩

/-- **The clamp loses stored-and-mapped bytes.**  `to_file` sizes its result `min(max raw end, SizeOfImage)`
(view.rs:99-104), so on this `LoadableFile` input the round trip returns at most 226 bytes and the
section's bytes — mapped at 224 in the converted buffer, `C06_to_view_section` — have no place in it: at
`s.prd + 0 = 226` the original file has `cc`, the round-tripped file nothing.  Every hypothesis of
`C06_round_trip` holds; only the side condition `s.prd + j < SizeOfImage` fails.  (The real code answers the
same: after `img_to_view`, `img_to_file` the file is 226 bytes long and `derva_copy f32 u8 224` is `Invalid`.) -/
theorem C06_round_trip_clamp_false :
    fromBytes .pe32 .file ⟨clampBytes, 0⟩ = .ok clampV ∧ LoadableFile clampV ∧
    fromBytes .pe32 .view ⟨clampV.toView, 0⟩ = .ok clampW ∧
    (⟨0, 0, 2, 224, 2, 226, 0⟩ : Sec) ∈ clampV.secs ∧ sizeOfImage clampV.b = 226 ∧
    (0 < min (⟨0, 0, 2, 224, 2, 226, 0⟩ : Sec).vs (⟨0, 0, 2, 224, 2, 226, 0⟩ : Sec).rs) ∧
    ¬ ((⟨0, 0, 2, 224, 2, 226, 0⟩ : Sec).prd + 0 < 226) ∧
    byteAt clampV.b 226 = 204 ∧ byteAt clampV.toView 224 = 204 ∧
    clampW.toFile.size ≤ 226 ∧ byteAt clampW.toFile 226 = 0 := by
  have hdr : HdrIs clampV [⟨0, 0, 2, 224, 2, 226, 0⟩] 224 226 228 184 1 184 0 := .of_and <| by
    unfold clampV clampBytes; rw [tinyPe_eq]; simp only [Accept, View.secs, sections, secAt, hdr_toNat, le16_toNat, le32_toNat]; decide +kernel
  have he := hdr.eqs
  have hsoi := hdr.soi
  have hb : byteAt clampV.b 226 = 204 := by unfold clampV clampBytes; rw [tinyPe_eq, byteAt_toNat]; decide +kernel
  have h : LoadableFile clampV ∧ (⟨0, 0, 2, 224, 2, 226, 0⟩ : Sec) ∈ clampV.secs := by
    simp only [LoadableFile, Loadable, he]
    decide
  obtain ⟨h2, hs⟩ := h
  have h1 : fromBytes .pe32 .file ⟨clampBytes, 0⟩ = .ok clampV := (fromBytes_ok_iff _ _ _ _).2 ⟨hdr.accept, rfl⟩
  have h3 : fromBytes .pe32 .view ⟨clampV.toView, 0⟩ = .ok clampW :=
    C06_to_view_accepted _ _ _ h1 h2 0 (by decide)
  have hsize : clampW.toFile.size ≤ 226 := by
    rw [C06_to_file_size _ _ _ h3, ← hsoi]
    exact (C06_round_trip_setup _ _ _ h1 h2 0 _ h3).2.2.2.2.2.2.2
  refine ⟨h1, h2, h3, hs, hsoi, by decide, by decide, hb, ?_, hsize, ?_⟩
  · rw [← hb]
    exact C06_to_view_section _ _ _ h1 h2.1 _ hs 0 (by decide)
  · rw [byteAt_eq, Array.getElem?_eq_none (by omega)]
    rfl

/-! ### `LoadableFile` allows an ordinary `.bss` section -/

/-- `twoSecPe32` (Lemmas/PeHdr.lean) with its second section turned into a plain `.bss`:
`SizeOfRawData = 0`, `PointerToRawData = 0` (VirtualSize 8 at rva 288 stays) -/
def bssBytes : Bytes := ((twoSecPe32.set! 256 0).set! 260 0).set! 261 0
def bssV : View := ⟨⟨bssBytes, 0⟩, .pe32, .file, imageBaseField .pe32 bssBytes⟩

/-- `LoadableFile` asks `SizeOfHeaders ≤ PointerToRawData` only of sections that HAVE raw data; this file — whose `.bss` has `PointerToRawData = 0 < SizeOfHeaders` — satisfies it, the
converted buffer is accepted and the round trip reproduces the stored section (both through the general
theorems `C06_round_trip` and `C06_to_view_accepted`). -/
example : fromBytes .pe32 .file ⟨bssBytes, 0⟩ = .ok bssV ∧ LoadableFile bssV ∧
    bssV.secs = [⟨0x612e, 0, 4, 280, 4, 280, 0⟩, ⟨0x7373622e, 0, 8, 288, 0, 0, 0⟩] ∧
    ¬ (sizeOfHeaders bssV.b ≤ (⟨0x7373622e, 0, 8, 288, 0, 0, 0⟩ : Sec).prd) ∧
    ∃ w, fromBytes .pe32 .view ⟨bssV.toView, 0⟩ = .ok w ∧
      (∀ j, j < 4 → byteAt w.toFile (280 + j) = byteAt bssV.b (280 + j)) := by
  have hdr : HdrIs bssV [⟨0x612e, 0, 4, 280, 4, 280, 0⟩, ⟨0x7373622e, 0, 8, 288, 0, 0, 0⟩]
      280 296 288 200 2 184 2 := .of_and <| by simp only [Accept, View.secs, sections, secAt, hdr_toNat, le16_toNat, le32_toNat]; decide +kernel
  have he := hdr.eqs
  have hsecs := hdr.secs
  have hsoi := hdr.soi
  have h : LoadableFile bssV ∧ ¬ (sizeOfHeaders bssV.b ≤ (⟨0x7373622e, 0, 8, 288, 0, 0, 0⟩ : Sec).prd) := by
    simp only [LoadableFile, Loadable, he]
    decide
  obtain ⟨h2, hprd⟩ := h
  have h1 : fromBytes .pe32 .file ⟨bssBytes, 0⟩ = .ok bssV :=
    (fromBytes_ok_iff _ _ _ _).2 ⟨hdr.accept, by unfold bssV; with_reducible rfl⟩
  have h3 := C06_to_view_accepted _ _ _ h1 h2 0 (by decide)
  refine ⟨h1, h2, hsecs, hprd, _, h3, ?_⟩
  intro j hj
  exact (C06_round_trip _ _ _ h1 h2 0 _ h3).2
    ⟨0x612e, 0, 4, 280, 4, 280, 0⟩ (by rw [hsecs]; exact List.mem_cons_self) j (by simpa using hj)
    (by rw [hsoi]; show 280 + j < 296; omega)

end Pelite.Pe
