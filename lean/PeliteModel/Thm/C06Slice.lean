import PeliteModel.Lemmas.ConvertSlice
import PeliteModel.Thm.C06RoundTrip
/-!
C06 — "every RVA whose bytes are stored in the file and mapped reads identically through a file view
and through a view over the converted buffer", at the level of the view API: `slice`, C strings and
sentinel-terminated arrays on the view `w` that `PeView::from_bytes` constructs over `v.to_view()`.

`w` exists for every `LoadableFile v` and every 4-aligned placement (`C06_to_view_accepted`); the
theorems below need only `Loadable v` once `w` is given.
-/
namespace Pelite.Pe

/-- **Same slice, any alignment** (`C06_same_slice` below is the case `a = 1`). -/
theorem C06_same_slice_aligned (f : Fmt) (img : Img) (v : View) (hv : fromBytes f .file img = .ok v)
    (hl : Loadable v) (base : Nat) (w : View) (hw : fromBytes f .view ⟨v.toView, base⟩ = .ok w)
    (rva n a : Nat) (hr : rva < 4294967296) (ha : (base + rva) % a = 0) (r : Ref)
    (hslice : v.slice rva n a = .ok r)
    (hmapped : ∀ s, firstV v.secs rva = some s → rva - s.va + n ≤ s.vs) :
    ∃ r', w.slice rva n a = .ok r' ∧ r'.off = rva ∧ n ≤ r'.len ∧ r'.align = a ∧ RefOK w.img r' ∧
      ∀ i, i < n → byteAt w.b (rva + i) = byteAt v.b (r.off + i) := by
  obtain ⟨hsl, hfit, hwbase, hbytes⟩ := file_slice_window hv hl hw hr hslice ha
    (v.at_sound (.rva rva) n a r hslice).2.1 hmapped
  refine ⟨_, hsl n (Nat.le_refl _), rfl, ?_, rfl, ⟨?_, by rw [hwbase]; exact ha⟩, hbytes⟩
  · show n ≤ w.img.bytes.size - rva
    omega
  · show rva + (w.img.bytes.size - rva) ≤ w.img.bytes.size
    omega

/-- **Same slice.**  A request `(rva, n)` that the file view answers and that lies inside the mapped
part of its first containing section (inside the stored part it lies because the file view answered)
is answered by the view over the converted buffer, at offset `rva` of that buffer, and the `n`
requested bytes are the same bytes. The two references differ (`r.off` is the file offset
`PointerToRawData + (rva - VirtualAddress)`, `r'.off = rva`): only the contents are compared. -/
theorem C06_same_slice (f : Fmt) (img : Img) (v : View) (hv : fromBytes f .file img = .ok v)
    (hl : Loadable v) (base : Nat) (w : View) (hw : fromBytes f .view ⟨v.toView, base⟩ = .ok w)
    (rva n : Nat) (hr : rva < 4294967296) (r : Ref) (hslice : v.slice rva n 1 = .ok r)
    (hmapped : ∀ s, firstV v.secs rva = some s → rva - s.va + n ≤ s.vs) :
    ∃ r', w.slice rva n 1 = .ok r' ∧ r'.off = rva ∧ n ≤ r'.len ∧ RefOK w.img r' ∧
      ∀ i, i < n → byteAt w.b (rva + i) = byteAt v.b (r.off + i) := by
  obtain ⟨r', h1, h2, h3, -, h5, h6⟩ := C06_same_slice_aligned f img v hv hl base w hw rva n 1 hr (Nat.mod_one _) r
    hslice hmapped
  exact ⟨r', h1, h2, h3, h5, h6⟩

/-- **Same C string.**  A C string the file view reads at `rva` and that lies, NUL included, in
mapped bytes reads through the converted view as a string of the same length with the same bytes
(the file view scans the section's raw data, the mapped view scans to the end of the image: the
first NUL is the same because the bytes up to it are, `C05_cstr_prefix_mono`). -/
theorem C06_cstr_same (f : Fmt) (img : Img) (v : View) (hv : fromBytes f .file img = .ok v)
    (hl : Loadable v) (base : Nat) (w : View) (hw : fromBytes f .view ⟨v.toView, base⟩ = .ok w)
    (rva : Nat) (hr : rva < 4294967296) (c : Ref) (hc : v.dervaCStr (.rva rva) = .ok c)
    (hmapped : ∀ s, firstV v.secs rva = some s → rva - s.va + c.len ≤ s.vs) :
    ∃ c', w.dervaCStr (.rva rva) = .ok c' ∧ c'.off = rva ∧ c'.len = c.len ∧
      ∀ i, i < c.len → byteAt w.b (c'.off + i) = byteAt v.b (c.off + i) := by
  rw [dervaCStr_eq_bind] at hc
  obtain ⟨r, hs, hc⟩ := Out.bind_eq_ok hc
  have hcs := ofOption_eq_ok.1 hc
  obtain ⟨hoff, -, hlen⟩ := cstr_bounds hcs
  obtain ⟨hsl, hfit, -, hbytes⟩ := file_slice_window hv hl hw hr hs (Nat.mod_one _) hlen hmapped
  rw [hoff]
  -- the scan moves to the converted buffer, then the window grows to the end of the image
  have hext := C05_cstr_prefix_mono w.b rva c.len (w.img.bytes.size - rva) (by omega) _
    (cstr_transfer hcs hbytes)
  refine ⟨⟨rva, c.len, 1⟩, ?_, rfl, rfl, hbytes⟩
  rw [dervaCStr_eq_bind, show w.at (.rva rva) 0 1 = w.slice rva 0 1 from rfl, hsl 0 (Nat.zero_le _), Out.bind, hext]
  rfl

/-- **Same sentinel-terminated array.**  An array of `size`-byte integers terminated by `sentinel`
that the file view reads at `rva` and that lies, terminator included (`t.len + size` bytes), in mapped
bytes reads through the converted view with the same length and the same bytes, provided the
converted buffer is placed so that `rva` is aligned for the element type there too. -/
theorem C06_sentinel_same (f : Fmt) (img : Img) (v : View) (hv : fromBytes f .file img = .ok v)
    (hl : Loadable v) (base : Nat) (w : View) (hw : fromBytes f .view ⟨v.toView, base⟩ = .ok w)
    (rva size a sentinel : Nat) (hr : rva < 4294967296) (hsize : 1 ≤ size) (ha : (base + rva) % a = 0)
    (t : Ref) (ht : v.dervaSliceS (.rva rva) size a sentinel = .ok t)
    (hmapped : ∀ s, firstV v.secs rva = some s → rva - s.va + (t.len + size) ≤ s.vs) :
    ∃ t', w.dervaSliceS (.rva rva) size a sentinel = .ok t' ∧ t'.off = rva ∧ t'.len = t.len ∧
      ∀ i, i < t.len + size → byteAt w.b (t'.off + i) = byteAt v.b (t.off + i) := by
  rw [View.dervaSliceS_eq_I, dervaSliceFI_eq _ _ _ _ hsize] at ht
  obtain ⟨r, hs, ht⟩ := Out.bind_eq_ok ht
  obtain ⟨n, hfind, ht⟩ := ofOption_bind_eq_ok.1 ht
  cases ht
  obtain ⟨hstop, hn, hbefore⟩ := List.find?_range_eq_some.1 hfind
  have hfit : (n + 1) * size ≤ r.len := (Nat.le_div_iff_mul_le hsize).1 (List.mem_range.1 hn)
  obtain ⟨hsl, hfit', -, hbytes⟩ := file_slice_window hv hl hw hr hs ha hfit (by rw [Nat.succ_mul]; exact hmapped)
  -- the elements up to the terminator are the same in the converted buffer, whose window reaches to the end of the image
  have hel := leN_elems_same (b := v.b) (b' := w.b) hbytes
  refine ⟨⟨rva, n * size, a⟩, ?_, rfl, rfl, by rw [← Nat.succ_mul]; exact hbytes⟩
  rw [View.dervaSliceS_eq_I, dervaSliceFI_eq _ _ _ _ hsize, show w.at (.rva rva) 0 a = w.slice rva 0 a from rfl,
    hsl 0 (Nat.zero_le _)]
  refine ofOption_bind_eq_ok.2 ⟨n, List.find?_range_eq_some.2 ⟨?_, ?_, fun j hj => ?_⟩, rfl⟩
  · rw [hel n (Nat.lt_succ_self n)]; exact hstop
  · exact List.mem_range.2 ((Nat.le_div_iff_mul_le hsize).2 (by show (n + 1) * size ≤ w.img.bytes.size - rva; omega))
  · rw [hel j (Nat.lt_succ_of_lt hj)]; exact hbefore j hj

/-! ### non-vacuity: a file with TWO sections, one of them stored and mapped at different offsets -/

/-- `twoSecPe32` (Lemmas/PeHdr.lean) as a file view: sections ".a" (rva 280 = file offset 280, 4 bytes)
and ".bss" (rva 288, stored at file offset 284, 4 stored + 4 virtual-only bytes) -/
def twoSecV : View := ⟨⟨twoSecPe32, 0⟩, .pe32, .file, imageBaseField .pe32 twoSecPe32⟩
/-- the view `PeView::from_bytes` constructs over its converted buffer placed at address 0 -/
def twoSecW : View := ⟨⟨twoSecV.toView, 0⟩, .pe32, .view, imageBaseField .pe32 twoSecV.toView⟩

/-- All hypotheses of the three theorems hold together on it: the file is accepted and `LoadableFile`
with a two-element section table (so both `Pairwise` conjuncts compare two different sections), the
view over the converted buffer is constructed, and the file view answers a slice, a C string and a
sentinel-terminated `u16` array inside stored-and-mapped bytes — in ".bss" at file offset 284 for
rva 288, so the references differ. -/
theorem C06_slice_witness :
    fromBytes .pe32 .file ⟨twoSecPe32, 0⟩ = .ok twoSecV ∧ LoadableFile twoSecV ∧
    twoSecV.secs = [⟨0x612e, 0, 4, 280, 4, 280, 0⟩, ⟨0x7373622e, 0, 8, 288, 4, 284, 0⟩] ∧
    fromBytes .pe32 .view ⟨twoSecV.toView, 0⟩ = .ok twoSecW ∧
    firstV twoSecV.secs 288 = some ⟨0x7373622e, 0, 8, 288, 4, 284, 0⟩ ∧
    firstV twoSecV.secs 280 = some ⟨0x612e, 0, 4, 280, 4, 280, 0⟩ ∧
    twoSecV.slice 288 2 1 = .ok ⟨284, 4, 1⟩ ∧
    twoSecV.dervaCStr (.rva 280) = .ok ⟨280, 3, 1⟩ ∧
    twoSecV.dervaSliceS (.rva 288) 2 2 0xffff = .ok ⟨284, 2, 2⟩ := by
  -- the header facts are those of the image; only the two typed reads look at its data
  have hdr := twoSecPe32_hdr.of_eq (w := twoSecV) rfl rfl
  have hsecs := hdr.secs
  have h2 : LoadableFile twoSecV := by
    unfold LoadableFile Loadable
    simp only [hdr.eqs]
    decide +kernel
  have h1 : fromBytes .pe32 .file ⟨twoSecPe32, 0⟩ = .ok twoSecV := fromBytes_ok_of twoSecPe32_hdr.accept rfl
  refine ⟨h1, h2, hsecs, C06_to_view_accepted _ _ _ h1 h2 0 (by decide), ?_⟩
  have hat : ∀ x min align, twoSecV.at (.rva x) min align = _ := View.at_rva_file rfl hdr.size hsecs
  have h280 : twoSecV.at (.rva 280) 0 1 = .ok ⟨280, 4, 1⟩ := by rw [hat]; decide +kernel
  have h288 : twoSecV.at (.rva 288) 0 2 = .ok ⟨284, 4, 2⟩ := by rw [hat]; decide +kernel
  rw [hsecs]
  exact ⟨by decide, by decide, by rw [show twoSecV.slice 288 2 1 = twoSecV.at (.rva 288) 2 1 from rfl, hat]; decide +kernel,
    View.dervaCStr_of_at 2 h280 (by simp only [byteAt_toNat]; decide +kernel),
    View.dervaSliceS_of_at 1 (by decide) h288 (by simp only [leN_toNat]; decide +kernel)⟩

/-- … and what the theorems conclude there (derived from them, not evaluated): the converted view
answers at offset 288 where the file view answered at 284, with the same bytes; the string "ab" and
the one-element table `[5]` come back with the same lengths. -/
example :
    (∃ r', twoSecW.slice 288 2 1 = .ok r' ∧ r'.off = 288 ∧
      byteAt twoSecW.b 288 = byteAt twoSecV.b 284 ∧ byteAt twoSecW.b 289 = byteAt twoSecV.b 285) ∧
    (∃ c', twoSecW.dervaCStr (.rva 280) = .ok c' ∧ c'.off = 280 ∧ c'.len = 3) ∧
    (∃ t', twoSecW.dervaSliceS (.rva 288) 2 2 0xffff = .ok t' ∧ t'.off = 288 ∧ t'.len = 2) := by
  obtain ⟨h1, h2, -, h4, h5, h6, h7, h8, h9⟩ := C06_slice_witness
  refine ⟨?_, ?_, ?_⟩
  · obtain ⟨r', a1, a2, -, -, a3⟩ := C06_same_slice _ _ _ h1 h2.1 0 _ h4 288 2 (by decide) _ h7
      (by intro s hs; rw [h5] at hs; cases hs; decide)
    exact ⟨r', a1, a2, a3 0 (by decide), a3 1 (by decide)⟩
  · obtain ⟨c', a1, a2, a3, -⟩ := C06_cstr_same _ _ _ h1 h2.1 0 _ h4 280 (by decide) _ h8
      (by intro s hs; rw [h6] at hs; cases hs; decide)
    exact ⟨c', a1, a2, a3⟩
  · obtain ⟨t', a1, a2, a3, -⟩ := C06_sentinel_same _ _ _ h1 h2.1 0 _ h4 288 2 2 0xffff (by decide)
      (by decide) (by decide) _ h9 (by intro s hs; rw [h5] at hs; cases hs; decide)
    exact ⟨t', a1, a2, a3⟩

end Pelite.Pe
