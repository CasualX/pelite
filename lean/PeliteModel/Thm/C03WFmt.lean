import PeliteModel.Model.WStrFmt
/-!
C03 (and the strings C12/C13/C19 print): the formatters of `util::WideStr` (src/util/wide_str.rs).

* termination is structural (`decodeUtf16` consumes at least one code unit per item);
* work / output bounds: at most one item per code unit, at most 4 bytes (Display) or 6 bytes (Debug) per
  code unit, for EVERY word list — unpaired surrogates, NULs, quotes included;
* Display is the lossy decoding the serializer of wide resource names writes (`resNameJson`), equals
  `to_string()` whenever that succeeds, and `to_string` fails exactly with the first unpaired surrogate;
* `PartialEq<str>` implies that `to_string` is the UTF-8 text of the given scalar values (this direction only); the
  resource model's `Name.eqString` makes this comparison for a wide name (pelite's `eq_string` inlines the same
  `decode_utf16(..).eq(..)`);
* Debug: the body consists of two-byte escapes, `\uXXXX` escapes and the UTF-8 bytes of characters other than NUL, LF, CR,
  TAB, quote and backslash; those bytes are none of the six (not combined into a statement about the whole text).
-/
namespace Pelite.WStrFmt
open Pelite.Resources (decodeUtf16 U16Item)
open Pelite.Pe (utf8Enc)

theorem utf8Enc_length_le (c : Nat) : (utf8Enc c).length ≤ 4 := by
  unfold utf8Enc; split
  · simp
  · split
    · simp
    · split <;> simp

theorem utf8Enc_length_pos (c : Nat) : 1 ≤ (utf8Enc c).length := by
  unfold utf8Enc; split
  · simp
  · split
    · simp
    · split <;> simp

theorem utf8Enc_length_bmp (c : Nat) (h : c < 0x10000) : (utf8Enc c).length ≤ 3 := by
  unfold utf8Enc; split
  · simp
  · split
    · simp
    · simp

/-- one item per code unit at most: the loop of both formatters runs at most `len` times -/
theorem C03_wstr_items_le (ws : List Nat) : (decodeUtf16 ws).length ≤ ws.length := by
  fun_induction decodeUtf16 ws <;> simp_all <;> try omega

theorem displayItem_length_le (it : U16Item) : (displayItem it).length ≤ 4 := by
  cases it <;> simp [displayItem, utf8Enc_length_le]

theorem escU_length (u : Nat) : (escU u).length = 6 := rfl

/-- what the body of the Debug text is made of -/
inductive DbgTok : List Nat → Prop
  | esc (x : Nat) (hx : x = 48 ∨ x = 110 ∨ x = 114 ∨ x = 116 ∨ x = 34 ∨ x = 92) : DbgTok [92, x]
  | uni (a b c d : Nat) : DbgTok [92, 117, a, b, c, d]
  | chr (c : Nat) (h0 : c ≠ 0) (h1 : c ≠ 10) (h2 : c ≠ 13) (h3 : c ≠ 9) (h4 : c ≠ 34) (h5 : c ≠ 92) : DbgTok (utf8Enc c)

theorem debugItem_tok (it : U16Item) : DbgTok (debugItem it) := by
  cases it with
  | bad u => exact .uni _ _ _ _
  | ok c =>
    simp only [debugItem]
    split; · exact .esc 48 (by simp)
    split; · exact .esc 110 (by simp)
    split; · exact .esc 114 (by simp)
    split; · exact .esc 116 (by simp)
    split; · exact .esc 34 (by simp)
    split; · exact .esc 92 (by simp)
    exact .chr c ‹_› ‹_› ‹_› ‹_› ‹_› ‹_›

theorem debugItem_length_le (it : U16Item) : (debugItem it).length ≤ 6 := by
  have h := debugItem_tok it
  generalize debugItem it = t at h
  cases h with
  | chr c => have := utf8Enc_length_le c; omega
  | _ => simp

theorem flatMap_length_le {α : Type} (f : α → List Nat) (k : Nat) (h : ∀ a, (f a).length ≤ k) :
    ∀ l : List α, (l.flatMap f).length ≤ k * l.length := by
  intro l
  induction l with
  | nil => simp
  | cons a l ih =>
    simp only [List.flatMap_cons, List.length_append, List.length_cons]
    have := h a
    rw [Nat.mul_add]; omega

/-- **C03, Display of a wide string**: at most four bytes per code unit, for every word list -/
theorem C03_wdisplay_length (ws : List Nat) : (display ws).length ≤ 4 * ws.length := by
  unfold display
  have h1 := flatMap_length_le displayItem 4 displayItem_length_le (decodeUtf16 ws)
  have h2 := C03_wstr_items_le ws
  calc _ ≤ 4 * (decodeUtf16 ws).length := h1
    _ ≤ 4 * ws.length := Nat.mul_le_mul_left 4 h2

/-- the sharp bound for genuine 16-bit input: three bytes per code unit (a pair: four bytes for two units) -/
theorem C03_wdisplay_length_u16 (ws : List Nat) (h16 : ∀ w ∈ ws, w < 0x10000) :
    (display ws).length ≤ 3 * ws.length := by
  unfold display
  fun_induction decodeUtf16 ws
  · simp
  -- a lone unit, not a surrogate
  · rename_i u hu
    have := utf8Enc_length_bmp u (h16 u (by simp))
    simp [displayItem]; omega
  -- a lone surrogate
  · simp [displayItem]; decide
  -- not a surrogate, more follows
  · rename_i u u2 rest hu ih
    have h1 := utf8Enc_length_bmp u (h16 u (by simp))
    have h2 := ih (fun w hw => h16 w (List.mem_cons_of_mem _ hw))
    simp only [List.flatMap_cons, List.length_append, List.length_cons, displayItem] at h2 ⊢
    omega
  -- a low surrogate first
  · rename_i u u2 rest hu h2 ih
    have h2' := ih (fun w hw => h16 w (List.mem_cons_of_mem _ hw))
    have h3 : (utf8Enc 0xFFFD).length = 3 := by decide
    simp only [List.flatMap_cons, List.length_append, List.length_cons, displayItem] at h2' ⊢
    omega
  -- a high surrogate, no low one after it
  · rename_i u u2 rest hu h2 h3 ih
    have h2' := ih (fun w hw => h16 w (List.mem_cons_of_mem _ hw))
    have h3 : (utf8Enc 0xFFFD).length = 3 := by decide
    simp only [List.flatMap_cons, List.length_append, List.length_cons, displayItem] at h2' ⊢
    omega
  -- a pair
  · rename_i u u2 rest hu h2 h3 ih
    have h2' := ih (fun w hw => h16 w (List.mem_cons_of_mem _ (List.mem_cons_of_mem _ hw)))
    have := utf8Enc_length_le (u % 0x400 * 0x400 + u2 % 0x400 + 0x10000)
    simp only [List.flatMap_cons, List.length_append, List.length_cons, displayItem] at h2' ⊢
    omega

/-- **C03, Debug of a wide string**: `L"` + at most six bytes per code unit + `"` -/
theorem C03_wdebug_length (ws : List Nat) : (debug ws).length ≤ 6 * ws.length + 3 := by
  unfold debug
  have h1 := flatMap_length_le debugItem 6 debugItem_length_le (decodeUtf16 ws)
  have h2 := C03_wstr_items_le ws
  simp only [List.length_append, List.length_cons, List.length_nil]
  have : 6 * (decodeUtf16 ws).length ≤ 6 * ws.length := Nat.mul_le_mul_left 6 h2
  omega

/-- the serializer of a wide resource name (`collect_str` / `from_utf16_lossy`) writes the Display text -/
theorem C19_wide_name_json_is_display (ws : List Nat) :
    Pelite.Pe.resNameJson (.wide ws) = .str (display ws) := by
  unfold Pelite.Pe.resNameJson display
  rfl

theorem toStringItems_ok (its : List U16Item) (s : List Nat) (h : toStringItems its = .ok s) :
    its.flatMap displayItem = s ∧ ∀ it ∈ its, ∃ c, it = .ok c := by
  induction its generalizing s with
  | nil => simp [toStringItems] at h; simp [h]
  | cons it rest ih =>
    cases it with
    | bad u => simp [toStringItems] at h
    | ok c =>
      simp only [toStringItems] at h
      cases hr : toStringItems rest with
      | error u => rw [hr] at h; simp at h
      | ok s' =>
        rw [hr] at h
        have hs : utf8Enc c ++ s' = s := by simpa using h
        obtain ⟨h1, h2⟩ := ih s' hr
        refine ⟨by simp [displayItem, h1, hs], ?_⟩
        intro it hit
        simp at hit
        rcases hit with rfl | hit
        · exact ⟨c, rfl⟩
        · exact h2 it hit

theorem C13_to_string_is_display (ws s : List Nat) (h : toString ws = .ok s) : display ws = s :=
  (toStringItems_ok _ s h).1

/-- `to_string` fails with an unpaired surrogate that is in the string, and everything before it decodes -/
theorem toStringItems_error (its : List U16Item) (u : Nat) (h : toStringItems its = .error u) :
    ∃ pre post, its = pre ++ .bad u :: post ∧ ∀ it ∈ pre, ∃ c, it = .ok c := by
  induction its with
  | nil => simp [toStringItems] at h
  | cons it rest ih =>
    cases it with
    | bad v =>
      simp [toStringItems] at h
      exact ⟨[], rest, by simp [h], by simp⟩
    | ok c =>
      simp only [toStringItems] at h
      cases hr : toStringItems rest with
      | ok s' => rw [hr] at h; simp at h
      | error v =>
        rw [hr] at h
        have hv : v = u := by simpa using h
        subst hv
        obtain ⟨pre, post, h1, h2⟩ := ih hr
        refine ⟨.ok c :: pre, post, by simp [h1], ?_⟩
        intro it hit
        simp at hit
        rcases hit with rfl | hit
        · exact ⟨c, rfl⟩
        · exact h2 it hit

theorem toStringItems_map_ok (cs : List Nat) : toStringItems (cs.map .ok) = .ok (cs.flatMap utf8Enc) := by
  induction cs with
  | nil => rfl
  | cons c cs ih => simp [toStringItems, ih]

theorem C12_eq_str_to_string (ws cs : List Nat) (h : eqChars ws cs = true) :
    toString ws = .ok (cs.flatMap utf8Enc) := by
  unfold eqChars at h
  have : decodeUtf16 ws = cs.map .ok := by simpa using h
  unfold toString; rw [this]; exact toStringItems_map_ok cs

/-- the comparison `find` uses for a wide directory-entry name is this one -/
theorem C12_name_eq_string_is_eqChars (ws s : List Nat) :
    Resources.Name.eqString (.wide ws) s = eqChars ws (Resources.strChars s) := by
  simp [Resources.Name.eqString, eqChars]

/-- `from_words`: the prefix word is the length, the string is exactly that many following words;
rejected exactly when the slice is empty or shorter than announced -/
theorem C12_from_words (n : Nat) (rest : List Nat) :
    (fromWords (n :: rest) = none ↔ rest.length < n) ∧
    (∀ s, fromWords (n :: rest) = some s → s.length = n ∧ s = rest.take n) := by
  simp only [fromWords]
  constructor
  · constructor
    · intro h; split at h
      · simp at h
      · omega
    · intro h; rw [if_neg (by omega)]
  · intro s h
    split at h
    · simp at h; subst h; simp; omega
    · simp at h

/-! ### Debug is unambiguous -/

/-- **every item of the Debug body is an escape or a character that needs none** -/
theorem C03_wdebug_tokens (ws : List Nat) :
    ∃ toks : List (List Nat), debug ws = [76, 34] ++ toks.flatten ++ [34] ∧ (∀ t ∈ toks, DbgTok t) ∧ toks.length ≤ ws.length := by
  refine ⟨(decodeUtf16 ws).map debugItem, ?_, ?_, ?_⟩
  · simp [debug, List.flatMap]
  · intro t ht
    simp at ht
    obtain ⟨it, _, rfl⟩ := ht
    exact debugItem_tok it
  · simpa using C03_wstr_items_le ws

/-- the bytes of an unescaped character are never a control byte the escapes stand for, a quote or a backslash -/
theorem utf8Enc_bytes_clean (c : Nat) (h0 : c ≠ 0) (h1 : c ≠ 10) (h2 : c ≠ 13) (h3 : c ≠ 9) (h4 : c ≠ 34) (h5 : c ≠ 92) :
    ∀ b ∈ utf8Enc c, b ≠ 0 ∧ b ≠ 10 ∧ b ≠ 13 ∧ b ≠ 9 ∧ b ≠ 34 ∧ b ≠ 92 := by
  intro b hb
  unfold utf8Enc at hb
  split at hb
  · simp at hb; subst hb; exact ⟨h0, h1, h2, h3, h4, h5⟩
  · split at hb
    · simp at hb; rcases hb with rfl | rfl <;> omega
    · split at hb
      · simp at hb; rcases hb with rfl | rfl | rfl <;> omega
      · simp at hb; rcases hb with rfl | rfl | rfl | rfl <;> omega

/-! ### the premises are satisfiable / the statements are about something -/

-- the unit test of wide_str.rs: `a`, unpaired 0xd800, `b`
example : display [97, 0xD800, 98] = [97, 0xEF, 0xBF, 0xBD, 98] := by decide +kernel
example : debug [97, 0xD800, 98] = [76, 34, 97, 92, 117, 100, 56, 48, 48, 98, 34] := by decide +kernel
example : debug [0, 10, 13, 9, 34, 92] = [76, 34, 92, 48, 92, 110, 92, 114, 92, 116, 92, 34, 92, 92, 34] := by decide +kernel
-- a surrogate pair: U+1F600
example : display [0xD83D, 0xDE00] = [0xF0, 0x9F, 0x98, 0x80] := by decide +kernel
example : toString [0xD83D, 0xDE00] = .ok [0xF0, 0x9F, 0x98, 0x80] := by rfl
example : toString [97, 0xDC00, 98] = .error 0xDC00 := by rfl
example : eqChars [0xD83D, 0xDE00] [0x1F600] = true := by decide +kernel
example : eqChars [0xD83D] [0xFFFD] = false := by decide +kernel
-- the three-bytes-per-unit bound is attained (U+FFFF), the four-byte case needs two units
example : (display [0xFFFF]).length = 3 * 1 := by decide +kernel
example : fromWords [2, 65, 66, 67] = some [65, 66] ∧ fromWords [3, 65, 66] = none ∧ fromWords [] = none := by decide +kernel

end Pelite.WStrFmt
