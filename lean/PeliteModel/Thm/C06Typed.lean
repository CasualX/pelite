import PeliteModel.Thm.C06Slice
/-!
C06 for the TYPED reads at the alignments of the Rust types: `derva`, `derva_copy`, `derva_into`, `derva_slice`, in the
pattern of `C06_same_slice` with the placement condition `(base + rva) % a = 0` of `C06_sentinel_same`: the converted
buffer must be placed so that the rva is aligned for the element type there too (in the file it is: the file view answered).
`w` is any view `PeView::from_bytes` constructs over `v.to_view()` placed at `base` (`C06_to_view_accepted`).
-/
namespace Pelite.Pe

/-- **Same `derva`.**  A `T` (`size_of = size`, `align_of = a`) the file view hands out at `rva`, all of it in
mapped bytes, is handed out by the converted view at offset `rva` of its buffer — inside that buffer,
aligned for `T` — and consists of the same bytes. -/
theorem C06_derva_same (f : Fmt) (img : Img) (v : View) (hv : fromBytes f .file img = .ok v)
    (hl : Loadable v) (base : Nat) (w : View) (hw : fromBytes f .view ⟨v.toView, base⟩ = .ok w)
    (rva size a : Nat) (hr : rva < 4294967296) (ha : (base + rva) % a = 0) (r : Ref)
    (hd : v.derva (.rva rva) size a = .ok r)
    (hmapped : ∀ s, firstV v.secs rva = some s → rva - s.va + size ≤ s.vs) :
    ∃ r', w.derva (.rva rva) size a = .ok r' ∧ r' = ⟨rva, size, a⟩ ∧ RefOK w.img r' ∧
      ∀ i, i < size → byteAt w.b (r'.off + i) = byteAt v.b (r.off + i) := by
  obtain ⟨s0, hs0, rfl⟩ := (C05_derva v (.rva rva) size a r).1 hd
  obtain ⟨r', h1, h2, h3, h4, ⟨h5, h6⟩, h7⟩ :=
    C06_same_slice_aligned f img v hv hl base w hw rva size a hr ha s0 hs0 hmapped
  refine ⟨⟨rva, size, a⟩, ?_, rfl, ⟨?_, ?_⟩, h7⟩
  · rw [(C05_derva w (.rva rva) size a ⟨rva, size, a⟩).2 ⟨r', h1, by rw [h2]⟩]
  · show rva + size ≤ w.img.bytes.size
    rw [h2] at h5; omega
  · show (w.img.base + rva) % a = 0
    rw [h2, h4] at h6; exact h6

/-- **Same `derva_copy`.**  The VALUE read (unaligned copy) is the same number. -/
theorem C06_derva_copy_same (f : Fmt) (img : Img) (v : View) (hv : fromBytes f .file img = .ok v)
    (hl : Loadable v) (base : Nat) (w : View) (hw : fromBytes f .view ⟨v.toView, base⟩ = .ok w)
    (rva size : Nat) (hr : rva < 4294967296) (x : Nat) (hd : v.dervaCopy (.rva rva) size = .ok x)
    (hmapped : ∀ s, firstV v.secs rva = some s → rva - s.va + size ≤ s.vs) :
    w.dervaCopy (.rva rva) size = .ok x := by
  obtain ⟨s0, hs0, rfl⟩ := (C05_derva_copy v (.rva rva) size x).1 hd
  obtain ⟨r', h1, h2, -, -, -, h7⟩ :=
    C06_same_slice_aligned f img v hv hl base w hw rva size 1 hr (Nat.mod_one _) s0 hs0 hmapped
  refine (C05_derva_copy w (.rva rva) size _).2 ⟨r', h1, ?_⟩
  rw [h2]
  exact (leN_same_bytes (b := v.b) (b' := w.b) (o := s0.off) (o' := rva) h7).symm

/-- **Same `derva_into`.**  The bytes copied out are the same list. -/
theorem C06_derva_into_same (f : Fmt) (img : Img) (v : View) (hv : fromBytes f .file img = .ok v)
    (hl : Loadable v) (base : Nat) (w : View) (hw : fromBytes f .view ⟨v.toView, base⟩ = .ok w)
    (rva len : Nat) (hr : rva < 4294967296) (out : List UInt8) (hd : v.dervaInto (.rva rva) len = .ok out)
    (hmapped : ∀ s, firstV v.secs rva = some s → rva - s.va + len ≤ s.vs) :
    w.dervaInto (.rva rva) len = .ok out := by
  obtain ⟨s0, hs0, hlen, hout⟩ := (C05_derva_into v (.rva rva) len out).1 hd
  obtain ⟨r', h1, h2, -, -, -, h7⟩ :=
    C06_same_slice_aligned f img v hv hl base w hw rva len 1 hr (Nat.mod_one _) s0 hs0 hmapped
  refine (C05_derva_into w (.rva rva) len out).2 ⟨r', h1, hlen, ?_⟩
  intro i hi
  rw [hout i hi, h2]
  have := h7 i hi
  unfold byteAt at this
  exact congrArg some (UInt8.toNat_inj.1 this).symm

/-- **Same `derva_slice`.**  A fixed-length array of `len` elements (`size_of = size`, `align_of = a`). -/
theorem C06_derva_slice_same (f : Fmt) (img : Img) (v : View) (hv : fromBytes f .file img = .ok v)
    (hl : Loadable v) (base : Nat) (w : View) (hw : fromBytes f .view ⟨v.toView, base⟩ = .ok w)
    (rva size a len : Nat) (hr : rva < 4294967296) (ha : (base + rva) % a = 0) (r : Ref)
    (hd : v.dervaSlice (.rva rva) size a len = .ok r)
    (hmapped : ∀ s, firstV v.secs rva = some s → rva - s.va + size * len ≤ s.vs) :
    ∃ r', w.dervaSlice (.rva rva) size a len = .ok r' ∧ r' = ⟨rva, size * len, a⟩ ∧ RefOK w.img r' ∧
      ∀ i, i < size * len → byteAt w.b (r'.off + i) = byteAt v.b (r.off + i) := by
  -- `derva_slice` is `derva` at the size of the whole array behind the overflow test
  obtain ⟨hov, hd'⟩ := (C05_derva_slice v (.rva rva) size a len r).1 hd
  obtain ⟨r', h1, h2⟩ := C06_derva_same f img v hv hl base w hw rva (size * len) a hr ha r
    ((C05_derva v (.rva rva) (size * len) a r).2 hd') hmapped
  exact ⟨r', (C05_derva_slice w (.rva rva) size a len r').2 ⟨hov, (C05_derva w (.rva rva) (size * len) a r').1 h1⟩, h2⟩

/-! ### witnesses: PE32+ (alignments 2, 4, 8) and PE32 (alignments 2, 4; stored and mapped at DIFFERENT offsets) -/

/-- PE32+ is covered: `demo64File` (Lemmas/Typed.lean) is `LoadableFile` and its VA space does not wrap -/
example : fromBytes .pe64 .file demo64Img = .ok demo64File ∧ LoadableFile demo64File ∧ demo64File.NoWrap := by
  refine ⟨demo64File_ok, ?_⟩
  unfold LoadableFile Loadable View.NoWrap
  simp only [demo64File_layout.eqs]
  decide +kernel

/-- the view `PeView::from_bytes` constructs over the converted buffer of `demo64File` placed at address 0 -/
def demo64W : View := ⟨⟨demo64File.toView, 0⟩, .pe64, .view, imageBaseField .pe64 demo64File.toView⟩

/-- all hypotheses together on the PE32+ file: accepted, `LoadableFile`, the converted view constructed, and
the file view answers a `u16` at rva 262 (file offset 246), a `u32` at 260 (244), a `u64` at 256 (240), a
`[u16; 3]` at 260 and an 8-byte copy — all inside the 16 stored of the 24 mapped bytes of its section -/
theorem C06_typed_witness64 :
    fromBytes .pe64 .file demo64Img = .ok demo64File ∧ LoadableFile demo64File ∧
    fromBytes .pe64 .view ⟨demo64File.toView, 0⟩ = .ok demo64W ∧
    (∀ rva, rva < 272 → 256 ≤ rva → firstV demo64File.secs rva = some ⟨0x7461642e, 0x61, 24, 256, 16, 240, 0⟩) ∧
    demo64File.derva (.rva 262) 2 2 = .ok ⟨246, 2, 2⟩ ∧ demo64File.derva (.rva 260) 4 4 = .ok ⟨244, 4, 4⟩ ∧
    demo64File.derva (.rva 256) 8 8 = .ok ⟨240, 8, 8⟩ ∧ demo64File.dervaSlice (.rva 260) 2 2 3 = .ok ⟨244, 6, 2⟩ ∧
    demo64File.dervaCopy (.rva 262) 2 = .ok 9 ∧ demo64File.dervaInto (.rva 256) 3 = .ok [104, 105, 0] := by
  have h : LoadableFile demo64File ∧ demo64File.secs = [⟨0x7461642e, 0x61, 24, 256, 16, 240, 0⟩] ∧
      demo64File.derva (.rva 262) 2 2 = .ok ⟨246, 2, 2⟩ ∧ demo64File.derva (.rva 260) 4 4 = .ok ⟨244, 4, 4⟩ ∧
      demo64File.derva (.rva 256) 8 8 = .ok ⟨240, 8, 8⟩ ∧ demo64File.dervaSlice (.rva 260) 2 2 3 = .ok ⟨244, 6, 2⟩ ∧
      demo64File.dervaCopy (.rva 262) 2 = .ok 9 ∧ demo64File.dervaInto (.rva 256) 3 = .ok [104, 105, 0] := by
    rw [LoadableFile, Loadable, View.derva, View.derva, View.derva, View.dervaSlice]
    simp only [demo64File_at_rva, demo64File_layout.eqs]
    decide +kernel
  obtain ⟨h2, hsecs, rest⟩ := h
  refine ⟨demo64File_ok, h2, C06_to_view_accepted _ _ _ demo64File_ok h2 0 (by decide), ?_, rest⟩
  -- the one section spans [256, 280)
  intro rva hlt hge
  rw [hsecs, firstV_cons, if_pos ((containsRva_iff _ _).2 ⟨hge, Nat.lt_trans hlt (by decide)⟩)]

/-- … and what the theorems conclude there, derived from them (nothing below evaluates the converted view):
the references at the rvas, aligned 2 / 4 / 8, the same value and the same bytes -/
example :
    demo64W.derva (.rva 262) 2 2 = .ok ⟨262, 2, 2⟩ ∧ demo64W.derva (.rva 260) 4 4 = .ok ⟨260, 4, 4⟩ ∧
    demo64W.derva (.rva 256) 8 8 = .ok ⟨256, 8, 8⟩ ∧ RefOK demo64W.img ⟨256, 8, 8⟩ ∧
    byteAt demo64W.b 256 = byteAt demo64File.b 240 ∧
    demo64W.dervaSlice (.rva 260) 2 2 3 = .ok ⟨260, 6, 2⟩ ∧
    demo64W.dervaCopy (.rva 262) 2 = .ok 9 ∧ demo64W.dervaInto (.rva 256) 3 = .ok [104, 105, 0] := by
  obtain ⟨h1, h2, h3, hf, d2, d4, d8, ds, dc, di⟩ := C06_typed_witness64
  have hm : ∀ (rva n : Nat), 256 ≤ rva → rva + n ≤ 272 → 0 < n →
      ∀ s, firstV demo64File.secs rva = some s → rva - s.va + n ≤ s.vs := by
    intro rva n a b c s hs
    rw [hf rva (by omega) a] at hs
    cases hs
    show rva - 256 + n ≤ 24
    omega
  obtain ⟨r2, a2, rfl, -, -⟩ := C06_derva_same _ _ _ h1 h2.1 0 _ h3 262 2 2 (by decide) (by decide) _ d2
    (hm 262 2 (by decide) (by decide) (by decide))
  obtain ⟨r4, a4, rfl, -, -⟩ := C06_derva_same _ _ _ h1 h2.1 0 _ h3 260 4 4 (by decide) (by decide) _ d4
    (hm 260 4 (by decide) (by decide) (by decide))
  obtain ⟨r8, a8, rfl, ok8, b8⟩ := C06_derva_same _ _ _ h1 h2.1 0 _ h3 256 8 8 (by decide) (by decide) _ d8
    (hm 256 8 (by decide) (by decide) (by decide))
  obtain ⟨rs, as, rfl, -, -⟩ := C06_derva_slice_same _ _ _ h1 h2.1 0 _ h3 260 2 2 3 (by decide) (by decide) _ ds
    (hm 260 (2 * 3) (by decide) (by decide) (by decide))
  exact ⟨a2, a4, a8, ok8, b8 0 (by decide), as,
    C06_derva_copy_same _ _ _ h1 h2.1 0 _ h3 262 2 (by decide) _ dc (hm 262 2 (by decide) (by decide) (by decide)),
    C06_derva_into_same _ _ _ h1 h2.1 0 _ h3 256 3 (by decide) _ di (hm 256 3 (by decide) (by decide) (by decide))⟩

/-- PE32, two sections, ".bss" stored at file offset 284 and mapped at rva 288 (`C06_slice_witness`): the
`u32` the file view hands out at ⟨284, 4⟩ is handed out by the converted view at ⟨288, 4⟩, 4-aligned, with the
same value `0xffff0005`; an 8-aligned read of it is refused by the FILE view (284 is not a multiple of 8), so the
theorems — whose hypothesis is the file view's answer — say nothing there -/
example :
    twoSecV.derva (.rva 288) 4 4 = .ok ⟨284, 4, 4⟩ ∧ twoSecW.derva (.rva 288) 4 4 = .ok ⟨288, 4, 4⟩ ∧
    twoSecV.dervaCopy (.rva 288) 4 = .ok 0xffff0005 ∧ twoSecW.dervaCopy (.rva 288) 4 = .ok 0xffff0005 ∧
    twoSecW.dervaSlice (.rva 288) 2 2 2 = .ok ⟨288, 4, 2⟩ ∧
    twoSecV.derva (.rva 288) 4 8 = .err .misaligned := by
  obtain ⟨h1, h2, -, h4, h5, -, -, -, -⟩ := C06_slice_witness
  have hm : ∀ s, firstV twoSecV.secs 288 = some s → 288 - s.va + 4 ≤ s.vs := by
    intro s hs; rw [h5] at hs; cases hs; decide
  have h : twoSecV.derva (.rva 288) 4 4 = .ok ⟨284, 4, 4⟩ ∧ twoSecV.dervaCopy (.rva 288) 4 = .ok 0xffff0005 ∧
      twoSecV.dervaSlice (.rva 288) 2 2 2 = .ok ⟨284, 4, 2⟩ ∧ twoSecV.derva (.rva 288) 4 8 = .err .misaligned := by
    have hdr := twoSecPe32_hdr.of_eq (w := twoSecV) rfl rfl
    rw [View.derva, View.derva, View.dervaCopy, View.dervaSlice]
    simp only [View.at_rva_file rfl hdr.size hdr.secs]
    decide +kernel
  obtain ⟨d4, dc, ds, d8⟩ := h
  obtain ⟨r4, a4, rfl, -, -⟩ := C06_derva_same _ _ _ h1 h2.1 0 _ h4 288 4 4 (by decide) (by decide) _ d4 hm
  obtain ⟨rs, as, rfl, -, -⟩ := C06_derva_slice_same _ _ _ h1 h2.1 0 _ h4 288 2 2 2 (by decide) (by decide) _ ds hm
  exact ⟨d4, a4, dc, C06_derva_copy_same _ _ _ h1 h2.1 0 _ h4 288 4 (by decide) _ dc hm, as, d8⟩

end Pelite.Pe
