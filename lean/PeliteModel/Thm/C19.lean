import PeliteModel.Lemmas.Json
import PeliteModel.Thm.C07
import PeliteModel.Thm.C14
/-!
C19 — format-agnostic wrappers and JSON serialization mirror the format-specific API.
The wrappers are sum-type dispatch; in the model a wrapped view IS the view of the selected format,
so "every method returns what the selected API returns" is carried by the correspondence run
(every operation through `wf`/`wv` and through the specific constructor on the same image, compared
with each other and with the model).  What the theorems add: the selection itself, and the header
part of the serializer (headers, details, base relocations).  The serializer as a whole — all ten
members of the document, totality, per-member equalities, well-formedness of the printed text — is
`Thm/C19Json.lean`; the non-delegating wrapper methods are `Thm/C19Wrap.lean`.
-/
namespace Pelite.Pe

/-- The agnostic constructor returns exactly what the parser of the selected format returns, and
that format is the one named by the optional-header magic. -/
theorem C19_wrap_is_selected_parser (k : Kind) (img : Img) (v : View) (h : wrapFromBytes k img = .ok v) :
    fromBytes v.fmt k img = .ok v ∧ optMagic img.bytes = v.fmt.magic := by
  exact ⟨wrap_ok_imp k img v h, (C07_wrap_selects_magic k img v h).1⟩

/-- … and when it fails, its error is the PE32+ parser's, or — where that one refuses the magic — the PE32 parser's. -/
theorem C19_wrap_error (k : Kind) (img : Img) (e : Err) (h : wrapFromBytes k img = .err e) :
    fromBytes .pe64 k img = .err e ∨ (fromBytes .pe64 k img = .err .peMagic ∧ fromBytes .pe32 k img = .err e) := by
  unfold wrapFromBytes at h
  split at h
  · cases h
  · rename_i h64
    exact .inr ⟨h64, h⟩
  · exact .inl h

/-- `View.headerJson` is the part of "headers" the driver reports and the header theorems speak of.  Its scalar fields are
the accessor values by definition (the first eight conjuncts); of these the document itself carries the data-directory
list, the sections and the computed checksum (the serialized scalars are the `fieldsJson` reads of `headersJson`,
Thm/C19Layout.lean).  The content is in the last two conjuncts: the list is the directory table, entry by entry. -/
theorem C19_json_header_fields (v : View) :
    v.headerJson.eLfanew = eLfanew v.b ∧ v.headerJson.numberOfSections = numberOfSections v.b ∧
    v.headerJson.sizeOfImage = sizeOfImage v.b ∧ v.headerJson.sizeOfHeaders = sizeOfHeaders v.b ∧
    v.headerJson.imageBase = imageBaseField v.fmt v.b ∧ v.headerJson.checkSumField = checkSumField v.b ∧
    v.headerJson.sections = v.secs ∧ v.headerJson.detCheckSum = v.checkSum ∧
    v.headerJson.dataDirectory.length = numDataDirs v.fmt v.b ∧
    (∀ i, i < numDataDirs v.fmt v.b → v.headerJson.dataDirectory[i]? = v.dataDir i) := by
  refine ⟨rfl, rfl, rfl, rfl, rfl, rfl, rfl, rfl, ?_, fun i hi => ?_⟩
  · rw [headerJson_dataDirectory, List.length_map, List.length_range]
  · rw [headerJson_dataDirectory, dataDir_of_lt v hi, List.getElem?_map, List.getElem?_range hi]
    rfl

/-- "DataDirectory.Sections": index of the first section whose `[VirtualAddress, +VirtualSize)`
contains the directory's address (no overflow: the comparison is on the offset). -/
theorem C19_dd_section_first (secs : List Sec) (va : Nat) :
    ddSection secs va = secs.findIdx? (fun s => decide (s.va ≤ va ∧ va - s.va < s.vs)) := by
  induction secs with
  | nil => rfl
  | cons s rest ih =>
    simp only [ddSection, List.findIdx?_cons, ge_iff_le, ih]
    split <;> simp_all

/-- The serialized relocations are those of the directory `Pe::base_relocs` extracts: `Size` bytes
at the directory's address, inside the buffer and 4-aligned. -/
theorem C19_base_relocs_ref (f : Fmt) (k : Kind) (img : Img) (v : View) (hv : fromBytes f k img = .ok v)
    (r : Ref) (h : v.baseRelocsRef = .ok r) :
    RefOK v.img r ∧ r.align = 4 ∧ ∃ va, v.dataDir 5 = some (va, r.len) := by
  obtain ⟨hok, hal, hdd, _⟩ := (Relocs.C14_extraction f k img v hv).2.1 r h
  exact ⟨hok, hal, hdd⟩

/-- without the directory — fewer than 6 data directories, or rva 0 —: `Null`, never an empty table -/
theorem C19_base_relocs_absent (v : View) :
    (v.dataDir 5 = none → v.baseRelocsRef = .err .null) ∧
    (∀ size, v.dataDir 5 = some (0, size) → v.baseRelocsRef = .err .null) :=
  baseRelocsRef_absent v

/-! ### non-vacuity: the C05 demo image extended to 6 data directories, relocation directory at 232 (+12) -/

def relocImg : Img := ⟨
    #[77, 90, 0, 0, 0, 0, 0, 0, 0, 0, 0, 0, 0, 0, 0, 0, 0, 0, 0, 0, 0, 0, 0, 0, 0, 0, 0, 0, 0, 0, 0,
    0, 0, 0, 0, 0, 0, 0, 0, 0, 0, 0, 0, 0, 0, 0, 0, 0, 0, 0, 0, 0, 0, 0, 0, 0, 0, 0, 0, 0, 64, 0, 0,
    0, 80, 69, 0, 0, 0, 0, 0, 0, 0, 0, 0, 0, 0, 0, 0, 0, 0, 0, 0, 0, 96, 0, 0, 0, 11, 1, 0, 0, 0, 0,
    0, 0, 0, 0, 0, 0, 0, 0, 0, 0, 0, 0, 0, 0, 0, 0, 0, 0, 0, 0, 0, 0, 0, 0, 64, 0, 0, 0, 0, 0, 0, 0,
    0, 0, 0, 0, 0, 0, 0, 0, 0, 0, 0, 0, 0, 0, 0, 0, 0, 0, 200, 0, 0, 0, 184, 0, 0, 0, 0, 0, 0, 0, 0,
    0, 0, 0, 0, 0, 0, 0, 0, 0, 0, 0, 0, 0, 0, 0, 0, 0, 0, 0, 0, 0, 0, 0, 6, 0, 0, 0, 0, 0, 0, 0, 0,
    0, 0, 0, 0, 0, 0, 0, 0, 0, 0, 0, 0, 0, 0, 0, 0, 0, 0, 0, 0, 0, 0, 0, 0, 0, 0, 0, 0, 0, 0, 0, 0,
    0, 0, 0, 232, 0, 0, 0, 12, 0, 0, 0, 0, 0, 0, 0, 0, 0, 0, 0, 0, 0, 0, 0, 0, 0, 0, 0], 0⟩

def relocView : View := ⟨relocImg, .pe32, .view, 0x400000⟩

example : wrapFromBytes .view relocImg = .ok relocView ∧ fromBytes .pe32 .view relocImg = .ok relocView ∧
    fromBytes .pe64 .view relocImg = .err .peMagic ∧
    wrapFromBytes .file ⟨relocImg.bytes.extract 0 63, 0⟩ = .err .bounds ∧
    relocView.dataDir 5 = some (232, 12) ∧ relocView.baseRelocsRef = .ok ⟨232, 12, 4⟩ ∧
    relocView.headerJson.dataDirectory.length = 6 ∧ relocView.dataDir 6 = none ∧
    ddSection [⟨0, 0, 16, 4096, 0, 0, 0⟩, ⟨0, 0, 16, 8192, 0, 0, 0⟩] 8200 = some 1 := by
  have ⟨hacc, hbase, h64, hshort⟩ : Accept .pe32 relocImg ∧ imageBaseField .pe32 relocImg.bytes = 0x400000 ∧
      validate .pe64 relocImg = .err .peMagic ∧ validate .pe64 ⟨relocImg.bytes.extract 0 63, 0⟩ = .err .bounds := by
    -- the header reads as digits of the image's number (Prim/Basic, reads as digits of one number)
    simp only [Accept, hdr_toNat, le16_toNat, le32_toNat]
    decide +kernel
  have h32 : fromBytes .pe32 .view relocImg = .ok relocView := (fromBytes_ok_iff _ _ _ _).2 ⟨hacc, by rw [hbase]; rfl⟩
  refine ⟨C07_wrap_complete _ _ _ _ h32, h32, fromBytes_err_of_validate h64, ?_, by decide +kernel⟩
  unfold wrapFromBytes
  rw [fromBytes_err_of_validate hshort]

end Pelite.Pe
