import PeliteModel.Thm.C13
import PeliteModel.Lemmas.VersionSpecQueries
import PeliteModel.Lemmas.VersionLayout
/-!
C13 — the queries of `VersionInfo` against the abstract content of the resource: every query of the model, run on a
block that lays out an abstract resource `v` as documented (`Spec.VInfo.IsBlock`; the reference writer's block is one),
answers what the specification derives from `v` alone (`Spec/Version.lean`: `fixedInfoOf`, `translationsOf`, `stringsOf`,
`valueOf`, `stringMapsOf`; text is UTF-16 read as the Unicode standard says, `Spec.text`).

Each side condition is a decidable predicate of `v` and is necessary: the witnesses below (and
`C13_file_info_needs_distinct_languages`, `C13_value_needs_valid_keys` in `Thm/C13.lean`) are written
resources on which the query answers something else.  The driver prints the `spec=` answers of the
`ver` family through the same `Spec` definitions.
-/
namespace Pelite.Version
open Spec

/-! ## the specification's text is the model's -/

/-- `String::from_utf16_lossy` (model) is the specification's reading of UTF-16, and
`char::decode_utf16` yields no error exactly on well-formed UTF-16. -/
theorem C13_text_is_lossy (ws : List Nat) : lossy ws = text ws ∧ validUtf16 ws = wellFormed16 ws :=
  ⟨lossy_eq_text ws, validUtf16_eq ws⟩

/-! ## the side conditions are satisfiable and necessary -/

/-- the sample of `Thm/C13.lean` meets every side condition, and the answers are not trivial -/
example : sample.wf = true ∧ sample.queriesDetermined = true ∧
    stringsOf sample (0x409, 1200) = [([65], []), ([66, 99], []), ([68, 101, 102], [120, 0, 121])] ∧
    valueOf sample (0x409, 1200) [68, 101, 102] = some [120, 0, 121] ∧
    stringMapsOf sample = [((0x409, 1200), [([65], []), ([66, 99], []), ([68, 101, 102], [120, 0, 121])])] ∧
    fixedInfoOf sample = some (List.replicate 26 7) ∧ translationsOf sample = [(0x409, 1200)] := by
  decide +kernel

/-- a table whose key is not 8 hex digits ("0000004g") -/
def badLangKey : VInfo :=
  ⟨ofString "V", [], [.stringInfo [⟨ofString "0000004g", [⟨[65], [49, 0]⟩]⟩]]⟩

/-- The hex-digits condition is needed: `Language::parse` reads 'g' as the digit 16, so the table
is enumerated for the language (0, 0x50) although its key names no language. -/
theorem C13_strings_needs_hex_language_keys :
    badLangKey.wf = true ∧ badLangKey.langKeysOk = false ∧
    strings (block (badLangKey.encode false)) ⟨0, 0x50⟩ = .ok [([65], [49])] ∧
    stringsOf badLangKey (0, 0x50) = [] := by
  decide +kernel

/-- a table that stores the key "A" twice -/
def twiceTheKey : VInfo :=
  ⟨ofString "V", [], [.stringInfo [⟨ofString "000004b0", [⟨[65], [49, 0]⟩, ⟨[65], [50, 0]⟩]⟩]]⟩

/-- The distinct-keys condition is needed: the hash map keeps one of the two entries. -/
theorem C13_file_info_needs_distinct_keys :
    twiceTheKey.wf = true ∧ twiceTheKey.keysDistinct = false ∧
    (fileInfo (block (twiceTheKey.encode false))).bind (fun fi => .ok (decide (fi.strings = [(⟨0, 1200⟩, [([65], [50])])])))
      = .ok true ∧
    stringMapsOf twiceTheKey = [((0, 1200), [([65], [49]), ([65], [50])])] := by
  decide +kernel

/-- The distinct-languages condition is needed (against the specification): of `twoTables` the
hash map holds only the second table. -/
theorem C13_file_info_needs_distinct_languages_spec :
    twoTables.langsDistinct = false ∧
    (fileInfo (block (twoTables.encode false))).bind (fun fi => .ok (decide (fi.strings = [(⟨0, 1200⟩, [([66], [50])])])))
      = .ok true ∧
    stringMapsOf twoTables = [((0, 1200), [([65], [49])]), ((0, 1200), [([66], [50])])] := by
  decide +kernel

/-- The valid-keys condition is needed (against the specification): the key D800 reads as the
text U+FFFD, `value` asked for U+FFFD finds nothing. -/
theorem C13_value_needs_valid_keys_spec :
    loneSurrogateKey.keysValid = false ∧
    value (block (loneSurrogateKey.encode false)) ⟨0, 1200⟩ [0xFFFD] = .ok none ∧
    valueOf loneSurrogateKey (0, 1200) [0xFFFD] = some [49] := by
  decide +kernel

/-! ## every block laid out as documented

`v.IsBlock ws`: `ws` starts with a layout of `v`'s root structure.  No well-formedness hypothesis
on `v` is needed: a layout exists only when the keys can be written. -/

/-- `strings(lang)` on every documented layout (side condition as in `C13_strings_query_round_trip`) -/
theorem C13_layout_strings_query (v : VInfo) (ws : List Nat) (h : v.IsBlock ws)
    (hlang : v.langKeysOk = true) (l c : Nat) :
    strings (block ws) ⟨l, c⟩ = .ok (stringsOf v (l, c)) :=
  strings_of_reads _ (block_al _) v (root_layout v ws h 0) hlang l c

/-- `value(lang, key)` on every documented layout (side conditions as in `C13_value_query_round_trip`) -/
theorem C13_layout_value_query (v : VInfo) (ws : List Nat) (h : v.IsBlock ws)
    (hlang : v.langKeysOk = true) (hkeys : v.keysValid = true) (l c : Nat) (key : Str) :
    value (block ws) ⟨l, c⟩ key = .ok (valueOf v (l, c) key) :=
  value_of_reads _ (block_al _) v (root_layout v ws h 0) hlang hkeys l c key

/-- `file_info()` on every documented layout (side conditions as in `C13_file_info_round_trip`) -/
theorem C13_layout_file_info (v : VInfo) (ws : List Nat) (h : v.IsBlock ws)
    (hlang : v.langKeysOk = true) (hdl : v.langsDistinct = true) (hdk : v.keysDistinct = true) :
    ∃ fi, fileInfo (block ws) = .ok fi ∧
      fi.fixed.map (·.ws) = fixedInfoOf v ∧
      (match fi.langs with
       | some sl => (langsOf sl.ws).map (fun l => (l.langId, l.charsetId))
       | none => []) = translationsOf v ∧
      fi.strings.map (fun e => ((e.1.langId, e.1.charsetId), e.2)) = stringMapsOf v :=
  fileInfo_of_reads _ (block_al ws) v (root_layout v ws h 0) hlang hdl hdk

/-- **`fixed()`** hands out the root value iff it is the 52 bytes of VS_FIXEDFILEINFO, unaltered. -/
theorem C13_fixed_query_round_trip (tight : Bool) (v : VInfo) (hwf : v.wf = true) :
    ∃ f, fixed (block (v.encode tight)) = .ok f ∧ f.map (·.ws) = fixedInfoOf v :=
  C13_fixed_round_trip tight v hwf

/-- **`translation()`** hands out the (language, codepage) pairs of the Var named "Translation"
(the last one when there are several), the empty slice when there is none. -/
theorem C13_translation_query_round_trip (tight : Bool) (v : VInfo) (hwf : v.wf = true) :
    ∃ t, translation (block (v.encode tight)) = .ok t ∧
      (match t with
       | some sl => (langsOf sl.ws).map (fun l => (l.langId, l.charsetId))
       | none => []) = translationsOf v :=
  C13_translation_round_trip tight v hwf

/-- **`strings(lang)`** enumerates exactly the (key, value) pairs of the string tables that name
`lang`, in stored order, as text, each value without its terminating NUL.
Side condition: every string table key is 8 hex digits. -/
theorem C13_strings_query_round_trip (tight : Bool) (v : VInfo) (hwf : v.wf = true)
    (hlang : v.langKeysOk = true) (l c : Nat) :
    strings (block (v.encode tight)) ⟨l, c⟩ = .ok (stringsOf v (l, c)) :=
  C13_layout_strings_query v _ (C13_writer_produces_layout tight v hwf) hlang l c

/-- **`value(lang, key)`** answers the value stored under `key` in the tables that name `lang`.
Side conditions: table keys are 8 hex digits; string keys are well-formed UTF-16. -/
theorem C13_value_query_round_trip (tight : Bool) (v : VInfo) (hwf : v.wf = true)
    (hlang : v.langKeysOk = true) (hkeys : v.keysValid = true) (l c : Nat) (key : Str) :
    value (block (v.encode tight)) ⟨l, c⟩ key = .ok (valueOf v (l, c) key) :=
  C13_layout_value_query v _ (C13_writer_produces_layout tight v hwf) hlang hkeys l c key

/-- **`file_info()`** holds the fixed info, the translation list, and exactly one map per string
table, keyed by the language the table names, holding exactly the table's (key, value) pairs as text.
Side conditions: table keys are 8 hex digits naming pairwise distinct languages; within a table no two
keys are the same text. -/
theorem C13_file_info_round_trip (tight : Bool) (v : VInfo) (hwf : v.wf = true)
    (hlang : v.langKeysOk = true) (hdl : v.langsDistinct = true) (hdk : v.keysDistinct = true) :
    ∃ fi, fileInfo (block (v.encode tight)) = .ok fi ∧
      fi.fixed.map (·.ws) = fixedInfoOf v ∧
      (match fi.langs with
       | some sl => (langsOf sl.ws).map (fun l => (l.langId, l.charsetId))
       | none => []) = translationsOf v ∧
      fi.strings.map (fun e => ((e.1.langId, e.1.charsetId), e.2)) = stringMapsOf v :=
  C13_layout_file_info v _ (C13_writer_produces_layout tight v hwf) hlang hdl hdk

/-- Under all four side conditions every string query is determined by the abstract content
(`Spec.VInfo.queriesDetermined`, the `hyp` of the correspondence run). -/
theorem C13_queries_determined (tight : Bool) (v : VInfo) (hwf : v.wf = true) (h : v.queriesDetermined = true)
    (l c : Nat) (key : Str) :
    strings (block (v.encode tight)) ⟨l, c⟩ = .ok (stringsOf v (l, c)) ∧
    value (block (v.encode tight)) ⟨l, c⟩ key = .ok (valueOf v (l, c) key) ∧
    ∃ fi, fileInfo (block (v.encode tight)) = .ok fi ∧
      fi.strings.map (fun e => ((e.1.langId, e.1.charsetId), e.2)) = stringMapsOf v := by
  simp only [VInfo.queriesDetermined, Bool.and_eq_true] at h
  obtain ⟨⟨⟨h1, h2⟩, h3⟩, h4⟩ := h
  obtain ⟨fi, hfi, _, _, hs⟩ := C13_file_info_round_trip tight v hwf h1 h3 h4
  exact ⟨C13_strings_query_round_trip tight v hwf h1 l c, C13_value_query_round_trip tight v hwf h1 h2 l c key,
    fi, hfi, hs⟩

/-- **The layout relation has a decidable form**: `Spec.VInfo.isBlockB v ws` reads the choices off
the words; a block it accepts is a documented layout of `v`.  Every `C13_layout_*` theorem therefore
also holds under the decidable hypothesis `v.isBlockB ws = true` (the `lay=1` of the correspondence
run, where an independent writer makes the choices at random). -/
theorem C13_layout_test_sound (v : VInfo) (ws : List Nat) (h : v.isBlockB ws = true) : v.IsBlock ws :=
  isBlockB_sound v ws h

/-- the round trip under the decidable hypothesis -/
theorem C13_layout_round_trip_decidable (v : VInfo) (ws : List Nat) (h : v.isBlockB ws = true) :
    ∃ es, events (block ws) = .ok es ∧ es.map Event.erase = v.events :=
  C13_layout_round_trip v ws (isBlockB_sound v ws h)

/-- a layout that no writer convention produces: `wType` 7, the padding word after the odd key is
0xFFFF, and three words of something else follow the root -/
def oddLayout : List Nat := [12, 0, 7, 86, 0, 0xFFFF, 1, 2, 3]

/-- The relation is strictly larger than the writer's image, and satisfiable on such a block. -/
example : (⟨ofString "V", [], []⟩ : VInfo).IsBlock oddLayout ∧
    ∀ tight, (⟨ofString "V", [], []⟩ : VInfo).encode tight ≠ oddLayout := by
  refine ⟨⟨[12, 0, 7, 86, 0, 0xFFFF], [1, 2, 3], ?_, rfl⟩, by decide⟩
  unfold VInfo.node
  rw [IsNode]
  exact ⟨7, [0xFFFF], [], [], by decide, by simp [IsNodes], Or.inl rfl, Or.inl rfl, rfl⟩


/-- the test accepts it, and accepts what the reference writer writes for the sample with either
convention -/
example : (⟨ofString "V", [], []⟩ : VInfo).isBlockB oddLayout = true ∧
    sample.isBlockB (sample.encode true) = true ∧ sample.isBlockB (sample.encode false) = true := by
  decide +kernel

/-- the sample laid out with mixed choices: the string "A" (no value) ends right after its key while
the other structures keep Padding1, "Bc" keeps the padding after its value although it has no
children, padding words are 0xFFFF / 0xAAAA / 0xBBBB, `wType` is 9 throughout, and two more words
follow the root -/
def mixedLayout : List Nat :=
  [272, 52, 9] ++ ofString "VS_VERSION_INFO" ++ [0, 0xFFFF] ++ List.replicate 26 7 ++
  -- VarFileInfo { Translation = 0x409, 1200 }
  ([68, 0, 9] ++ ofString "VarFileInfo" ++ [0, 0xAAAA] ++
    ([36, 4, 9] ++ ofString "Translation" ++ [0, 0xFFFF] ++ [0x409, 1200])) ++
  -- StringFileInfo { "040904b0" { A, Bc = "", Def = "x\0y" } }
  ([112, 0, 9] ++ ofString "StringFileInfo" ++ [0] ++
    ([76, 0, 9] ++ ofString "040904b0" ++ [0] ++
      ([10, 0, 9, 65, 0] ++ [0xAAAA] ++
       [16, 1, 9, 66, 99, 0, 0, 0xBBBB] ++
       [24, 4, 9, 68, 101, 102, 0, 0xAAAA, 120, 0, 121, 0]))) ++
  [1, 2]

/-- it is a documented layout of `sample` (by the test), not the writer's image, and is read back
as `sample` -/
example : sample.isBlockB mixedLayout = true ∧ (∀ tight, sample.encode tight ≠ mixedLayout) ∧
    (events (block mixedLayout)).bind (fun es => .ok (decide (es.map Event.erase = sample.events))) = .ok true := by
  decide +kernel

end Pelite.Version
