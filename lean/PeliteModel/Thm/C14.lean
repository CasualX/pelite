import PeliteModel.Lemmas.Relocs
import PeliteModel.Lemmas.RelocsFold
import PeliteModel.Lemmas.RelocsExamples
import PeliteModel.Lemmas.Json
import PeliteModel.Thm.C05
import PeliteModel.Lemmas.DirsExamples
/-!
C14 — base relocations: the blocks partition a well-formed directory, what the block iterator reports is what the format
says and what `fold` reports, and reading back what `build` wrote gives the input (`flat (build ps) = ps`).  Format-side
decoder `Spec.decodeDir` and well-formedness `Spec.WellFormedDir` (on the bytes), `WellFormed` (on the blocks the
iterator finds) and `Tiles` are in Spec/Relocs.lean; the extraction of the directory from an image (`Pe::base_relocs`,
src/pe64/base_relocs.rs; model `View.baseRelocsRef`, Model/Json.lean) is `C14_extraction`.
-/
namespace Pelite.Relocs

/-- Termination with the work bound the property asks for: at most `len / 8` blocks. -/
theorem C14_blocks_count (data : Bytes) : (blocks data).length ≤ data.size / 8 := by
  have := blocksFrom_length_le data 0
  simpa [blocks] using this

/-- From any state `off`: the block found starts at `off`, and the iteration goes on
`min(align4(max(SizeOfBlock, 8)), remaining)` bytes further (the end of the block, on well-formed data). -/
theorem C14_blocks_consecutive (data : Bytes) (off : Nat) (b : Block) (rest : List Block)
    (h : blocksFrom data off = b :: rest) :
    b.off = off ∧ off + 8 ≤ data.size ∧ b.va = le32 data off ∧ b.size = le32 data (off + 4) ∧
    rest = blocksFrom data (off + step b.size (data.size - off)) := by
  obtain ⟨hge, rfl, hrest⟩ := blocksFrom_cons_inv h
  exact ⟨rfl, hge, rfl, rfl, hrest⟩

/-- Entry count: `(SizeOfBlock - 8) / 2` entries, clamped to the directory; a block's header and entries lie inside
the directory, and on a well-formed header they end exactly where the iterator goes on (no overlap with the next block). -/
theorem C14_block_extent (data : Bytes) (off : Nat) (b : Block) (rest : List Block)
    (h : blocksFrom data off = b :: rest) :
    b.nwords = (min b.size (data.size - off) - 8) / 2 ∧
    b.off + 8 + 2 * b.nwords ≤ data.size ∧
    (b.size % 4 = 0 → 8 ≤ b.size → b.size ≤ data.size - off →
        step b.size (data.size - off) = b.size ∧ b.off + 8 + 2 * b.nwords = off + b.size) := by
  obtain ⟨hge, rfl, -⟩ := blocksFrom_cons_inv h
  have hlt := le32_lt data (off + 4)
  refine ⟨rfl, ?_, ?_⟩
  · simp only [blockAt]; omega
  · intro h4 h8 hle
    simp only [blockAt] at h4 h8 hle ⊢
    exact ⟨step_eq_size hlt h4 h8 hle, by omega⟩

/-- C01 for this module: every reference a block hands out lies inside the directory and is
aligned for its type, for every 4-aligned placement of the directory. -/
theorem C14_refs_ok (img : Img) (hb : img.base % 4 = 0) (b : Block) (hmem : b ∈ blocks img.bytes) :
    RefOK img b.imageRef ∧ RefOK img b.wordsRef := by
  obtain ⟨o, -, ho4, ho8, rfl⟩ := mem_blocksFrom (off := 0) (by rfl) hmem
  simp only [RefOK, Block.imageRef, Block.wordsRef, blockAt]
  omega

/-! ### the whole block list: no overlap, no skip -/

/-- **Partition.**  On well-formed data (every block the iterator finds has a `SizeOfBlock` that is a
multiple of four, at least 8, and lies inside the directory) the blocks, as a whole list, tile the
directory: -/
theorem C14_blocks_partition (data : Bytes) (hwf : WellFormed data) :
    ∃ e,
      -- the blocks tile `[0, e)`: the first starts at 0, each next one starts exactly where its
      -- predecessor ends, the last one ends at `e` …
      Tiles 0 (blocks data) e ∧
      -- … where `e` is the sum of the block sizes and all that is left of the directory is a tail
      -- shorter than a block header
      e = ((blocks data).map (·.size)).sum ∧ e ≤ data.size ∧ data.size - e < 8 ∧
      -- the same, index by index — no skip: a block starts at the sum of the sizes before it, that is
      -- where its predecessor ends
      (∀ i (h : i < (blocks data).length),
          (blocks data)[i].off = (((blocks data).take i).map (·.size)).sum) ∧
      (∀ i (h : i + 1 < (blocks data).length),
          (blocks data)[i + 1].off = (blocks data)[i].off + (blocks data)[i].size) ∧
      -- no overlap: the byte ranges `[off, off + SizeOfBlock)` are pairwise disjoint, ascending
      (blocks data).Pairwise (fun a b => a.off + a.size ≤ b.off) ∧
      -- nothing skipped: every byte before the tail lies in a block
      (∀ p, p < e → ∃ b ∈ blocks data, b.off ≤ p ∧ p < b.off + b.size) ∧
      -- and a block is its 8-byte header followed by `(SizeOfBlock - 8) / 2` entries which fill it
      -- exactly: the references handed out for block `b` cover `[b.off, b.off + b.size)`
      (∀ b ∈ blocks data, b.nwords = (b.size - 8) / 2 ∧
          b.imageRef.off = b.off ∧ b.imageRef.len = 8 ∧
          b.wordsRef.off = b.off + 8 ∧ b.wordsRef.off + b.wordsRef.len = b.off + b.size) := by
  obtain ⟨e, ht, he1, he2⟩ := tiles_blocksFrom data 0 (Nat.zero_le _) hwf
  change Tiles 0 (blocks data) e at ht
  refine ⟨e, ht, ?_, he1, by omega, ?_, ?_, ht.pairwise, ?_, ?_⟩
  · simpa using ht.end_eq
  · intro i h; simpa using ht.offset i h
  · intro i h; exact ht.consecutive i h
  · intro p hp; exact ht.cover p (Nat.zero_le _) hp
  · intro b hb
    obtain ⟨h1, h2⟩ := wf_block_shape hb (hwf b hb)
    refine ⟨h1, rfl, rfl, rfl, ?_⟩
    simp only [Block.wordsRef]
    omega

/-- The hypothesis is satisfiable on a non-trivial instance (three blocks) … -/
example : WellFormed (build [(0x1010, 3), (0x1fff, 10), (0x2000, 3), (0x5000, 3)]) ∧
    (blocks (build [(0x1010, 3), (0x1fff, 10), (0x2000, 3), (0x5000, 3)])).length = 3 := by
  decide +kernel

/-- … and it is needed: with `SizeOfBlock = 10` (not a multiple of four) the iterator re-aligns and
the two bytes `[10, 12)` belong to no block. -/
example : ¬ WellFormed #[0,0x10,0,0, 10,0,0,0, 1,0x30, 0xAA,0xBB, 0,0x20,0,0, 8,0,0,0] ∧
    (blocks #[0,0x10,0,0, 10,0,0,0, 1,0x30, 0xAA,0xBB, 0,0x20,0,0, 8,0,0,0]).map
      (fun b => (b.off, b.size)) = [(0, 10), (12, 8)] := by
  decide +kernel

/-! ### well-formedness read off the bytes -/

/-- **The format-side predicate and the iterator-side predicate coincide.**  `Spec.WellFormedDir` is defined by
recursion on the directory BYTES (header present, `Block Size` ≥ 8, a multiple of four, not beyond what is left; then
the rest; a tail of fewer than 8 bytes ends it) and knows nothing of the iterator; `WellFormed` says that every block
the iterator yields is well formed.  For every byte string they are the same condition. -/
theorem C14_wellFormedDir_iff (data : Bytes) : Spec.WellFormedDir data.toList ↔ WellFormed data := by
  have := wellFormedDir_from_iff data 0
  simpa [WellFormed, blocks] using this

/-- `Spec.wellFormedDir` (what the driver prints as `hyp=`) decides `Spec.WellFormedDir`. -/
theorem C14_wellFormedDir_decides (dir : List UInt8) : Spec.wellFormedDir dir = true ↔ Spec.WellFormedDir dir :=
  wellFormedDir_decides dir

/-- **Partition, hypothesis on the bytes.**  `C14_blocks_partition` with the format-side hypothesis: for a directory
that IS a concatenation of well-formed blocks plus a tail shorter than a header (`Spec.WellFormedDir`), the blocks the
iterator yields tile it — no overlap, no gap, nothing skipped, each block its header plus `(SizeOfBlock - 8) / 2`
entries. -/
theorem C14_blocks_partition_dir (data : Bytes) (hwf : Spec.WellFormedDir data.toList) :
    ∃ e,
      Tiles 0 (blocks data) e ∧
      e = ((blocks data).map (·.size)).sum ∧ e ≤ data.size ∧ data.size - e < 8 ∧
      (∀ i (h : i < (blocks data).length),
          (blocks data)[i].off = (((blocks data).take i).map (·.size)).sum) ∧
      (∀ i (h : i + 1 < (blocks data).length),
          (blocks data)[i + 1].off = (blocks data)[i].off + (blocks data)[i].size) ∧
      (blocks data).Pairwise (fun a b => a.off + a.size ≤ b.off) ∧
      (∀ p, p < e → ∃ b ∈ blocks data, b.off ≤ p ∧ p < b.off + b.size) ∧
      (∀ b ∈ blocks data, b.nwords = (b.size - 8) / 2 ∧
          b.imageRef.off = b.off ∧ b.imageRef.len = 8 ∧
          b.wordsRef.off = b.off + 8 ∧ b.wordsRef.off + b.wordsRef.len = b.off + b.size) :=
  C14_blocks_partition data ((C14_wellFormedDir_iff data).1 hwf)

/-- the format-side hypothesis on the three-block directory of the example above, and its failure on the directory
with `SizeOfBlock = 10` -/
example : Spec.WellFormedDir (build [(0x1010, 3), (0x1fff, 10), (0x2000, 3), (0x5000, 3)]).toList ∧
    ¬ Spec.WellFormedDir [0,0x10,0,0, 10,0,0,0, 1,0x30, 0xAA,0xBB, 0,0x20,0,0, 8,0,0,0] := by
  refine ⟨(C14_wellFormedDir_decides _).1 (by decide +kernel), fun h => ?_⟩
  have := (C14_wellFormedDir_decides _).2 h
  revert this
  decide +kernel

/-! ### entries: the model against the PE format -/

/-- Every entry is decoded as the PE format prescribes (`Spec.decodeEntry`: type = high 4 bits,
address = Page RVA + low 12 bits in 32-bit arithmetic, padding entries of type 0 dropped), in
stored order — for every directory, well formed or not. -/
theorem C14_entries_decode (data : Bytes) :
    flat data = (blocks data).flatMap (fun b => (b.words data).filterMap (Spec.decodeEntry b.va)) := by
  unfold flat flatBlock
  congr 1
  funext b
  congr 1
  funext w
  exact (decodeEntry_eq b.va w).symm

/-- the reported pair in the words of the property: (block address + low 12 bits, high 4 bits);
the sum cannot wrap when the block address is a page address below 2^32 -/
theorem C14_entry_value (va w : Nat) :
    Spec.decodeEntry va w =
      if w / 4096 = 0 then none else some ((va + w % 4096) % 4294967296, w / 4096) := by
  rw [decodeEntry_eq]
  unfold typeOf rvaOf wadd32
  split <;> simp_all

theorem C14_entry_value_nowrap (va w : Nat) (hva : va + 4095 < 4294967296) (hty : w / 4096 ≠ 0) :
    Spec.decodeEntry va w = some (va + w % 4096, w / 4096) := by
  rw [decodeEntry_eq]
  unfold typeOf rvaOf wadd32
  rw [if_pos hty, Nat.mod_eq_of_lt (by omega)]

/-- **Model = format.**  On well-formed data what the block iterator reports (`flat`) is what the
independent list-of-bytes decoder of Spec/Relocs.lean reads from the directory. -/
theorem C14_flat_eq_spec (data : Bytes) (hwf : WellFormed data) :
    flat data = Spec.decodeDir data.toList := by
  have := flat_from_eq_spec data 0 hwf
  simpa [flat, blocks] using this

example : Spec.decodeDir (build [(0x1010, 3), (0x1fff, 10), (0x2000, 3), (0x5000, 3)]).toList =
    [(0x1010, 3), (0x1fff, 10), (0x2000, 3), (0x5000, 3)] := by
  decide +kernel

/-- **Model = format, hypothesis on the bytes**: for a directory that is well formed by the format
(`Spec.WellFormedDir`) the entries the block iterator reports are the format-side decoding of its bytes. -/
theorem C14_flat_eq_spec_dir (data : Bytes) (hwf : Spec.WellFormedDir data.toList) :
    flat data = Spec.decodeDir data.toList :=
  C14_flat_eq_spec data ((C14_wellFormedDir_iff data).1 hwf)

/-! ### internal iteration = external iteration -/

/-- **The block iterator and `fold` report the same entries**, for every directory (well formed or
not), every closure and every initial accumulator: `fold` (the model of the two nested `for` loops
of `BaseRelocs::fold`, Model/Relocs.lean) is the left fold over the flattened block iterator. -/
theorem C14_fold_eq_flat {α : Type} (f : α → Nat → Nat → α) (init : α) (data : Bytes) :
    fold f init data = (flat data).foldl (fun a p => f a p.1 p.2) init :=
  fold_eq_flat f init data

/-- … and so does `for_each` (`fold` with a unit accumulator and a state-carrying closure). -/
theorem C14_foreach_eq_flat {σ : Type} (f : Nat → Nat → σ → σ) (data : Bytes) (s : σ) :
    forEach f data s = (flat data).foldl (fun s p => f p.1 p.2 s) s :=
  forEach_eq_flat f data s

theorem C14_foreach_collects_flat (data : Bytes) :
    (forEach (fun rva ty acc => (rva, ty) :: acc) data []).reverse = flat data := by
  rw [C14_foreach_eq_flat]
  simp only [List.foldl_flip_cons_eq_append, List.map_id_fun', id_eq, List.append_nil, List.reverse_reverse]

/-! ### extraction: `Pe::base_relocs` (src/pe64/base_relocs.rs) -/

open Pelite.Pe in
/-- **The directory handed to the block iterator is the image's relocation directory.**  For every view the crate
constructs (either format, file or mapped): `base_relocs()` succeeds iff data-directory slot 5 exists and `Pe::slice`
(`View.at`, characterised by C04 / C05) resolves its RVA to at least `Size` dword-aligned bytes; the directory is then
the FIRST `Size` bytes of that window — inside the buffer, dword aligned in memory (the `debug_assert!` of
`BaseRelocs::new` holds: `parse` accepts that placement), byte for byte the image's bytes there.  Everything C14 says
about `blocks` / `flat` / `fold` of a byte string therefore holds of the extracted directory.  A missing slot and RVA 0
are `Null`. -/
theorem C14_extraction (f : Fmt) (k : Kind) (img : Img) (v : View) (hv : fromBytes f k img = .ok v) :
    (∀ r, v.baseRelocsRef = .ok r ↔
      ∃ va size s, v.dataDir 5 = some (va, size) ∧ v.at (.rva va) size 4 = .ok s ∧ r = ⟨s.off, size, 4⟩) ∧
    (∀ r, v.baseRelocsRef = .ok r →
      RefOK v.img r ∧ r.align = 4 ∧ (∃ va, v.dataDir 5 = some (va, r.len)) ∧
      ∃ data, v.baseRelocsBytes = .ok data ∧ data.size = r.len ∧
        (∀ i, i < r.len → byteAt data i = byteAt v.b (r.off + i)) ∧
        parse ⟨data, v.img.base + r.off⟩ = .ok ()) ∧
    (v.dataDir 5 = none → v.baseRelocsRef = .err .null) ∧
    (∀ size, v.dataDir 5 = some (0, size) → v.baseRelocsRef = .err .null) := by
  have hiff : ∀ r, v.baseRelocsRef = .ok r ↔
      ∃ va size s, v.dataDir 5 = some (va, size) ∧ v.at (.rva va) size 4 = .ok s ∧ r = ⟨s.off, size, 4⟩ := by
    intro r
    rw [baseRelocsRef_eq, ofOption_bind_eq_ok]
    constructor
    · rintro ⟨⟨va, size⟩, hdd, h⟩
      obtain ⟨s, hs, h⟩ := Out.bind_eq_ok h
      exact ⟨va, size, s, hdd, hs, (Out.ok.inj h).symm⟩
    · rintro ⟨va, size, s, hdd, hs, rfl⟩
      exact ⟨(va, size), hdd, by rw [hs]; rfl⟩
  refine ⟨hiff, ?_, ?_, ?_⟩
  · intro r h
    obtain ⟨va, size, s, hdd, hat, rfl⟩ := (hiff r).1 h
    obtain ⟨hok, hlen, hal⟩ := C05_at_sound f k img v hv (.rva va) size 4 (dataDir_lt hdd).1 s hat
    unfold RefOK at hok
    rw [hal] at hok
    have hin : s.off + size ≤ v.img.bytes.size := by omega
    refine ⟨⟨hin, hok.2⟩, rfl, ⟨va, hdd⟩, ?_⟩
    unfold View.baseRelocsBytes
    rw [h]
    refine ⟨_, rfl, ?_, ?_, ?_⟩
    · have : v.b.size = v.img.bytes.size := rfl
      simp only [Array.size_extract]
      omega
    · intro i hi
      have hsz : v.b.size = v.img.bytes.size := rfl
      simp only [byteAt, Array.getD_eq_getD_getElem?, Array.getElem?_extract]
      simp only at hi
      rw [if_pos (by omega)]
    · unfold parse
      simp only
      rw [if_pos hok.2]
  · exact (baseRelocsRef_absent v).1
  · exact (baseRelocsRef_absent v).2

/-! Instances of `C14_extraction`, all four combinations.  FILES: `relocFile32` / `relocFile64`
(Lemmas/RelocsFold.lean) — the directory's RVA 0x1000 resolved through the section table to file offset 272 / 288.
MAPPED images: the PE32 / PE32+ images of Lemmas/DirsExamples.lean with slot 5 set to (100, 12) and a one-block
directory written at offset 100 — extracted at offset 100 = its RVA (`relocPatch … 224` / `240`: the file offset of
data-directory slot 5, 64 + 24 + 96 + 40 and 64 + 24 + 112 + 40).  On each the extracted bytes are well formed by
the format and the reported entries are the format-side decoding. -/
section ExtractionExamples
open Pelite.Pe Pelite.Dirs

def relocPatch (b : Bytes) (slot : Nat) : Bytes :=
  [(100, 0), (101, 0x10), (102, 0), (103, 0), (104, 12), (105, 0), (106, 0), (107, 0), (108, 4), (109, 0x30), (110, 0), (111, 0),
    (slot, 100), (slot + 4, 12)].foldl (fun a p => a.set! p.1 p.2) b
def relocF32 : View := ⟨⟨relocFile32, 0⟩, .pe32, .file, 0x400000⟩
def relocF64 : View := ⟨⟨relocFile64, 0⟩, .pe64, .file, 0x140000000⟩
def relocV32 : View := ⟨⟨relocPatch demoBytes 224, 0⟩, .pe32, .view, 0x400000⟩
def relocV64 : View := ⟨⟨relocPatch demoBytes64 240, 0⟩, .pe64, .view, 0x140000000⟩
theorem relocF32_extracts : ExtractsAs .pe32 .file relocFile32 0x400000 (0x1000, 28) ⟨272, 28, 4⟩
    [(0x2004, 3), (0x3008, 10), (0x3010, 3), (0x3fff, 3)] := by
  unfold ExtractsAs
  rw [View.baseRelocsRef]
  simp only [Accept, View.dataDir_toNat, View.slice_file (v := ⟨_, _, .file, _⟩) rfl, View.secs, sections, secAt, hdr_toNat,
    le32_toNat]; decide +kernel
theorem relocF64_extracts : ExtractsAs .pe64 .file relocFile64 0x140000000 (0x1000, 28) ⟨288, 28, 4⟩
    [(0x2004, 3), (0x3008, 10), (0x3010, 3), (0x3fff, 3)] := by
  unfold ExtractsAs
  rw [View.baseRelocsRef]
  simp only [Accept, View.dataDir_toNat, View.slice_file (v := ⟨_, _, .file, _⟩) rfl, View.secs, sections, secAt, hdr_toNat,
    le32_toNat]; decide +kernel
theorem relocV32_extracts : ExtractsAs .pe32 .view (relocPatch demoBytes 224) 0x400000 (100, 12) ⟨100, 12, 4⟩
    [(0x1004, 3)] := by
  unfold ExtractsAs
  rw [View.baseRelocsRef]
  simp only [Accept, View.dataDir_toNat, hdr_toNat]; decide +kernel
theorem relocV64_extracts : ExtractsAs .pe64 .view (relocPatch demoBytes64 240) 0x140000000 (100, 12) ⟨100, 12, 4⟩
    [(0x1004, 3)] := by
  unfold ExtractsAs
  rw [View.baseRelocsRef]
  simp only [Accept, View.dataDir_toNat, hdr_toNat]; decide +kernel

example :
    fromBytes .pe32 .file relocF32.img = .ok relocF32 ∧ fromBytes .pe64 .file relocF64.img = .ok relocF64 ∧
    fromBytes .pe32 .view relocV32.img = .ok relocV32 ∧ fromBytes .pe64 .view relocV64.img = .ok relocV64 :=
  ⟨relocF32_extracts.constructed, relocF64_extracts.constructed, relocV32_extracts.constructed,
    relocV64_extracts.constructed⟩

example :
    relocF32.dataDir 5 = some (0x1000, 28) ∧ relocF32.baseRelocsRef = .ok ⟨272, 28, 4⟩ ∧
    relocGood relocF32 [(0x2004, 3), (0x3008, 10), (0x3010, 3), (0x3fff, 3)] = true ∧
    relocF64.dataDir 5 = some (0x1000, 28) ∧ relocF64.baseRelocsRef = .ok ⟨288, 28, 4⟩ ∧
    relocGood relocF64 [(0x2004, 3), (0x3008, 10), (0x3010, 3), (0x3fff, 3)] = true ∧
    relocV32.dataDir 5 = some (100, 12) ∧ relocV32.baseRelocsRef = .ok ⟨100, 12, 4⟩ ∧
    relocGood relocV32 [(0x1004, 3)] = true ∧
    relocV64.dataDir 5 = some (100, 12) ∧ relocV64.baseRelocsRef = .ok ⟨100, 12, 4⟩ ∧
    relocGood relocV64 [(0x1004, 3)] = true := by
  have f32 := relocF32_extracts.good
  have f64 := relocF64_extracts.good
  have v32 := relocV32_extracts.good
  have v64 := relocV64_extracts.good
  exact ⟨f32.1, f32.2.1, f32.2.2, f64.1, f64.2.1, f64.2.2, v32.1, v32.2.1, v32.2.2, v64.1, v64.2.1, v64.2.2⟩

end ExtractionExamples

/-! ### `build`

`build` stores `SizeOfBlock` as `size as u32` (model: `u32le size` keeps the low 32 bits).  When one
page receives 2147483643 (= 2^31 - 5) or more entries, `align4 (8 + 2 n) ≥ 2^32` and the stored
size is wrong, so the two statements WITHOUT a bound on the input (every block of `build ps` is well formed;
`flat (build ps) = ps`) are false; the kernel-checked refutations are `C14_build_blocks_wellformed_unbounded_false`
and `C14_build_roundtrip_unbounded_false` below (input: 2147483644 copies of `(0, 1)`; the first
header then reads `SizeOfBlock = 0`).  With the bound `(build ps).size < 2^32` they are `C14_build_blocks_wellformed`
and `C14_build_roundtrip`; the general form is under `Fits ps`, i.e.
`ps.length < 2147483643 ∨ (buildList ps).length < 2^32`, and in the two special cases (length, size of the output). -/

/-- `build` well-formedness, for every input whose blocks fit the `u32` size field. -/
theorem C14_build_blocks_wellformed_of_fits (ps : List (Nat × Nat)) (hfit : Fits ps)
    (hps : ∀ p ∈ ps, p.1 < 4294967296)
    (b : Block) (hmem : b ∈ blocks (build ps)) :
    b.va % 4096 = 0 ∧ b.size % 4 = 0 ∧ 12 ≤ b.size ∧ b.off + b.size ≤ (build ps).size := by
  have := (built_spec ps [] hfit hps).1 b hmem
  simpa [build] using this

/-- **Round trip**, for every input whose blocks fit the `u32` size field. -/
theorem C14_build_roundtrip_of_fits (ps : List (Nat × Nat)) (hfit : Fits ps)
    (hps : ∀ p ∈ ps, p.1 < 4294967296 ∧ 1 ≤ p.2 ∧ p.2 ≤ 15) :
    flat (build ps) = ps := by
  have := (built_spec ps [] hfit (fun p hp => (hps p hp).1)).2 (fun p hp => (hps p hp).2)
  simpa [flat, blocks, build] using this

/-- fewer than 2^31 - 5 entries in total -/
theorem C14_build_blocks_wellformed_of_length (ps : List (Nat × Nat)) (hlen : ps.length < 2147483643)
    (hps : ∀ p ∈ ps, p.1 < 4294967296)
    (b : Block) (hmem : b ∈ blocks (build ps)) :
    b.va % 4096 = 0 ∧ b.size % 4 = 0 ∧ 12 ≤ b.size ∧ b.off + b.size ≤ (build ps).size :=
  C14_build_blocks_wellformed_of_fits ps (Or.inl hlen) hps b hmem

theorem C14_build_roundtrip_of_length (ps : List (Nat × Nat)) (hlen : ps.length < 2147483643)
    (hps : ∀ p ∈ ps, p.1 < 4294967296 ∧ 1 ≤ p.2 ∧ p.2 ≤ 15) :
    flat (build ps) = ps :=
  C14_build_roundtrip_of_fits ps (Or.inl hlen) hps

/-- The unbounded well-formedness statement is false: 2147483644 entries `(0, 1)` give a first
block with `SizeOfBlock = 0`. -/
theorem C14_build_blocks_wellformed_unbounded_false :
    ¬ ∀ (ps : List (Nat × Nat)), (∀ p ∈ ps, p.1 < 4294967296) →
      ∀ b ∈ blocks (build ps),
        b.va % 4096 = 0 ∧ b.size % 4 = 0 ∧ 12 ≤ b.size ∧ b.off + b.size ≤ (build ps).size := by
  intro h
  obtain ⟨b, hb, hb0⟩ := huge_not_wellformed 2147483643 rfl
  have := h _ (fun p hp => (huge_input_ok 2147483643 p hp).1) b hb
  omega

/-- The unbounded round-trip statement is false for the same input: the first pair read back is
`(0x10001000, 1)`, not `(0, 1)`. -/
theorem C14_build_roundtrip_unbounded_false :
    ¬ ∀ (ps : List (Nat × Nat)), (∀ p ∈ ps, p.1 < 4294967296 ∧ 1 ≤ p.2 ∧ p.2 ≤ 15) →
      flat (build ps) = ps := by
  intro h
  exact huge_not_roundtrip 2147483643 rfl (h _ (huge_input_ok 2147483643))

/-- **Well-formed output** under the model's global bound (buffers below 4 GiB, DESIGN.md 1.2):
every block that `build` emits is page-aligned, has a size that is a multiple of four and at
least 12, and lies inside the output.  Without the bound the statement is false
(`C14_build_blocks_wellformed_unbounded_false`: 2^31 entries in one page make `size as u32` wrap). -/
theorem C14_build_blocks_wellformed (ps : List (Nat × Nat)) (hsz : (build ps).size < 4294967296)
    (hps : ∀ p ∈ ps, p.1 < 4294967296)
    (b : Block) (hmem : b ∈ blocks (build ps)) :
    b.va % 4096 = 0 ∧ b.size % 4 = 0 ∧ 12 ≤ b.size ∧ b.off + b.size ≤ (build ps).size :=
  C14_build_blocks_wellformed_of_fits ps (Or.inr (by simpa [build] using hsz)) hps b hmem

/-- **Round trip** under the same global bound.  For every list of (rva, type) pairs with types
1..15 — sortedness is not needed — parsing what `build` produced yields exactly those pairs, in
order.  Without the bound: `C14_build_roundtrip_unbounded_false`. -/
theorem C14_build_roundtrip (ps : List (Nat × Nat)) (hsz : (build ps).size < 4294967296)
    (hps : ∀ p ∈ ps, p.1 < 4294967296 ∧ 1 ≤ p.2 ∧ p.2 ≤ 15) :
    flat (build ps) = ps :=
  C14_build_roundtrip_of_fits ps (Or.inr (by simpa [build] using hsz)) hps

/-- Non-vacuity / concrete instance. -/
example : flat (build [(0x1010, 3), (0x1fff, 10), (0x2000, 3)]) = [(0x1010, 3), (0x1fff, 10), (0x2000, 3)] := by
  decide +kernel

end Pelite.Relocs
