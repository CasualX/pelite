import PeliteModel.Model.JsonDirs
import PeliteModel.Model.Pe
import PeliteModel.Spec.PeFormat

/-!
# C07 — the names a section header reports (`name_bytes()`, `name()`) against the `Name` field

`SectionHeader::name_bytes()` is `util::trimn(&Name)` and `name()` is `util::parsen(&Name)` (the same bytes
when they are UTF-8, else the untouched field as the error value): the driver operation `secname`
(Driver/Json.lean) prints both from `trimn`.  These theorems say what `trimn` keeps: the field is the
reported name followed by NULs only, the reported name does not end in a NUL, interior NULs stay — so
looking the reported name up again (`by_name(name_bytes())`, NUL padded by `nameBuf`) compares the very
eight bytes of the field.
-/

namespace Pelite.Pe

/-- the field is the reported name followed by NUL bytes and nothing else -/
theorem C07_trimn_pad (l : List Nat) :
    trimn l ++ List.replicate (l.length - (trimn l).length) 0 = l := by
  unfold trimn
  generalize hr : l.reverse = r
  have hl : l = r.reverse := by rw [← hr, List.reverse_reverse]
  subst hl
  have split : r.takeWhile (· == 0) ++ r.dropWhile (· == 0) = r := List.takeWhile_append_dropWhile
  have hz : r.takeWhile (· == 0) = List.replicate (r.takeWhile (· == 0)).length 0 :=
    List.eq_replicate_iff.2 ⟨rfl, fun x hx => by simpa using List.all_eq_true.1 List.all_takeWhile x hx⟩
  have hlen : r.length = (r.takeWhile (· == 0)).length + (r.dropWhile (· == 0)).length := by
    have := congrArg List.length split
    rw [List.length_append] at this
    omega
  conv => rhs; rw [← split, List.reverse_append]
  congr 1
  rw [hz, List.reverse_replicate]
  congr 1
  simp only [List.length_reverse]
  omega

/-- the reported name does not end in a NUL (trailing NULs are all removed) -/
theorem C07_trimn_last (l : List Nat) (x : Nat) (h : (trimn l).getLast? = some x) : x ≠ 0 := by
  unfold trimn at h
  rw [List.getLast?_reverse] at h
  have := List.head?_dropWhile_not (fun x : Nat => x == 0) l.reverse
  rw [h] at this
  simpa using this

/-- nothing else is removed: the reported name is a prefix of the field (interior and leading NULs stay) -/
theorem C07_trimn_prefix (l : List Nat) : trimn l <+: l :=
  ⟨_, C07_trimn_pad l⟩

/-- a field without a trailing NUL is reported whole -/
theorem C07_trimn_id (l : List Nat) (h : ∀ x, l.getLast? = some x → x ≠ 0) : trimn l = l := by
  have hp := C07_trimn_pad l
  by_cases hk : l.length - (trimn l).length = 0
  · rw [hk] at hp; simpa using hp
  · exfalso
    obtain ⟨k, hk'⟩ : ∃ k, l.length - (trimn l).length = k + 1 := ⟨_, (Nat.succ_pred_eq_of_ne_zero hk).symm⟩
    rw [hk', List.replicate_succ'] at hp
    have : l.getLast? = some 0 := by
      rw [← hp, ← List.append_assoc, List.getLast?_append]
      simp
    exact h 0 this rfl

/-- **looking a reported name up again compares the whole field**: the NUL-padded query `by_name` builds
from `name_bytes()` (`paddedName`, the right-hand side of `C07_by_name_bytes`) is byte for byte the
`Name` field the name was taken from — so `by_name(s.name_bytes())` answers the FIRST section whose
eight name bytes equal those of `s` (by `C07_by_name_bytes`), interior NULs included. -/
theorem C07_name_bytes_padded (name : List Nat) (hb : ∀ x ∈ name, x < 256) (j : Nat) :
    paddedName ((trimn name).map (·.toUInt8)).toArray j = name.getD j 0 := by
  have hp := C07_trimn_pad name
  have ht : ∀ x ∈ trimn name, x < 256 := fun x hx => hb x ((C07_trimn_prefix name).subset hx)
  conv => rhs; rw [← hp]
  generalize trimn name = t at ht ⊢
  unfold paddedName byteAt
  by_cases hj : j < t.length
  · have hx : t[j] < 256 := ht _ (List.getElem_mem hj)
    simp [hj, List.getD_eq_getElem?_getD, List.getElem?_append_left hj, Nat.toUInt8, UInt8.toNat_ofNat', Nat.mod_eq_of_lt hx]
  · simp only [List.size_toArray, List.length_map, hj, if_false]
    rw [List.getD_eq_getElem?_getD, List.getElem?_append_right (by omega)]
    cases h : (List.replicate (name.length - t.length) 0)[j - t.length]? with
    | none => rfl
    | some v =>
      have := List.mem_of_getElem? h
      simp only [List.mem_replicate] at this
      simp [this.2]

-- non-vacuity / examples: "UPX\01" keeps its interior NUL, "\0\0\0\0tail" its leading ones
example : trimn [85, 80, 88, 0, 49, 0, 0, 0] = [85, 80, 88, 0, 49] := by decide
example : trimn [0, 0, 0, 0, 116, 97, 105, 108] = [0, 0, 0, 0, 116, 97, 105, 108] := by decide
example : trimn [0, 0, 0, 0, 0, 0, 0, 0] = [] := by decide

end Pelite.Pe
