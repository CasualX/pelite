import PeliteModel.Thm.C11
/-!
C11 (semantic half), UNCONDITIONAL — "pattern strings mean what the syntax documentation says", without the
fragment restriction of `Thm/C11.lean`.

`Thm/C11.lean` proves T2 / T3 against `denote` only for `InFragment p` and shows (`C11_deviation_*`) that the
restriction cannot be dropped for THAT reading of the documentation.  `Spec/PatternSemImpl.lean` fixes a
second reading, `denoteImpl`: same trees, same items, same slot numbering; it differs from `denote` in the
two places the documentation leaves open —

* the LAST alternative of a `( | )` is not a scope of its own: it continues into what follows the `)`, so a
  `[a-b]` inside it looks for the first position at which the rest of the alternative AND what follows the `)`
  match (`semI` / `semAltsI`, a backtracking semantics with an explicit continuation);
* a `[a-b]` behind which nothing can fail up to the end of the pattern string has nothing to look for: it means
  `[a]` (`dropTrailing`).

Here:
* **T2'** `C11_exec_compile_impl` — `run S (compile p) c save₀ = ok (⟦p⟧ᵢ S c ≠ none, save)` and `save` holds every
  specified capture, for EVERY well-formed tree: every operator, any nesting, both pointer widths, file and
  mapped scan interfaces (`ScanI`, hypotheses as in T2).
* `C11_denoteImpl_eq_denote_on_fragment` — the two readings agree on the fragment, which makes T2 of `Thm/C11.lean`
  a corollary of T2' (`C11_exec_compile_partial_of_impl`).
* **T3'** `C11_pattern_string_semantics_impl` — the same end to end for pattern STRINGS (`parse (render sty p)`).
* `C11_deviation_*_impl` — on the deviation witnesses of `Thm/C11.lean`, `denoteImpl` agrees with the
  implementation where `denote` does not.
-/
namespace Pelite.PatSem
open Pelite.Pattern Pelite.Exec

/-! ## T2' — the interpreter implements `denoteImpl`, for every well-formed pattern -/

/-- **T2' (unconditional).**  Running the reference compiler's output at cursor `c` returns normally (no panic /
UB / divergence), answers `true` exactly when `denoteImpl` matches, and then the save array holds — in the
slots the caller's array has — the match position in slot 0 and every bookmarked cursor and sign- or
zero-extended read value `denoteImpl` specifies; its length is unchanged.  No `InFragment`: every well-formed
tree.  `S.WF` and `Coherent S` hold for every image below 4 GiB — raw buffers, mapped views, file views with
non-overlapping sections, PE32 and PE32+ (`C11_interfaces`). -/
theorem C11_exec_compile_impl {S : ScanI} (hS : S.WF) (hC : Coherent S) (p : Pat) (hwf : WF p = true)
    (c : Nat) (hc : c < 4294967296) (save0 : Array Nat) :
    ∃ save, run S (compile p) c save0 = .ok ((denoteImpl S p c).isSome, save) ∧ save.size = save0.size ∧
      ∀ c' w, denoteImpl S p c = some (c', w) → ∀ s v, (s, v) ∈ w → s < save0.size → save[s]? = some v :=
  run_compile_impl hS hC p hwf c hc save0

/-- the hypotheses are satisfiable OUTSIDE the fragment: both deviation witnesses are well formed -/
example : WF devLastAlt = true ∧ InFragment devLastAlt = false ∧ WF devTrailing = true ∧ InFragment devTrailing = false ∧
    (ofRaw .pe32 #[0xbb, 0xbb, 0xcc]).WF ∧ Coherent (ofRaw .pe32 #[0xbb, 0xbb, 0xcc]) :=
  ⟨by decide +kernel, by decide +kernel, by decide +kernel, by decide +kernel, C11_interfaces.1 _ _ (by decide)⟩

/-- every slot `denoteImpl` specifies lies in the range the syntax assigns: `[1, slotsItems 1 p)` plus slot 0 -/
theorem C11_impl_captures_in_range (S : ScanI) (p : Pat) (c c' : Nat) (w : Caps) (h : denoteImpl S p c = some (c', w)) :
    ∀ s v, (s, v) ∈ w → s < slotsItems 1 p := by
  obtain ⟨w1, hs, rfl⟩ := denoteImpl_some h
  intro s v hm
  rcases List.mem_append.1 hm with h1 | h1
  · exact slots_dropTrailing p 1 true ▸ (semI_done_slots S 1 _ c c' w1 hs s v h1).2
  · cases List.mem_singleton.1 h1
    exact Nat.lt_of_lt_of_le Nat.zero_lt_one (slotsItems_le 1 p)

/-- slot 0 is the match position -/
theorem C11_impl_slot0_is_match_position (S : ScanI) (p : Pat) (c c' : Nat) (w : Caps)
    (h : denoteImpl S p c = some (c', w)) : (0, c) ∈ w := by
  obtain ⟨w1, _, rfl⟩ := denoteImpl_some h
  exact List.mem_append_right _ (List.mem_singleton_self _)

/-! ## the two readings agree on the fragment -/

/-- **the two reference semantics differ only outside the fragment**: for `InFragment p` — every `[a-b]` stands
in a sequence that ends where its frame ends and none is trimmed — `denoteImpl` IS `denote`: same verdict, same
final cursor, same captures, on every image and at every cursor. -/
theorem C11_denoteImpl_eq_denote_on_fragment (S : ScanI) (p : Pat) (hfr : InFragment p = true) (c : Nat) :
    denoteImpl S p c = denote S p c :=
  denoteImpl_eq_denote S hfr c

example : InFragment exTree = true := by decide +kernel

/-- its two halves: in the fragment no `[a-b]` is a trailing one … -/
theorem C11_dropTrailing_on_fragment (p : Pat) (hfr : InFragment p = true) : dropTrailing true p = p :=
  dropTrailing_of_fragment hfr

/-- … and where every `[a-b]` retries over its documented scope, matching against a continuation is matching the
sequence and then the continuation (backtracking is unobservable) -/
theorem C11_semI_eq_sem (S : ScanI) (p : Pat) (hsc : scopeOK true p = true) (k c : Nat) :
    semI S k p c Kont.done = sem S k p c := by
  rw [semI_eq_sem S p k true c Kont.done hsc (fun _ => Total.done), bindK_done]

/-- T2 of `Thm/C11.lean` is a corollary of T2' -/
theorem C11_exec_compile_partial_of_impl {S : ScanI} (hS : S.WF) (hC : Coherent S) (p : Pat) (hwf : WF p = true)
    (hfr : InFragment p = true) (c : Nat) (hc : c < 4294967296) (save0 : Array Nat) :
    ∃ save, run S (compile p) c save0 = .ok ((denote S p c).isSome, save) ∧ save.size = save0.size ∧
      ∀ c' w, denote S p c = some (c', w) → ∀ s v, (s, v) ∈ w → s < save0.size → save[s]? = some v :=
  C11_exec_compile_partial hS hC p hwf hfr c hc save0

/-! ## T3' — pattern strings -/

/-- **T3' (unconditional).**  For EVERY well-formed pattern tree and every spelling `render sty p` of its pattern
string: the string parses, and executing the parsed pattern at `c` accepts exactly when `denoteImpl` does; on
success every specified slot holds the specified capture (slot 0 = the match position) and lies below the
advertised save length. -/
theorem C11_pattern_string_semantics_impl (sty : Style) (p : Pat) (hwf : WF p = true)
    {S : ScanI} (hS : S.WF) (hC : Coherent S) (c : Nat) (hc : c < 4294967296) (save0 : Array Nat) :
    ∃ atoms save, parse (render sty p) = .ok atoms ∧
      run S atoms c save0 = .ok ((denoteImpl S p c).isSome, save) ∧ save.size = save0.size ∧
      ∀ c' w, denoteImpl S p c = some (c', w) → ∀ s v, (s, v) ∈ w →
        (s < save0.size → save[s]? = some v) ∧ s + 1 ≤ saveLen atoms := by
  obtain ⟨save, h1, h2, h3⟩ := run_compile_impl hS hC p hwf c hc save0
  refine ⟨compile p, save, parse_render sty p hwf, h1, h2, ?_⟩
  intro c' w hd s v hm
  refine ⟨h3 c' w hd s v hm, ?_⟩
  have q1 := C11_impl_captures_in_range S p c c' w hd s v hm
  have q2 := saveLen_compile_ge p
  omega

/-- e.g. the documented example `83 c0 2a ( 6a ? | 68 ? ? ? ? ) e8` — and the same with a bounded skip in the last
alternative, outside the fragment — are well formed -/
example :
    WF [.byte 0x83, .byte 0xc0, .byte 0x2a, .alt [[.byte 0x6a, .any], [.byte 0x68, .any, .any, .any, .any]], .byte 0xe8] = true ∧
    WF [.byte 0x83, .byte 0xc0, .byte 0x2a, .alt [[.byte 0x6a, .any], [.byte 0x68, .range 0 8, .byte 0xc3]], .byte 0xe8] = true ∧
    InFragment [.byte 0x83, .byte 0xc0, .byte 0x2a, .alt [[.byte 0x6a, .any], [.byte 0x68, .range 0 8, .byte 0xc3]], .byte 0xe8] = false := by
  decide +kernel

/-! ## the deviation witnesses of `Thm/C11.lean` under the second reading -/

/-- **Deviation 1 resolved.**  On `bb bb cc`, `(aa|[0-3]bb)cc`: `denoteImpl` matches (skip 1 in the last
alternative, found because `cc` must follow) — as the implementation answers — while `denote` does not; the
mirrored pattern `([0-3]bb|aa)cc` (the `[a-b]` in a non-last alternative: a committed choice) does not match in
either reading nor in the implementation. -/
theorem C11_deviation_last_alternative_impl :
    denoteImpl (ofRaw .pe32 #[0xbb, 0xbb, 0xcc]) devLastAlt 0 = some (3, [(0, 0)]) ∧
    run (ofRaw .pe32 #[0xbb, 0xbb, 0xcc]) (compile devLastAlt) 0 #[0] = .ok (true, #[0]) ∧
    denote (ofRaw .pe32 #[0xbb, 0xbb, 0xcc]) devLastAlt 0 = none ∧
    denoteImpl (ofRaw .pe32 #[0xbb, 0xbb, 0xcc]) devFirstAlt 0 = none ∧
    run (ofRaw .pe32 #[0xbb, 0xbb, 0xcc]) (compile devFirstAlt) 0 #[0] = .ok (false, #[0]) ∧
    denote (ofRaw .pe32 #[0xbb, 0xbb, 0xcc]) devFirstAlt 0 = none := by
  decide +kernel

/-- **Deviation 2 resolved.**  `aa[0-5]` at the last byte of the buffer: `denoteImpl` matches (the trailing
`[0-5]` has nothing to look for) — as the implementation answers — while `denote` does not; `aa[0-5]'` (the
`[a-b]` is not trailing: a bookmark follows) does not match in either reading nor in the implementation. -/
theorem C11_deviation_trailing_range_impl :
    denoteImpl (ofRaw .pe32 #[0x00, 0xaa]) devTrailing 1 = some (2, [(0, 1)]) ∧
    run (ofRaw .pe32 #[0x00, 0xaa]) (compile devTrailing) 1 #[0] = .ok (true, #[1]) ∧
    denote (ofRaw .pe32 #[0x00, 0xaa]) devTrailing 1 = none ∧
    denoteImpl (ofRaw .pe32 #[0x00, 0xaa]) devTrailingSave 1 = none ∧
    run (ofRaw .pe32 #[0x00, 0xaa]) (compile devTrailingSave) 1 #[0, 0] = .ok (false, #[1, 0]) ∧
    denote (ofRaw .pe32 #[0x00, 0xaa]) devTrailingSave 1 = none := by
  decide +kernel

/-- what `dropTrailing` does on the two: `aa[0-5]` becomes `aa[0]`, `aa[0-5]'` stays -/
theorem C11_deviation_trailing_range_trees :
    dropTrailing true devTrailing = [.byte 0xaa, .skip 0] ∧ dropTrailing true devTrailingSave = devTrailingSave := by
  simp [dropTrailing, trailingItem, devTrailing, devTrailingSave]

/-- a trailing `[a-b]` inside a brace body / a last alternative at the end of the pattern string is trailing, too:
`e8 ${ aa [0-5] }`, `( bb | aa [1-5] ? )`; in a non-last alternative it is not: `( aa [1-5] | bb )` -/
example :
    dropTrailing true [.byte 0xe8, .group .j4 [] [.byte 0xaa, .range 0 5]] = [.byte 0xe8, .group .j4 [] [.byte 0xaa, .skip 0]] ∧
    dropTrailing true [.alt [[.byte 0xbb], [.byte 0xaa, .range 1 5, .any]]] = [.alt [[.byte 0xbb], [.byte 0xaa, .skip 1, .any]]] ∧
    dropTrailing true [.alt [[.byte 0xaa, .range 1 5], [.byte 0xbb]]] = [.alt [[.byte 0xaa, .range 1 5], [.byte 0xbb]]] := by
  simp [dropTrailing, dropTrailingAlts, trailingItem]

example : compile [.byte 0xe8, .group .j4 [] [.byte 0xaa, .range 0 5]] = [.save 0, .byte 0xe8, .push 4, .jump4, .byte 0xaa] := by
  decide +kernel

/-- a deeper witness, evaluated by the kernel on both sides: a bounded skip in the last alternative of a group
inside a brace body, retrying over what follows the `)` up to the `}` — `e8 ${ ( 00 | [0-4] 11 ' ) 22 } u1` on
`e8 01000000 7f 11 11 22` : the skip must be 1 (the first `11` is not followed by `22`) -/
theorem C11_impl_nested_witness :
    denoteImpl (ofRaw .pe64 #[0xe8, 1, 0, 0, 0, 0x7f, 0x11, 0x11, 0x22])
      [.byte 0xe8, .group .j4 [] [.alt [[.byte 0x00], [.range 0 4, .byte 0x11, .save]], .byte 0x22], .readU 1] 0
      = some (6, [(2, 0x7f), (1, 8), (0, 0)]) ∧
    run (ofRaw .pe64 #[0xe8, 1, 0, 0, 0, 0x7f, 0x11, 0x11, 0x22])
      (compile [.byte 0xe8, .group .j4 [] [.alt [[.byte 0x00], [.range 0 4, .byte 0x11, .save]], .byte 0x22], .readU 1])
      0 #[0, 0, 0] = .ok (true, #[0, 8, 0x7f]) ∧
    denote (ofRaw .pe64 #[0xe8, 1, 0, 0, 0, 0x7f, 0x11, 0x11, 0x22])
      [.byte 0xe8, .group .j4 [] [.alt [[.byte 0x00], [.range 0 4, .byte 0x11, .save]], .byte 0x22], .readU 1] 0 = none := by
  decide +kernel

end Pelite.PatSem
