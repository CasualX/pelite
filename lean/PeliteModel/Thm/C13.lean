import PeliteModel.Lemmas.VersionLayout
import PeliteModel.Lemmas.VersionU16
/-!
C13 — version information is reported completely and unaltered.

Model: `Model/Version.lean` (src/resources/version_info.rs, with the key padding of `parse_tlv` clamped to the node;
indexing and slicing are the panicking operations of a checked build).  Specification: `Spec/Version.lean` (documented
VS_VERSIONINFO layout, reference writer `encode`, abstract content).  All statements quantify over every word list /
every abstract resource; no size bound.

`strings` / `value` / `file_info` against the abstract content are in `Thm/C13Queries.lean`; the source-code rendering,
visitors that decline blocks / string tables, and the byte-counting value length of strings in `Thm/C13Source.lean`.
-/
namespace Pelite.Version
open Spec

/-- what `VersionInfo::try_from` hands to `visit`: the words of the block, offset 0, on a 32-bit boundary -/
def block (ws : List Nat) : Sl := ⟨0, ws⟩

theorem block_al (ws : List Nat) : (block ws).Al := fun _ => rfl

/-! ## (a) every documented layout, and so what the reference writer writes, is reported completely, once, in order, unaltered

`v.IsBlock ws`: `ws` starts with a layout of `v`'s root structure (Spec/Version.lean; padding words, optional padding and
`wType` are free per structure, anything may follow the root). -/

/-- **The reference writer produces a documented layout**, with either convention. -/
theorem C13_writer_produces_layout (tight : Bool) (v : VInfo) (hwf : v.wf = true) : v.IsBlock (v.encode tight) :=
  encode_isBlock tight v hwf

/-- **C13, round trip for every documented layout**: visiting any block that lays out the abstract
resource `v` as documented reports exactly `v`'s event list — each structure once, in stored
order, the words unaltered — whatever the padding words hold and whichever structures keep the
optional padding. -/
theorem C13_layout_round_trip (v : VInfo) (ws : List Nat) (h : v.IsBlock ws) :
    ∃ es, events (block ws) = .ok es ∧ es.map Event.erase = v.events :=
  events_of_reads _ (block_al _) v (root_layout v ws h 0)

/-- **C13, round trip.**  For every abstract version resource whose keys can be written (no NUL in a
key) and for both conventions of ending a structure without value and children, visiting the
written block reports exactly the resource's event list: the root with the fixed file info iff the
root value is 52 bytes, every block, every string table with its language key, every string with
its key and its value minus one terminating NUL, every var with its value — each once, in stored
order, the words unaltered. -/
theorem C13_round_trip (tight : Bool) (v : VInfo) (hwf : v.wf = true) :
    ∃ es, events (block (v.encode tight)) = .ok es ∧ es.map Event.erase = v.events :=
  C13_layout_round_trip v _ (C13_writer_produces_layout tight v hwf)

/-- The blocks of the round trip exist as real resources: when the content words are u16 values and
the root's length fits its `wLength`, every word the reference writer emits is a u16 value. -/
theorem C13_writer_emits_u16 (tight : Bool) (v : VInfo) (hu : v.u16 = true) (hf : v.fits tight = true) :
    ∀ w ∈ v.encode tight, w < 65536 :=
  encode_U16 tight v hu hf

/-- every (language, key, value) exactly once and in stored order, for every documented layout -/
theorem C13_layout_strings_exactly_once (v : VInfo) (ws : List Nat) (h : v.IsBlock ws) :
    ∃ es, events (block ws) = .ok es ∧ triples (es.map Event.erase) = v.strings := by
  obtain ⟨es, h1, h2⟩ := C13_layout_round_trip v ws h
  exact ⟨es, h1, by rw [h2, triples_events]⟩

/-- Every (language, key, value) of the resource is reported exactly once and in stored order:
reading the reported events back (each string filed under the string table that precedes it)
gives the resource's list of triples. -/
theorem C13_strings_exactly_once (tight : Bool) (v : VInfo) (hwf : v.wf = true) :
    ∃ es, events (block (v.encode tight)) = .ok es ∧ triples (es.map Event.erase) = v.strings :=
  C13_layout_strings_exactly_once v _ (C13_writer_produces_layout tight v hwf)

/-- `fixed()` on every documented layout -/
theorem C13_layout_fixed_query (v : VInfo) (ws : List Nat) (h : v.IsBlock ws) :
    ∃ f, fixed (block ws) = .ok f ∧ f.map (·.ws) = fixedInfoOf v :=
  fixed_of_reads _ (block_al _) v (root_layout v ws h 0)

/-- `fixed()` returns the root value iff it is 52 bytes long, unaltered. -/
theorem C13_fixed_round_trip (tight : Bool) (v : VInfo) (hwf : v.wf = true) :
    ∃ f, fixed (block (v.encode tight)) = .ok f ∧ f.map (·.ws) = v.fixed :=
  C13_layout_fixed_query v _ (C13_writer_produces_layout tight v hwf)

/-- `translation()` on every documented layout -/
theorem C13_layout_translation_query (v : VInfo) (ws : List Nat) (h : v.IsBlock ws) :
    ∃ t, translation (block ws) = .ok t ∧
      (match t with
       | some sl => (langsOf sl.ws).map (fun l => (l.langId, l.charsetId))
       | none => []) = translationsOf v :=
  translation_of_reads _ (block_al _) v (root_layout v ws h 0)

/-- `translation()` returns the pairs of the (last) Var named "Translation", nothing when there is none. -/
theorem C13_translation_round_trip (tight : Bool) (v : VInfo) (hwf : v.wf = true) :
    ∃ t, translation (block (v.encode tight)) = .ok t ∧
      (match t with
       | some sl => (langsOf sl.ws).map (fun l => (l.langId, l.charsetId))
       | none => []) = v.translations :=
  C13_layout_translation_query v _ (C13_writer_produces_layout tight v hwf)

/-! ## (b) all queries are folds of the one event list, and agree -/

/-- **Every visitor's result is a fold of the one event list** (any visitor whose `version_info`
callback returns `true`, as all visitors of the crate do; any word list).  `replay V` interprets a
recorded callback with `V` and skips the recorded subtree when `V` declines it. -/
theorem C13_visit_is_fold_of_events {σ : Type} (V : Visitor σ) (hV : V.AcceptsRoot) (ws : List Nat) (s : σ) :
    ∃ es, events (block ws) = .ok es ∧ visit V (block ws) s = .ok (es.foldl (replay V) (s, none)).1 :=
  ⟨_, events_eq_flat _ (block_al ws), visit_eq_replay V hV _ (block_al ws) s⟩

/-- The six queries of `VersionInfo` are such folds. -/
theorem C13_queries_are_folds (ws : List Nat) (lang : Language) (key : Str) :
    ∃ es, events (block ws) = .ok es ∧
      fixed (block ws) = .ok (es.foldl (replay queryFixed) (none, none)).1 ∧
      translation (block ws) = .ok (es.foldl (replay queryTranslation) (none, none)).1 ∧
      value (block ws) lang key = .ok (es.foldl (replay (queryValue lang key)) (none, none)).1 ∧
      strings (block ws) lang = .ok (es.foldl (replay (queryStrings lang)) ([], none)).1 ∧
      fileInfo (block ws) = .ok (es.foldl (replay fileInfoVisitor) ({}, none)).1 ∧
      sourceCode (block ws) = .ok (es.foldl (replay sourceVisitor) ([], none)).1 := by
  have h {σ : Type} (V : Visitor σ) (hV : V.AcceptsRoot) := visit_eq_replay V hV (block ws) (block_al ws)
  exact ⟨_, events_eq_flat _ (block_al ws), h _ (fun _ _ _ => rfl) _, h _ (fun _ _ _ => rfl) _, h _ (fun _ _ _ => rfl) _,
    h _ (fun _ _ _ => rfl) _, h _ (fun _ _ _ => rfl) _, h _ (fun _ _ _ => rfl) _⟩

/-- The source-code rendering is the event list rendered callback by callback: one `VALUE` line
per reported string, inside the `BLOCK` of its string table, in order. -/
theorem C13_source_renders_every_event (ws : List Nat) :
    ∃ es, events (block ws) = .ok es ∧ sourceCode (block ws) = .ok (es.flatMap renderEvent) :=
  ⟨_, events_eq_flat _ (block_al ws), sourceCode_eq _ (block_al ws)⟩

/-- The single-value query agrees with the per-language enumeration: `value(lang, key)` is the
value of the last pair with that key that `strings(lang, ..)` reports.  Side condition (decidable):
the stored keys contain no unpaired surrogate — `value` compares keys exactly, `strings` converts
them lossily. -/
theorem C13_value_agrees_with_strings (ws : List Nat) (lang : Language) (key : Str) (es : List Event)
    (hes : events (block ws) = .ok es) (hkeys : ∀ k ∈ stringKeys es, validUtf16 k = true) :
    ∃ v l, value (block ws) lang key = .ok v ∧ strings (block ws) lang = .ok l ∧
      v = ((l.filter (fun p => p.1 = key)).getLast?).map (·.2) := by
  refine ⟨_, _, value_eq _ (block_al ws) lang key, strings_eq _ (block_al ws) lang, ?_⟩
  rw [events_eq_flat _ (block_al ws)] at hes
  cases hes
  cases hp : pRoots (block ws) with
  | nil => rfl
  | cons r rs =>
    rw [hp] at hkeys
    exact value_strings_agree_tree r lang key hkeys

/-- The hash-map dump agrees with the single-value query: `file_info().strings[lang][key]` is
`value(lang, key)`.  Side conditions (decidable): valid UTF-16 keys as above, and no two string
tables whose keys name the same language — `file_info` keeps only the last such table,
`value` looks into all of them. -/
theorem C13_file_info_agrees_with_value (ws : List Nat) (lang : Language) (key : Str) (es : List Event)
    (hes : events (block ws) = .ok es) (hkeys : ∀ k ∈ stringKeys es, validUtf16 k = true)
    (hlangs : (tableLangs es).Nodup) :
    ∃ fi v, fileInfo (block ws) = .ok fi ∧ value (block ws) lang key = .ok v ∧
      (amLookup lang fi.strings).bind (amLookup key) = v := by
  obtain ⟨fi, hfi, hfi2⟩ := fileInfo_eq _ (block_al ws)
  refine ⟨fi, _, hfi, value_eq _ (block_al ws) lang key, ?_⟩
  rw [events_eq_flat _ (block_al ws)] at hes
  cases hes
  cases hp : pRoots (block ws) with
  | nil =>
    rw [hp] at hfi2
    simp only [hfi2.2.1]; rfl
  | cons r rs =>
    rw [hp] at hfi2 hkeys hlangs
    simp only [hfi2.2.1]
    exact fileInfo_value_agree_tree r lang key hkeys hlangs

/-- two string tables "000004b0" {A = "1"} and "000004B0" {B = "2"} (same language, written by the
reference writer) -/
def twoTables : VInfo :=
  ⟨ofString "V", [], [.stringInfo [⟨ofString "000004b0", [⟨[65], [49, 0]⟩]⟩, ⟨ofString "000004B0", [⟨[66], [50, 0]⟩]⟩]]⟩

/-- The distinct-languages condition is needed: with two tables naming the same language
`value` finds "A" in the first one, the hash map only holds the second one. -/
theorem C13_file_info_needs_distinct_languages :
    twoTables.wf = true ∧
    value (block (twoTables.encode false)) ⟨0, 1200⟩ [65] = .ok (some [49]) ∧
    (fileInfo (block (twoTables.encode false))).bind (fun fi => .ok ((amLookup ⟨0, 1200⟩ fi.strings).bind (amLookup [65])))
      = .ok none := by
  decide +kernel

/-- a string whose key is the unpaired surrogate D800 -/
def loneSurrogateKey : VInfo :=
  ⟨ofString "V", [], [.stringInfo [⟨ofString "000004b0", [⟨[0xD800], [49, 0]⟩]⟩]]⟩

/-- The valid-keys condition is needed: `strings` reports the key as U+FFFD, `value` asked for
U+FFFD finds nothing. -/
theorem C13_value_needs_valid_keys :
    loneSurrogateKey.wf = true ∧
    strings (block (loneSurrogateKey.encode false)) ⟨0, 1200⟩ = .ok [([0xFFFD], [49])] ∧
    value (block (loneSurrogateKey.encode false)) ⟨0, 1200⟩ [0xFFFD] = .ok none := by
  decide +kernel

/-- The hash-map dump carries the same fixed info and translation slice as the dedicated queries. -/
theorem C13_file_info_fixed_and_langs (ws : List Nat) :
    ∃ fi f t, fileInfo (block ws) = .ok fi ∧ fixed (block ws) = .ok f ∧ translation (block ws) = .ok t ∧
      fi.fixed = f ∧ fi.langs = t := by
  obtain ⟨fi, hfi, hfi2⟩ := fileInfo_eq _ (block_al ws)
  refine ⟨fi, _, _, hfi, fixed_eq _ (block_al ws), translation_eq _ (block_al ws), ?_⟩
  cases hp : pRoots (block ws) with
  | nil => rw [hp] at hfi2; exact ⟨hfi2.1, hfi2.2.2⟩
  | cons r rs => rw [hp] at hfi2; exact ⟨hfi2.1, hfi2.2.2⟩

/-! ## (c) robustness for arbitrary words -/

/-- **A parsed node lies inside the words it was parsed from**, for every input of `parse_tlv`:
header at the start, then the key, its NUL, the value, the children up to the node's end; the
parser resumes at or after the node's end; key, value, children and the resumed input are windows
of the input (same words); values and children are empty or on a 32-bit boundary. -/
theorem C13_node_extent (vlt : Vlt) (w : Sl) (t : Tlv) (r : Sl) (h : parseTlv vlt w = .ok (t, r)) :
    4 ≤ nodeLen w ∧ nodeLen w ≤ w.len ∧
    t.key.off = w.off + 3 ∧
    t.key.off + t.key.len + 1 ≤ t.value.off ∧
    t.value.off + t.value.len ≤ t.children.off ∧
    t.children.off + t.children.len = w.off + nodeLen w ∧
    w.off + nodeLen w ≤ r.off ∧ r.off + r.len = w.off + w.len ∧
    t.key.Sub w ∧ t.value.Sub w ∧ t.children.Sub w ∧ r.Sub w ∧
    (w.Al → t.value.Al ∧ t.children.Al ∧ r.Al) := by
  have e := parseTlv_ok_ext h
  exact ⟨e.len4, e.lenL, e.keyOff, e.keyEnd, e.valEnd, e.chEnd, e.restOff, e.restEnd, e.keySub, e.valSub,
    e.chSub, e.restSub, fun hw => ⟨e.alV hw, e.alC hw, e.alR hw⟩⟩

/-- **The nodes of one level lie inside the level's input, in stored order, without overlap.** -/
theorem C13_level_nodes_ordered_disjoint (vlt : Vlt) (w : Sl) :
    (∀ t ∈ items vlt w, NodeIn t w) ∧ (items vlt w).Pairwise (fun a b => a.stop ≤ b.start) :=
  items_ext vlt w

/-- **An error ends its level**: when `parse_tlv` fails on the remaining input of a level, the loop
body is not run again, whatever follows (and the loop is exactly a run over `items`). -/
theorem C13_error_ends_level {σ : Type} (vlt : Vlt) (step : Tlv → σ → Out (σ × Bool)) (w : Sl) (s : σ) :
    (∀ e, parseTlv vlt w = .err e → forEach vlt step w s = .ok s ∧ items vlt w = []) ∧
    forEach vlt step w s = runSteps step (items vlt w) s :=
  ⟨fun _ h => ⟨forEach_err h, items_err h⟩, forEach_eq_runSteps vlt step w s⟩

/-- **The reported tree is nested in the block**: for every word list, the events are the flattened
parse tree, and in that tree every block lies in the root's children, every string table in its
block's children, every string in its table's children, every var in its block's children;
siblings are in stored order and do not overlap. -/
theorem C13_tree_nested (ws : List Nat) :
    events (block ws) = .ok (flatRoots (pRoots (block ws))) ∧ ∀ r ∈ pRoots (block ws), r.Nested (block ws) :=
  ⟨events_eq_flat _ (block_al ws), pRoots_nested _⟩

/-- **Nothing is attributed to another table**: for two string tables of a block, every string
reported under the first ends before the first table ends, which is before the second table starts,
which is before any string reported under the second starts. -/
theorem C13_strings_stay_in_their_table (ws : List Nat) :
    ∀ r ∈ pRoots (block ws), ∀ i ∈ r.infos,
      i.tables.Pairwise (fun t1 t2 => ∀ x ∈ t1.strings, ∀ y ∈ t2.strings,
        x.stop ≤ t1.node.stop ∧ t1.node.stop ≤ t2.node.start ∧ t2.node.start ≤ y.start) := by
  intro r hr i hi
  have hn := pRoots_nested (block ws) r hr
  refine List.Pairwise.imp_of_mem ?_ (hn.tablesOrd i hi)
  intro t1 t2 h1 h2 hord x hx y hy
  have hx' := hn.strings i hi t1 h1 x hx
  have hy' := hn.strings i hi t2 h2 y hy
  have ht2 := hn.tables i hi t2 h2
  refine ⟨?_, hord, ?_⟩
  · have := hx'.stop; simp only [Tlv.stop] at *; omega
  · have h3 := hy'.start
    have h4 := ht2.keyOff; have h5 := ht2.keyEnd; have h6 := ht2.valEnd
    omega

/-! ## (d) totality, bounds -/

/-- **`parse_tlv` never panics** (C02), for every word list and every value-length convention:
it answers `Ok` or `Err(Invalid)`.  `parseTlv` is the function the driver runs; it indexes and
slices with the panicking operations of a checked build (`Sl.idx`, `Sl.sliceFrom`, `Sl.sliceTo`, one
at each `words[i]` / `&words[a..b]` of the Rust code, each with a `panic` outcome when out of range),
so this is a statement about the guards of the code, see `C13_parse_tlv_guards`. -/
theorem C13_parse_tlv_never_panics (vlt : Vlt) (w : Sl) :
    (∃ t r, parseTlv vlt w = .ok (t, r)) ∨ parseTlv vlt w = .err .invalid :=
  parseTlv_total vlt w

/-- **Every index and every slice bound of `parse_tlv` is in range where it is used**: the checked
function equals the one written with total `take` / `drop` (and is therefore not `panic`, the total
one has no such outcome).  The proof (Model/Version.lean, `parseTlv_eq_total`) discharges the range
condition of each site from the check or clamp that precedes it:
`words[0]`, `words[1]` from `words.len() >= 4`; `&words[..length]` from `length <= words.len()`;
`&words[3..]` from `length = max(4, _)`; `&words[..value_length]` from `value_length <= words.len()`;
the three `&words[min(_, words.len())..]` from the `cmp::min`. -/
theorem C13_parse_tlv_guards (vlt : Vlt) (w : Sl) : parseTlv vlt w = parseTlvTotal vlt w :=
  parseTlv_eq_total vlt w

/-- The panicking operations do panic out of range, and the clamp of the key padding is what keeps
`parse_tlv` from it: on the node `[10, 0, 1, 'A', 0]` (a key of odd length ending its node) the
unclamped bound `key.len().align_to(2) + 4 = 6` exceeds the node's 5 words — the panic of the
unfixed code — while the clamped slice is the empty rest. -/
theorem C13_slice_operations_panic :
    (⟨0, [10, 0, 1, 65, 0]⟩ : Sl).sliceFrom (align2 1 + 4) siteBody = .panic siteBody ∧
    (⟨0, [10, 0, 1, 65, 0]⟩ : Sl).sliceFrom (min (align2 1 + 4) 5) siteBody = .ok ⟨5, []⟩ ∧
    (⟨0, [1, 2]⟩ : Sl).idx 2 siteLen = .panic siteLen ∧ (⟨0, [1, 2]⟩ : Sl).idx 1 siteLen = .ok 2 ∧
    (⟨0, [1, 2]⟩ : Sl).sliceTo 3 siteNode = .panic siteNode ∧ (⟨0, [1, 2]⟩ : Sl).sliceTo 2 siteNode = .ok ⟨0, [1, 2]⟩ :=
  ⟨Sl.sliceFrom_panic (by decide) _, Sl.sliceFrom_ok (by decide) _, Sl.idx_panic (by decide) _, Sl.idx_ok (by decide) _,
    Sl.sliceTo_panic (by decide) _, Sl.sliceTo_ok (by decide) _⟩

/-- **Stripping the terminating NUL never panics**: `&value[..value.len() - 1]` (a `usize`
subtraction and a slicing, both panicking in the model) is only reached when the last word is `0`,
so the value is not empty. -/
theorem C13_strip_nul_never_panics (v : Sl) : stripNulChk v = .ok (stripNul v) :=
  stripNulChk_eq v

/-- **`visit` returns for every visitor and every word list**: no panic (C02; every `parse_tlv` and
every terminator stripping of the walk is the checked one), no unaligned or
out-of-bounds unchecked access (the `&*(ptr as *const VS_FIXEDFILEINFO)` is only reached on a
32-bit boundary), no divergence (C03; the loops are well-founded recursions on the remaining input,
there is no fuel).  The result is the structural walk over the parse tree. -/
theorem C13_visit_total {σ : Type} (V : Visitor σ) (ws : List Nat) (s : σ) :
    visit V (block ws) s = .ok (walkRoots V (pRoots (block ws)) s) :=
  visit_eq_walk V (block ws) (block_al ws) s

theorem C13_queries_total (ws : List Nat) (lang : Language) (key : Str) :
    (fixed (block ws)).isOk ∧ (translation (block ws)).isOk ∧ (value (block ws) lang key).isOk ∧
    (strings (block ws) lang).isOk ∧ (fileInfo (block ws)).isOk ∧ (sourceCode (block ws)).isOk ∧
    (events (block ws)).isOk := by
  simp only [fixed, translation, value, strings, fileInfo, sourceCode, events, C13_visit_total, Out.isOk, and_self]

/-- `try_from` accepts exactly the 4-aligned buffers; the words it yields are u16 values. -/
theorem C13_try_from (base : Nat) (bytes : Bytes) :
    tryFrom base bytes = (if base % 4 = 0 then .ok (block (wordsOfBytes bytes)) else .err .misaligned) ∧
    (wordsOfBytes bytes).length = bytes.size / 2 ∧ ∀ w ∈ wordsOfBytes bytes, w < 65536 := by
  refine ⟨?_, ?_, ?_⟩
  · unfold tryFrom block; by_cases h : base % 4 = 0 <;> simp [h]
  · simp [wordsOfBytes]
  · intro w hw
    simp only [wordsOfBytes, List.mem_map] at hw
    obtain ⟨i, _, rfl⟩ := hw
    exact le16_lt _ _

/-- A level with `n` words of input reports at most `n / 4` nodes. -/
theorem C13_item_bound (vlt : Vlt) (w : Sl) : 4 * (items vlt w).length ≤ w.len :=
  items_length_le vlt w

/-- A block of `n` words has at most `n / 4` nodes in its reported tree and at most `3n / 4` events. -/
theorem C13_node_and_event_bound (ws : List Nat) :
    (∀ r ∈ pRoots (block ws), 4 * r.count ≤ ws.length) ∧
    ∃ es, events (block ws) = .ok es ∧ 4 * es.length ≤ 3 * ws.length := by
  refine ⟨fun r hr => pRoots_count (block ws) r hr, _, events_eq_flat _ (block_al ws), ?_⟩
  cases hp : pRoots (block ws) with
  | nil => simp [flatRoots]
  | cons r rs =>
    have h1 := pRoots_count (block ws) r (by rw [hp]; exact List.mem_cons_self ..)
    have h2 := flatRoot_length r
    simp only [flatRoots, block, Sl.len] at *
    omega

/-- `Language::parse` reads an 8 hex digit string-table key (either case) as the documented
(language id, codepage) pair. -/
theorem C13_language_parse_hex (k : List Nat) (l c : Nat) (h : langOfKey k = some (l, c)) :
    Language.parse k = some ⟨l, c⟩ :=
  parse_hex_key h

/-! ## non-vacuity and regression -/

/-- a resource with fixed info, a translation and a table with keys of odd and even length, an
empty value, a value with an embedded NUL -/
def sample : VInfo :=
  ⟨ofString "VS_VERSION_INFO", List.replicate 26 7,
   [.varInfo [⟨kTranslation, [0x409, 1200]⟩],
    .stringInfo [⟨ofString "040904b0", [⟨ofString "A", []⟩, ⟨ofString "Bc", [0]⟩, ⟨ofString "Def", [120, 0, 121, 0]⟩]⟩]]⟩

example : sample.wf = true ∧ sample.u16 = true ∧ sample.fits true = true ∧
    sample.strings = [(ofString "040904b0", [65], []), (ofString "040904b0", [66, 99], []),
                      (ofString "040904b0", [68, 101, 102], [120, 0, 121])] ∧
    sample.translations = [(0x409, 1200)] ∧
    (events (block (sample.encode true))).isOk = true ∧
    value (block (sample.encode true)) ⟨0x409, 1200⟩ [68, 101, 102] = .ok (some [120, 0, 121]) := by
  decide +kernel

/-- an odd key ending its node (the input of the slice panic that pelite fixed by clamping): an empty node -/
example : events (block [10, 0, 1, 65, 0]) = .ok [.versionInfo ⟨3, [65]⟩ none, .enter 0, .exit 0] := by
  decide +kernel

end Pelite.Version
