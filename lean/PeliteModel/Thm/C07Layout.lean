import PeliteModel.Lemmas.PeLayoutTie
/-!
C07 — the literal offsets of `Model/Pe.lean` are the struct layout of the *current source*.

`Generated/Tables.lean` is rewritten on every run by `harness/src/probe.rs` from `size_of`,
`align_of` and `offset_of!` of pelite's `image.rs` structs; `Src.*` (Lemmas/PeLayoutTie.lean) names
its entries.  Every theorem below is proved by evaluation of that table: when a struct of the Rust
source changes layout the table changes and these proofs fail.
-/
namespace Pelite.Pe
open Src

/-- **Every raw header accessor of the model reads at the offset the source's struct layout gives.**
`f` is the format whose `IMAGE_NT_HEADERS` / `IMAGE_OPTIONAL_HEADER` is used: the accessors the model
shares between the two formats (`e_lfanew`, the file header, Magic … CheckSum) are at the same offset
in both, which is part of the statement (it holds for `f = .pe32` and for `f = .pe64`). -/
theorem C07_model_offsets (f : Fmt) (b : Bytes) :
    -- IMAGE_DOS_HEADER
    eLfanew b = le32 b dos_e_lfanew ∧
    -- IMAGE_NT_HEADERS: Signature first, then the file header, then the optional header
    nt_Signature f = 0 ∧
    optOff b = eLfanew b + nt_OptionalHeader f ∧
    optOff b = eLfanew b + (nt_size f - opt_size f) ∧
    ntEnd f b = eLfanew b + nt_size f ∧
    f.ntSize = nt_size f ∧ f.optSize = opt_size f ∧ f.magic = hdr_magic f ∧
    nt_OptionalHeader f + opt_DataDirectory f = nt_size f ∧    -- the directory array starts where the NT headers end
    -- IMAGE_FILE_HEADER
    numberOfSections b = le16 b (eLfanew b + nt_FileHeader f + file_NumberOfSections) ∧
    sizeOfOptionalHeader b = le16 b (eLfanew b + nt_FileHeader f + file_SizeOfOptionalHeader) ∧
    -- IMAGE_OPTIONAL_HEADER
    optMagic b = le16 b (eLfanew b + nt_OptionalHeader f + opt_Magic f) ∧
    sizeOfCode b = le32 b (eLfanew b + nt_OptionalHeader f + opt_SizeOfCode f) ∧
    baseOfCode b = le32 b (eLfanew b + nt_OptionalHeader f + opt_BaseOfCode f) ∧
    sizeOfImage b = le32 b (eLfanew b + nt_OptionalHeader f + opt_SizeOfImage f) ∧
    sizeOfHeaders b = le32 b (eLfanew b + nt_OptionalHeader f + opt_SizeOfHeaders f) ∧
    checkSumField b = le32 b (eLfanew b + nt_OptionalHeader f + opt_CheckSum f) ∧
    numberOfRvaAndSizes f b = le32 b (eLfanew b + nt_OptionalHeader f + opt_NumberOfRvaAndSizes f) ∧
    f.offNumRva = opt_NumberOfRvaAndSizes f ∧
    imageBaseField f b =
      (match f with
       | .pe32 => le32 b (eLfanew b + nt_OptionalHeader .pe32 + opt_ImageBase .pe32)     -- `ImageBase: u32`
       | .pe64 => le64 b (eLfanew b + nt_OptionalHeader .pe64 + opt_ImageBase .pe64)) ∧  -- `ImageBase: u64`
    numDataDirs f b = min (numberOfRvaAndSizes f b) NUMBEROF_DIRECTORY_ENTRIES ∧
    -- section table: located through SizeOfOptionalHeader, `size_of::<IMAGE_SECTION_HEADER>()` apart
    secTable b = eLfanew b + nt_OptionalHeader f + sizeOfOptionalHeader b ∧
    (∀ o, secAt b o = secAtSrc b o) ∧
    sections b = (List.range (numberOfSections b)).map (fun i => secAtSrc b (secTable b + sec_size * i)) := by
  have hs : sections b = (List.range (numberOfSections b)).map (fun i => secAtSrc b (secTable b + sec_size * i)) := rfl
  cases f <;> exact ⟨rfl, rfl, rfl, rfl, rfl, rfl, rfl, rfl, rfl, rfl, rfl, rfl, rfl, rfl, rfl, rfl, rfl,
    rfl, rfl, rfl, rfl, rfl, fun _ => rfl, hs⟩

/-- The constructed view's accessors: data directory entry `i` is the `i`-th
`IMAGE_DATA_DIRECTORY` of the array at `OptionalHeader.DataDirectory`, and every header reference
has the offset, `size_of` and `align_of` of its struct.  (`align_of::<IMAGE_FILE_HEADER>()` and
`align_of::<IMAGE_OPTIONAL_HEADER>()` are not exported by the probe; the model claims 4, which the
enclosing `IMAGE_NT_HEADERS` — alignment `nt_align` — guarantees.) -/
theorem C07_model_view_offsets (v : View) (i : Nat) :
    v.dataDir i =
      (if i < min (numberOfRvaAndSizes v.fmt v.b) NUMBEROF_DIRECTORY_ENTRIES then
        some (le32 v.b (eLfanew v.b + nt_OptionalHeader v.fmt + opt_DataDirectory v.fmt + dd_size * i + dd_VirtualAddress),
              le32 v.b (eLfanew v.b + nt_OptionalHeader v.fmt + opt_DataDirectory v.fmt + dd_size * i + dd_Size))
       else none) ∧
    v.dosHeader = ⟨0, dos_size, dos_align⟩ ∧
    v.dosImage = ⟨0, le32 v.b dos_e_lfanew, 1⟩ ∧
    v.ntHeaders = ⟨eLfanew v.b, nt_size v.fmt, nt_align v.fmt⟩ ∧
    v.fileHeader = ⟨eLfanew v.b + nt_FileHeader v.fmt, file_size, nt_align v.fmt⟩ ∧
    v.optionalHeader = ⟨eLfanew v.b + nt_OptionalHeader v.fmt, opt_size v.fmt, nt_align v.fmt⟩ ∧
    v.dataDirectory = ⟨eLfanew v.b + nt_OptionalHeader v.fmt + opt_DataDirectory v.fmt,
                       dd_size * numDataDirs v.fmt v.b, dd_align⟩ ∧
    v.sectionHeaders = ⟨secTable v.b, sec_size * numberOfSections v.b, sec_align⟩ ∧
    v.checkSum = checkSumAt v ((eLfanew v.b + nt_OptionalHeader v.fmt + opt_CheckSum v.fmt) / 4) := by
  obtain ⟨img, f, k, ib⟩ := v
  cases f <;> exact ⟨rfl, rfl, rfl, rfl, rfl, rfl, rfl, rfl, rfl⟩

/-- **`validate` is `validate_headers` over the source's layout**: the model's if-chain with literal
sizes and offsets equals, on every input, the transcription of `validate_headers` in which every
size and offset is looked up in the regenerated table (`Src.validateSrc`). -/
theorem C07_validate_reads_source_layout (f : Fmt) (img : Img) : validate f img = validateSrc f img := by
  cases f <;> rfl

/-- The constants the checks compare with are the source's. -/
theorem C07_model_constants :
    IMAGE_DOS_SIGNATURE = 0x5A4D ∧ IMAGE_NT_HEADERS_SIGNATURE = 0x00004550 ∧
    Fmt.magic .pe32 = HDR32_MAGIC ∧ Fmt.magic .pe64 = HDR64_MAGIC ∧ NUMBEROF_DIRECTORY_ENTRIES = 16 ∧
    dos_size = 64 ∧ dos_e_magic = 0 ∧ sec_size = 40 ∧ sec_align = 4 ∧ dd_size = 8 ∧ sec_Name = 0 := by
  decide

/-- Non-vacuity of the tie: the table is long enough for every name (a truncated table would make
`Src.val` answer 0 and the proofs above fail, not hold vacuously); the last named entry is entry 55. -/
example : Generated.layoutVals.length = 58 ∧ Src.val 55 = 16 ∧ Src.val 58 = 0 := by decide

end Pelite.Pe
