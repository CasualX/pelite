import PeliteModel.Lemmas.Cross
import PeliteModel.Thm.C02Arith
import PeliteModel.Generated.ImageLayout
/-!
C01 — memory safety: every reference the safe API returns lies inside the buffer and is aligned for
its type; no operation performs an unchecked access outside the buffer (`Out.ub`).
This file gathers the obligations of the PE core and the typed reads; the other modules state theirs
in their own property files (see DESIGN.md; relocation blocks: `C14_refs_ok`, `Thm/C14.lean`).
-/
namespace Pelite.Pe

/-- header accessors (restated from C07 for every constructor incl. the agnostic one) -/
theorem C01_header_refs (k : Kind) (img : Img) (v : View) (h : wrapFromBytes k img = .ok v) :
    RefOK img v.dosHeader ∧ RefOK img v.dosImage ∧ RefOK img v.ntHeaders ∧ RefOK img v.fileHeader ∧
    RefOK img v.optionalHeader ∧ RefOK img v.dataDirectory ∧ RefOK img v.sectionHeaders ∧
    RefOK img v.headersImage := by
  obtain ⟨h1, h2, h3, h4, h5, h6, h7, h8, -⟩ := C07_header_refs_ok v.fmt k img v (wrap_ok_imp k img v h)
  exact ⟨h1, h2, h3, h4, h5, h6, h7, h8⟩

/-- every data directory entry and every section header the model decodes is read from inside the
accepted buffer -/
theorem C01_tables_inside (f : Fmt) (k : Kind) (img : Img) (v : View) (h : fromBytes f k img = .ok v) :
    (∀ i, i < numDataDirs f img.bytes → ntEnd f img.bytes + 8 * i + 8 ≤ img.bytes.size) ∧
    (∀ i, i < numberOfSections img.bytes → secTable img.bytes + 40 * i + 40 ≤ img.bytes.size) := by
  obtain ⟨ha, -⟩ := (fromBytes_ok_iff _ _ _ _).1 h
  unfold Accept at ha
  dsimp only at ha
  obtain ⟨-, -, -, -, -, -, -, -, -, -, hd, -, hsec, -⟩ := ha
  simp only [ntEnd, numDataDirs, secTable, optOff]
  constructor
  · intro i hi; omega
  · intro i hi; omega

/-- `slice` / `read`, any view, any arguments: the result is inside the buffer and aligned as requested -/
theorem C01_slice_read (f : Fmt) (k : Kind) (img : Img) (v : View) (hv : fromBytes f k img = .ok v)
    (a : Addr) (min align : Nat) (ha : match a with | .rva r => r < 4294967296 | .va x => x < v.fmt.vaLimit)
    (ref : Ref) (h : v.at a min align = .ok ref) : RefOK v.img ref := by
  exact (C05_at_sound f k img v hv a min align ha ref h).1

/-- `get_section_bytes` -/
theorem C01_section_bytes (v : View) (s : Sec) (hs : s.InRange) (r : Ref) (h : v.sectionBytes s = .ok r) :
    RefOK v.img r := by
  have := (C04_section_bytes v s hs r).1 h
  obtain ⟨h1, h2, h3, h4⟩ := hs
  unfold RefOK
  cases hk : v.kind <;> rw [hk] at this <;> simp only at this <;> obtain ⟨-, -, hb, rfl⟩ := this <;>
    exact ⟨hb, Nat.mod_one _⟩

/-- `slice` / `read` never perform an unchecked out-of-range access -/
theorem C01_no_ub (v : View) (a : Addr) (min align : Nat) (s : String) : v.at a min align ≠ .ub s := by
  exact v.at_ne_ub a min align s

/-- `slice` / `read` on a view whose base address was overridden (`PeView::set_base_address`, any base,
also one that makes `base + SizeOfImage` wrap): the result is inside the buffer, aligned as requested
and holds the requested number of bytes.  No range hypothesis on the address or the arguments. -/
theorem C01_at_any_base (f : Fmt) (k : Kind) (img : Img) (v : View) (hv : fromBytes f k img = .ok v)
    (base : Nat) (a : Addr) (min align : Nat) (ref : Ref) (h : (v.setBase base).at a min align = .ok ref) :
    RefOK img ref ∧ min ≤ ref.len ∧ ref.align = align := by
  obtain ⟨-, rfl⟩ := (fromBytes_ok_iff _ _ _ _).1 hv
  exact View.at_sound _ a min align ref h

/-- the same for every `View` value whatsoever (the section fields are `u32` because they are decoded
from the buffer; nothing else is needed) — `C01_slice_read` without its hypotheses -/
theorem C01_at_every_view (v : View) (a : Addr) (min align : Nat) (ref : Ref) (h : v.at a min align = .ok ref) :
    RefOK v.img ref ∧ min ≤ ref.len ∧ ref.align = align :=
  v.at_sound a min align ref h

/-- typed reads on every view (in particular after `set_base_address`) -/
theorem C01_typed_any_base (v : View) (a : Addr) :
    (∀ size align ref, v.derva a size align = .ok ref → RefOK v.img ref) ∧
    (∀ size align len ref, v.dervaSlice a size align len = .ok ref → RefOK v.img ref) ∧
    (∀ size align s ref, 1 ≤ size → v.dervaSliceS a size align s = .ok ref → RefOK v.img ref) ∧
    (∀ ref, v.dervaCStr a = .ok ref → RefOK v.img ref) ∧
    (∀ ref, v.dervaWStr a = .ok ref → RefOK v.img ref) := by
  exact ⟨fun _ _ _ h => (derva_sound v h).1, fun _ _ _ _ h => (dervaSlice_sound v h).1,
    fun _ _ _ _ _ h => (dervaSliceFI_sound v (View.dervaSliceS_eq_I .. ▸ h)).1, fun _ h => (dervaCStr_sound v h).1,
    fun _ h => dervaWStr_sound v h⟩

/-- typed reads hand out sub-ranges of what `slice`/`read` returned, with the alignment of their type
(`hv` and `ha` are not needed: `C01_typed_any_base`) -/
theorem C01_typed (f : Fmt) (k : Kind) (img : Img) (v : View) (hv : fromBytes f k img = .ok v)
    (a : Addr) (ha : match a with | .rva r => r < 4294967296 | .va x => x < v.fmt.vaLimit) :
    (∀ size align ref, v.derva a size align = .ok ref → RefOK v.img ref) ∧
    (∀ size align len ref, v.dervaSlice a size align len = .ok ref → RefOK v.img ref) ∧
    (∀ size align s ref, 1 ≤ size → v.dervaSliceS a size align s = .ok ref → RefOK v.img ref) ∧
    (∀ ref, v.dervaCStr a = .ok ref → RefOK v.img ref) := by
  obtain ⟨h1, h2, h3, h4, -⟩ := C01_typed_any_base v a
  exact ⟨h1, h2, h3, h4⟩

/-! ### the unchecked accesses, as the driver runs them -/

/-- In the checked model (`Model/PeChecked.lean`, the one the correspondence run executes) every
`&*(p as *const T)`, `slice::from_raw_parts`, `get_unchecked`, `ptr::read_unaligned` of the typed reads
and of the conversions goes through `rawRef`, which answers `ub` when the access is outside the
buffer or misaligned.  That branch is never taken: for every view, address, size, length, sentinel and
every power-of-two `usize` alignment with `size % align = 0` (true of every Rust type). -/
theorem C01_checked_no_ub (v : View) (a : Addr) (size align len sentinel : Nat) (hb : v.b.size < 4294967296)
    (hs : 1 ≤ size) (hsz : size < 18446744073709551616) (hsa : size % align = 0)
    (ha : align < 18446744073709551616) (hp : isPow2 align = true) (s : String) :
    v.atChk a size align ≠ .ub s ∧ v.dervaChk a size align ≠ .ub s ∧ v.dervaCopyChk a size ≠ .ub s ∧
    v.dervaIntoChk a len ≠ .ub s ∧ v.dervaSliceChk a size align len ≠ .ub s ∧
    v.dervaSliceSChk a size align sentinel ≠ .ub s ∧ v.dervaCStrChk a ≠ .ub s ∧ v.dervaWStrChk a ≠ .ub s := by
  refine ⟨?_, (C02_derva_never_panics v a size align ha hp).ne_ub s, (C02_dervaCopy_never_panics v a size).ne_ub s,
    (C02_dervaInto_never_panics v a len).ne_ub s, (C02_dervaSlice_never_panics v a size align len ha hp).ne_ub s,
    (C02_dervaSliceS_never_panics v a size align sentinel hb hs hsz hsa ha hp).ne_ub s,
    (C02_dervaCStr_never_panics v a hb).ne_ub s, (C02_dervaWStr_never_panics v a).ne_ub s⟩
  rw [C02_at_checked_eq v a size align ha]
  exact v.at_ne_ub a size align s

/-- `to_view` / `to_file`: `get_unchecked(..SizeOfHeaders)` on both buffers stays inside them -/
theorem C01_convert_checked_no_ub (f : Fmt) (k : Kind) (img : Img) (v : View) (hv : fromBytes f k img = .ok v)
    (s : String) : v.toViewChk ≠ .ub s ∧ v.toFileChk ≠ .ub s :=
  ⟨(C02_toView_never_panics f k img v hv).ne_ub s, (C02_toFile_never_panics f k img v hv).ne_ub s⟩

/-! ### non-vacuity -/

/-- a PE32+ file the model — and the real `PeFile::from_bytes` — accepts, through the format specific and
the agnostic constructor; all header references inside its 256 bytes -/
example : fromBytes .pe64 .file demo64Img = .ok demo64File ∧ wrapFromBytes .file demo64Img = .ok demo64File ∧
    demo64File.ntHeaders = ⟨64, 136, 4⟩ ∧ demo64File.sectionHeaders = ⟨200, 40, 4⟩ ∧
    demo64File.headersImage = ⟨0, 240, 1⟩ ∧ RefOK demo64Img demo64File.sectionHeaders := by
  refine ⟨demo64File_ok, C07_wrap_complete _ _ _ _ demo64File_ok, ?_⟩
  decide +kernel

/-- `C01_slice_read` / `C01_typed`: hypotheses met by the PE32+ file (rva 260 < 2^32, va < 2^64) and the
PE32 view; the references handed out -/
example : (260 : Nat) < 4294967296 ∧ (0x140000104 : Nat) < demo64File.fmt.vaLimit ∧
    demo64File.at (.rva 260) 0 2 = .ok ⟨244, 12, 2⟩ ∧ demo64File.at (.va 0x140000104) 0 2 = .ok ⟨244, 12, 2⟩ ∧
    RefOK demo64File.img ⟨244, 12, 2⟩ ∧
    demo64File.dervaSliceS (.rva 260) 2 2 0xffff = .ok ⟨244, 4, 2⟩ ∧ demo64File.dervaCStr (.rva 256) = .ok ⟨240, 3, 1⟩ ∧
    demo64File.sectionBytes ⟨0, 0, 24, 256, 16, 240, 0⟩ = .ok ⟨240, 16, 1⟩ := by
  have hat : demo64File.at (.rva 260) 0 2 = .ok ⟨244, 12, 2⟩ := by rw [demo64File_at_rva]; decide +kernel
  have hc : demo64File.at (.rva 256) 0 1 = .ok ⟨240, 16, 1⟩ := by rw [demo64File_at_rva]; decide +kernel
  exact ⟨by decide, by decide, hat, by rw [demo64File_at_va]; decide +kernel, by decide +kernel,
    View.dervaSliceS_of_at 2 (by decide) hat (by simp only [leN_toNat]; decide +kernel),
    View.dervaCStr_of_at 2 hc (by simp only [byteAt_toNat]; decide +kernel),
    by decide +kernel⟩

/-- `C01_at_any_base`: the PE32 view relocated to 0x10000, and to a base where `base + SizeOfImage`
wraps the 32-bit address space -/
example : fromBytes .pe32 .view demoImg = .ok demoView ∧
    (demoView.setBase 0x10000).at (.va 0x100b8) 0 1 = .ok ⟨184, 16, 1⟩ ∧
    (demoView.setBase 0x10000).at (.va 0x4000b8) 0 1 = .err .bounds ∧
    (demoView.setBase 0xffffff80).at (.va 0xffffff90) 4 4 = .ok ⟨16, 184, 4⟩ ∧
    (demoView.setBase 0x10000).dervaCStr (.va 0x100b8) = .ok ⟨184, 3, 1⟩ := by
  refine ⟨demoView_ok, ?_⟩
  decide +kernel

/-! ### the unchecked reads of `validate_headers` and `check_sum` -/

/-- `Headers::check_sum` (headers.rs:39) and `Pe::rich_structure` (pe.rs:479) reinterpret the whole
buffer as `&[u32]` with `slice::from_raw_parts(image.as_ptr() as *const u32, image.len() / 4)`: for every
constructed view (both formats, both kinds) that slice lies inside the buffer and is dword aligned —
the alignment is the constructor's test `image.as_ptr().aligned_to(4)` (pe.rs:778). -/
theorem C01_checksum_dwords (f : Fmt) (k : Kind) (img : Img) (v : View) (hv : fromBytes f k img = .ok v) :
    RefOK img ⟨0, 4 * (img.bytes.size / 4), 4⟩ := by
  obtain ⟨ha, -⟩ := (fromBytes_ok_iff _ _ _ _).1 hv
  unfold Accept at ha
  dsimp only at ha
  refine ⟨?_, ?_⟩
  · show 0 + 4 * (img.bytes.size / 4) ≤ img.bytes.size
    omega
  · show (img.base + 0) % 4 = 0
    rw [Nat.add_zero]; exact ha.2.1

/-- `validate_headers` reads the DOS header, the signature, the optional-header magic and the NT headers
through raw pointers (pe.rs:781, 801, 802, 817); in the checked model each of them is a `rawRef` (`ub`
when outside the buffer or misaligned for the pointee).  No input whatsoever — any bytes, any length, any
address — reaches such a branch: the length and alignment guards that precede each read discharge it.
Likewise for the constructors built on it. -/
theorem C01_validate_no_ub (f : Fmt) (k : Kind) (img : Img) (s : String) :
    validateChk f img ≠ .ub s ∧ fromBytesChk f k img ≠ .ub s ∧ wrapFromBytesChk k img ≠ .ub s :=
  ⟨(C02_validate_never_panics f img).ne_ub s, (C02_fromBytes_never_panics f k img).ne_ub s,
    (C02_wrapFromBytes_never_panics k img).ne_ub s⟩

/-- `check_sum` on every constructed view (also after `set_base_address`): the dword view is never UB -/
theorem C01_checksum_no_ub (f : Fmt) (k : Kind) (img : Img) (v : View) (hv : fromBytes f k img = .ok v)
    (base : Nat) (hb : img.bytes.size < 4294967296) (s : String) : (v.setBase base).checkSumChk ≠ .ub s := by
  rw [C02_checkSum_checked_eq_constructed f k img v hv base hb]
  intro h; cases h

/-- the predicate-terminated reads with ANY callable, stateful ones included: no `&*s` of the loop and
no final `from_raw_parts` is outside the buffer or misaligned -/
theorem C01_checked_slice_f_no_ub (v : View) (a : Addr) (size align : Nat) (stop : Nat → Nat → Bool)
    (hb : v.b.size < 4294967296) (hs : 1 ≤ size) (hsz : size < 18446744073709551616) (hsa : size % align = 0)
    (ha : align < 18446744073709551616) (hp : isPow2 align = true) (s : String) :
    v.dervaSliceFIChk a size align stop ≠ .ub s :=
  (C02_dervaSliceFI_never_panics v a size align stop hb hs hsz hsa ha hp).ne_ub s

/-- what a predicate-terminated read hands out lies inside the buffer and is aligned for the element type -/
theorem C01_slice_f_ref (v : View) (a : Addr) (size align : Nat) (stop : Nat → Nat → Bool) (ref : Ref)
    (h : v.dervaSliceFI a size align stop = .ok ref) : RefOK v.img ref :=
  (dervaSliceFI_sound v h).1

/-- the sizes and alignments handed to `rawRef` in `validateChk` / `checkSumChk` are those of the
pointees in the CURRENT source (`Generated/ImageLayout.lean` is rewritten from /repo on every run) -/
theorem C01_validate_pointee_layout :
    (64 = Generated.Layout.IMAGE_DOS_HEADER__size ∧ 4 = Generated.Layout.IMAGE_DOS_HEADER__align) ∧
    (Fmt.pe32.ntSize = Generated.Layout.IMAGE_NT_HEADERS32__size ∧ 4 = Generated.Layout.IMAGE_NT_HEADERS32__align) ∧
    (Fmt.pe64.ntSize = Generated.Layout.IMAGE_NT_HEADERS64__size ∧ 4 = Generated.Layout.IMAGE_NT_HEADERS64__align) ∧
    (Fmt.pe32.ntSize - Fmt.pe32.optSize = Generated.Layout.IMAGE_NT_HEADERS32__OptionalHeader ∧
     Fmt.pe64.ntSize - Fmt.pe64.optSize = Generated.Layout.IMAGE_NT_HEADERS64__OptionalHeader) := by
  decide

/-- the PE32+ file and the PE32 view: constructed, hence the dword view of the whole buffer is fine; the
`ub` branch of `rawRef` is live code (a read one byte beyond the buffer, a misaligned read) -/
example : fromBytes .pe64 .file demo64Img = .ok demo64File ∧ RefOK demo64Img ⟨0, 4 * (256 / 4), 4⟩ ∧
    validateChk .pe64 demo64Img = .ok 288 ∧ validateChk .pe32 demoImg = .ok 200 ∧
    validateChk .pe32 ⟨demoImg.bytes, 2⟩ = .err .misaligned ∧
    rawRef "site" demo64Img 253 4 1 = .ub "site" ∧ rawRef "site" demo64Img 2 4 4 = .ub "site" ∧
    rawRef "site" demo64Img 64 136 4 = .ok ⟨64, 136, 4⟩ :=
  ⟨demo64File_ok, by decide +kernel⟩

end Pelite.Pe
