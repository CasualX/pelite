import PeliteModel.Lemmas.WrapExports
import PeliteModel.Thm.C08
/-!
C19 (wrappers) — the format agnostic export API (`src/wrap/exports.rs`) answers what the format
specific API answers, method by method, on every value.

`w : WBy` ranges over both variants of `Wrap<pe32::exports::By, pe64::exports::By>` around ANY value
of the model's `By`: any view (PE32 / PE32+, file / mapped, any bytes), any three tables — null
sub-tables (`isStatic`, count 0), `NumberOfNames` different from the length of the ordinal table,
offsets and counts that no image produces.  Hypotheses occur only in `C19_wrap_iter_refs_ok` (`By.WF`) and
`C19_wrap_len_fits_u32` (`e.by = .ok y`).

Which methods of `wrap/exports.rs` are NOT a `match self { T32(x) => x.m(..), T64(x) => x.m(..) }`:

  * `By::iter`               re-implemented over `self.functions()` and `self.symbol_from_rva(..)`
  * `By::iter_names`         re-implemented over `self.names()`, `self.name_of_hint(..)`, `self.hint(..)`
  * `By::iter_name_indices`  re-implemented over `self.names()`, `self.name_indices()`, `self.name_of_hint(..)`
                             (Rust fix cd633e4: it indexed `name_indices()` by every hint below `names().len()`)

Everything else in the file — and everything in `wrap/imports.rs` — forwards in both arms.
`Model/WrapExports.lean` models every method as it is written; the driver answers `wf` / `wv`
operations through that model, so the correspondence check compares the twin code with the twin
model and the theorems below carry the twin model over to the theorems of C08.
-/
namespace Pelite.Exports
open Pelite.Pe

/-! ### the three hand-written iterators equal their format specific twins -/

/-- `Wrap<By32, By64>::iter` yields the items of `By::iter`, in order. -/
theorem C19_wrap_iter (w : WBy) : w.iter = w.get.iter := by cases w <;> rfl

/-- `Wrap<By32, By64>::iter_names` yields the items of `By::iter_names`, in order. -/
theorem C19_wrap_iter_names (w : WBy) : w.iterNames = w.get.iterNames := by cases w <;> rfl

/-- `Wrap<By32, By64>::iter_name_indices` yields the items of `By::iter_name_indices`, in order — the
checked indexing `self.name_indices()[hint]` included: both twins guard it by `min`, so neither reaches its panic
and the lists agree although the two panic sites differ. -/
theorem C19_wrap_iter_name_indices (w : WBy) : w.iterNameIndices = w.get.iterNameIndices := by
  cases w with
  | t32 y => exact (map_range_min_guard ..).trans (iterNameIndices_eq y).symm
  | t64 y => exact (map_range_min_guard ..).trans (iterNameIndices_eq y).symm

/-- … in closed form, on the wrapper's own accessors: one item per hint that both tables have. -/
theorem C19_wrap_iter_name_indices_items (w : WBy) :
    w.iterNameIndices =
      (List.range (min w.names.cnt w.nameIndices.cnt)).map
        (fun h => .ok (w.nameOfHint h, le16 w.b (w.nameIndices.off + 2 * h))) ∧
    w.iterNameIndices.length = min w.get.names.cnt w.get.idx.cnt ∧
    (w.nameIndices.cnt = 0 → w.iterNameIndices = []) := by
  have e : w.iterNameIndices = _ := map_range_min_guard ..
  refine ⟨e, ?_, fun h0 => ?_⟩
  · rw [e, List.length_map, List.length_range]
    cases w <;> rfl
  · rw [e, h0, Nat.min_zero]
    rfl

/-- No item of a wrapper iterator is a panic, an unchecked access or a divergence (C02 / C03 for the twins). -/
theorem C19_wrap_iter_total (w : WBy) :
    (∀ x ∈ w.iter, OkOrErr x) ∧ (∀ x ∈ w.iterNames, OkOrErr x.1 ∧ OkOrErr x.2) ∧
    (∀ x ∈ w.iterNameIndices, ∃ h, h < w.get.names.cnt ∧ h < w.get.idx.cnt ∧
      x = .ok (w.get.nameOfHint h, w.get.idxAt h)) := by
  rw [C19_wrap_iter, C19_wrap_iter_names, C19_wrap_iter_name_indices]
  exact C08_iter_total w.get

/-- Every reference in an item lies inside the buffer when the `By` comes from `Exports::by` (`By.WF`, C01 for the
twins). -/
theorem C19_wrap_iter_refs_ok (w : WBy) (hw : w.get.WF) (x : Export) (c : Ref) :
    (.ok x ∈ w.iter → RefOK w.get.exp.v.img x.ref) ∧
    (∀ n, (n, .ok x) ∈ w.iterNames → RefOK w.get.exp.v.img x.ref) ∧
    (∀ e, (.ok c, e) ∈ w.iterNames → RefOK w.get.exp.v.img c) ∧
    (∀ i, .ok (.ok c, i) ∈ w.iterNameIndices → RefOK w.get.exp.v.img c) := by
  rw [C19_wrap_iter, C19_wrap_iter_names, C19_wrap_iter_name_indices]
  have h2 := C08_name_refs_ok w.get c
  exact ⟨iter_sound hw, fun _ => iterNames_sound hw, h2.2.2.1, h2.2.2.2⟩

/-! ### the forwarding methods -/

/-- Every other method of `Wrap<By32, By64>` answers what the wrapped `By` answers. -/
theorem C19_wrap_by_forwards (w : WBy) :
    w.b = w.get.b ∧ w.image = w.get.exp.image ∧ w.dllName = w.get.exp.dllName ∧
    w.ordinalBase = w.get.exp.ordinalBase ∧
    w.functions = w.get.fns ∧ w.names = w.get.names ∧ w.nameIndices = w.get.idx ∧
    w.checkSorted = w.get.checkSorted ∧
    (∀ o, w.ordinal o = w.get.ordinal o) ∧ (∀ i, w.index i = w.get.index i) ∧
    (∀ h, w.hint h = w.get.hint h) ∧ (∀ q, w.name q = w.get.name q) ∧
    (∀ q, w.nameLinear q = w.get.nameLinear q) ∧ (∀ h q, w.hintName h q = w.get.hintName h q) ∧
    (∀ i, w.import i = w.get.import i) ∧ (∀ h, w.nameOfHint h = w.get.nameOfHint h) ∧
    (∀ i, w.nameLookup i = w.get.nameLookup i) ∧ (∀ o, w.symbolFromRva o = w.get.exp.symbolFromRva o) := by
  cases w <;> exact ⟨rfl, rfl, rfl, rfl, rfl, rfl, rfl, rfl, fun _ => rfl, fun _ => rfl, fun _ => rfl,
    fun _ => rfl, fun _ => rfl, fun _ _ => rfl, fun _ => rfl, fun _ => rfl, fun _ => rfl, fun _ => rfl⟩

/-- Every method of `Wrap<Exports32, Exports64>` answers what the wrapped `Exports` answers; `by()`
wraps the `By` of the same variant. -/
theorem C19_wrap_exports_forwards (w : WExports) :
    w.image = w.get.image ∧ w.dllName = w.get.dllName ∧ w.ordinalBase = w.get.ordinalBase ∧
    w.functions = w.get.functions ∧ w.names = w.get.names ∧ w.nameIndices = w.get.nameIndices ∧
    mapOut Wrap.get w.by = w.get.by := by
  cases w <;> exact ⟨rfl, rfl, rfl, rfl, rfl, rfl, wExportsBy_get _⟩

/-- From the view: `Wrap<Pe32, Pe64>::exports()?.by()?` wraps exactly the `By` that the format
specific `exports()?.by()?` answers on the view the constructor selected (any view, any bytes). -/
theorem C19_wrap_exports_by (v : View) :
    mapOut Wrap.get (wExports (Wrap.ofView v)) = tryFrom v ∧
    mapOut Wrap.get ((wExports (Wrap.ofView v)).bind WExports.by) = (tryFrom v).bind Exports.by :=
  by
  rw [wExports_ofView]
  cases v.fmt
  · exact wExports_by_wrap .t32 (fun e => ⟨wExportsBy_get (.t32 e), rfl⟩) _
  · exact wExports_by_wrap .t64 (fun e => ⟨wExportsBy_get (.t64 e), rfl⟩) _

/-- `get_export_by_name` / `_by_ordinal` / `_by_import` are the three `get_export`. -/
theorem C19_wrap_get_export (v : View) (q : Query) : wGetExport (Wrap.ofView v) q = getExport v q := by
  unfold wGetExport wGetExportByName wGetExportByOrdinal wGetExportByImport Wrap.ofView
  cases v.fmt <;> cases q <;> rfl

/-- `len() as u32` in the iterators is the identity on every `By` that `Exports::by` answers:
the tables have at most `NumberOfFunctions` / `NumberOfNames` (32-bit fields) elements. -/
theorem C19_wrap_len_fits_u32 (e : Exports) (y : By) (h : e.by = .ok y) :
    y.fns.cnt < 4294967296 ∧ y.names.cnt < 4294967296 ∧ y.idx.cnt < 4294967296 := by_cnt_lt h

/-! ### non-vacuity: the table shape of Rust fix cd633e4

`demoImg` of C08 with `AddressOfNameOrdinals` (offset 192 + 36) zeroed: three names, a null ordinal
table.  `Exports::by` answers it (names: 3 elements, name_indices: the static empty slice). -/

def nullIdxImg : Img := ⟨((demoImg.bytes.set! 228 0).set! 229 0), 0⟩
def nullIdxView : View := ⟨nullIdxImg, .pe32, .view, 0x400000⟩
def nullIdxBy : By := ⟨⟨nullIdxView, 192, 86, 192⟩, ⟨232, 4, false⟩, ⟨248, 3, false⟩, ⟨0, 0, true⟩⟩
def nullIdxW : WBy := .t32 nullIdxBy
def demoW32 : WBy := .t32 demoBy
def demoW64 : WBy := .t64 demoBy

/-- the agnostic view constructor accepts the image as PE32, and the wrapper's `exports()?.by()?`
yields `Wrap::T32` of `nullIdxBy` -/
example :
    (wrapFromBytes .view nullIdxImg).bind (fun v => .ok (v.fmt, v.kind, v.imageBase)) =
      .ok (nullIdxView.fmt, nullIdxView.kind, nullIdxView.imageBase) ∧
    ((wExports (Wrap.ofView nullIdxView)).bind WExports.by).bind
        (fun w => .ok (w.functions, w.names, w.nameIndices, w.get.exp.off,
          match w with | .t32 _ => 32 | .t64 _ => 64)) =
      .ok (⟨232, 4, false⟩, ⟨248, 3, false⟩, ⟨0, 0, true⟩, 192, 32) := by decide +kernel

/-- on it the three wrapper iterators answer: 4 entries (symbol, hole, forwarder, symbol); 3 names,
each with Bounds for its export (no ordinal table); no (name, index) pair at all -/
example :
    nullIdxW.iter = [.ok (.symbol ⟨232, 4, 4⟩), .err .null, .ok (.forward ⟨274, 4, 1⟩),
      .ok (.symbol ⟨244, 4, 4⟩)] ∧
    nullIdxW.iterNames = [(.ok ⟨268, 2, 1⟩, .err .bounds), (.ok ⟨270, 2, 1⟩, .err .bounds),
      (.ok ⟨272, 2, 1⟩, .err .bounds)] ∧
    nullIdxW.iterNameIndices = [] := by
  simp only [WBy.iter, WBy.iterNames, WBy.symbolFromRva, WBy.functions, WBy.nameOfHint, nullIdxW, Exports.symbolFromRva,
    By.nameOfHint, By.nameAt, View.dervaCStr, cstrFromBytes, findNul_eq, le32_toNat, byteAt_toNat]
  decide +kernel

/-- the twin without the `min` (pelite before its fix cd633e4): every hint below `names().len()` indexes
`name_indices()` -/
def WBy.iterNameIndicesPreFix (w : WBy) : List (Out (Out Ref × Nat)) :=
  (List.range w.names.cnt).map fun hint =>
    if hint < w.nameIndices.cnt then .ok (w.nameOfHint hint, le16 w.b (w.nameIndices.off + 2 * hint))
    else .panic "wrap iter_name_indices:self.name_indices()[hint]"

/-- … that twin differed from the format specific iterator exactly on this shape: its first item is a
panic.  (So the equality theorems above are not true by construction.) -/
theorem C19_wrap_prefix_twin_differs :
    nullIdxW.iterNameIndicesPreFix.head? =
      some (.panic "wrap iter_name_indices:self.name_indices()[hint]") ∧
    nullIdxW.iterNameIndicesPreFix ≠ nullIdxBy.iterNameIndices := by decide +kernel

/-- and on the complete table `demoBy` of C08 (as either variant) the pairs are the three names with
their indices 0, 1, 3 -/
example :
    demoW32.iterNameIndices = [.ok (.ok ⟨268, 2, 1⟩, 0), .ok (.ok ⟨270, 2, 1⟩, 1), .ok (.ok ⟨272, 2, 1⟩, 3)] ∧
    demoW64.iterNameIndices = demoW32.iterNameIndices :=
  ⟨by
    simp only [WBy.iterNameIndices, WBy.nameOfHint, WBy.b, demoW32, By.nameOfHint, By.nameAt, View.dervaCStr, cstrFromBytes,
      findNul_eq, le16_toNat, le32_toNat, byteAt_toNat]
    decide +kernel,
   (C19_wrap_iter_name_indices demoW64).trans (C19_wrap_iter_name_indices demoW32).symm⟩

end Pelite.Exports
