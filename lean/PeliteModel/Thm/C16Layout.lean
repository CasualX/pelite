import PeliteModel.Model.Rich
import PeliteModel.Generated.ImageLayout
/-!
C16 — the two places where `Model/Rich.lean` refers to a field of a struct of `image.rs`: `e_lfanew` of
`IMAGE_DOS_HEADER`, as dword index `15` (`image.get(15)` in `RichStructure::try_from`) and as byte offset `0x3c`
("Zero the e_lfanew field" in `_checksum`).  Both are literals in the Rust code as well; they are stated here as the
offset of the field in the *current source* (`Generated/ImageLayout.lean`, rewritten on every check run), so the
statement breaks if the field moves.  (Not tied: the literal `16` of the two scans, `size_of::<IMAGE_DOS_HEADER>() / 4`.)

Nothing else in the module is a struct of `image.rs`: `RichRecord { build: u16, product: u16, count: u32 }` is
declared in `rich_structure.rs` and is decoded from two dwords by shifts and masks, not by layout.
-/
namespace Pelite.Rich
open Pelite Pelite.Generated.Layout

/-- `try_from` takes the length of the DOS stub area from the dword that holds `e_lfanew`, and the checksum treats
the four bytes at the offset of `e_lfanew` as zero.  (The two arithmetic conjuncts: the field is dword aligned and is the
last dword of the header, so as a `&[u32]` it is exactly index `e_lfanew / 4` = 15 of 16.) -/
theorem C16_model_offsets (image : List Nat) (w : Nat) (ws : List Nat) (i csum : Nat) :
    tryFrom image =
      (match image[IMAGE_DOS_HEADER__e_lfanew / 4]? with
       | none => .err .invalid
       | some eLfanew =>
         if eLfanew / 4 > image.length then .err .invalid else parseArea (image.take (eLfanew / 4))) ∧
    IMAGE_DOS_HEADER__e_lfanew % 4 = 0 ∧ IMAGE_DOS_HEADER__size - IMAGE_DOS_HEADER__e_lfanew = 4 ∧
    csumStub (w :: ws) i csum =
      (if i + 3 ≥ 4294967296 then .panic "rich_structure.rs:98 i + k" else
       let z := i = IMAGE_DOS_HEADER__e_lfanew
       let b0 := if z then 0 else byte0 w
       let b1 := if z then 0 else byte1 w
       let b2 := if z then 0 else byte2 w
       let b3 := if z then 0 else byte3 w
       let csum := wadd32 csum (rotl32 b0 (i + 0))
       let csum := wadd32 csum (rotl32 b1 (i + 1))
       let csum := wadd32 csum (rotl32 b2 (i + 2))
       let csum := wadd32 csum (rotl32 b3 (i + 3))
       if i + 4 ≥ 4294967296 then .panic "rich_structure.rs:102 i += 4" else
       csumStub ws (i + 4) csum) :=
  ⟨rfl, rfl, rfl, rfl⟩

/-- non-vacuity: the dword at `e_lfanew` does not contribute to the checksum, its neighbours do -/
example : IMAGE_DOS_HEADER__e_lfanew = 60 ∧
    csumStub [0x12345678] 60 0 = csumStub [0] 60 0 ∧ csumStub [0x12345678] 56 0 ≠ csumStub [0] 56 0 := by
  decide +kernel

end Pelite.Rich
