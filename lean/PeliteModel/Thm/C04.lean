import PeliteModel.Lemmas.PeAddr
/-!
C04 — file views resolve RVAs through the section table exactly as the PE mapping says.
All theorems quantify over arbitrary section tables (any length, any `u32` field values,
overlapping, wrapping, partly outside the buffer), arbitrary rvas / offsets and arbitrary images.
-/
namespace Pelite.Pe

-- the statements are fixed; several carry hypotheses (`hs`, `hr`) the proofs do not need
set_option linter.unusedVariables false

/-- RVAs below SizeOfHeaders map to themselves. -/
theorem C04_r2f_headers (soh : Nat) (secs : List Sec) (rva : Nat) (h : rva < soh) :
    rvaToFileOffset soh secs rva = .ok rva := by
  unfold rvaToFileOffset
  rw [if_pos h]

/-- **RVA → file offset.**  At or beyond the headers the answer is decided by the *first* section
whose virtual extent contains the rva: offset `PointerToRawData + (rva - VirtualAddress)` exactly
when that lies inside the section's raw data, `ZeroFill` in the virtual-only tail, `Overflow` when
the raw range wraps, `Bounds` otherwise and when no section contains the rva. -/
theorem C04_r2f_spec (soh : Nat) (secs : List Sec) (hs : ∀ s ∈ secs, s.InRange) (rva : Nat)
    (hr : rva < 4294967296) (h : soh ≤ rva) :
    rvaToFileOffset soh secs rva = specR2F secs rva := by
  unfold rvaToFileOffset
  rw [if_neg (by omega), r2fSecs_eq_spec]

/-- file offset → RVA, same shape. -/
theorem C04_f2r_spec (soh : Nat) (secs : List Sec) (hs : ∀ s ∈ secs, s.InRange) (fo : Nat)
    (hr : fo < 4294967296) (h : soh ≤ fo) :
    fileOffsetToRva soh secs fo = specF2R secs fo := by
  unfold fileOffsetToRva
  rw [if_neg (by omega), f2rSecs_eq_spec]

/-- **Slicing a file view.**  `slice(rva, min, align)` succeeds exactly when the rva is non-null and
aligned, the first section containing it has its raw data inside the buffer (no wrap), the rva lies
strictly inside that raw data (offset `< SizeOfRawData`: the byte at `SizeOfRawData` is the first byte
of the zero-filled tail, not an empty window, see `C04_tail_zero_fill`), and at least `min` bytes
remain to the end of the raw data; the returned bytes then start at the mapped file offset and end
where the section's raw data ends. -/
theorem C04_slice_file_ok_iff (img : Img) (secs : List Sec) (hs : ∀ s ∈ secs, s.InRange)
    (rva min align : Nat) (hr : rva < 4294967296) (r : Ref) :
    sliceFile img secs rva min align = .ok r ↔
      rva ≠ 0 ∧ isPow2 align = true ∧ (img.base + rva) % align = 0 ∧
      ∃ s, firstV secs rva = some s ∧ s.prd + s.rs < 4294967296 ∧ s.prd + s.rs ≤ img.bytes.size ∧
        rva - s.va < s.rs ∧ min ≤ s.rs - (rva - s.va) ∧
        (img.base + (s.prd + (rva - s.va))) % align = 0 ∧
        r = ⟨s.prd + (rva - s.va), s.rs - (rva - s.va), align⟩ :=
  sliceFile_ok_iff img secs hs rva min align r

/-- A request for more bytes than the raw data holds never succeeds, and what is returned lies
inside the buffer and is aligned as requested (the C01 obligation of `slice` on file views).
True since `slice_file` checks the alignment of the bytes it returns (`bytes.as_ptr()`), not only of
`image.as_ptr() + rva`; before that fix the alignment half failed, see
`C04_slice_file_formerly_misaligned_rejected`. -/
theorem C04_slice_file_sound (img : Img) (secs : List Sec) (hs : ∀ s ∈ secs, s.InRange)
    (rva min align : Nat) (hr : rva < 4294967296) (r : Ref)
    (h : sliceFile img secs rva min align = .ok r) :
    RefOK img r ∧ min ≤ r.len ∧
    ∃ s, firstV secs rva = some s ∧ r.off + r.len = s.prd + s.rs ∧ r.off = s.prd + (rva - s.va) := by
  obtain ⟨_, _, _, s, hf, h1, h2, h3, h4, hal, rfl⟩ :=
    (C04_slice_file_ok_iff img secs hs rva min align hr r).1 h
  refine ⟨⟨?_, hal⟩, h4, s, hf, ?_, rfl⟩
  · show s.prd + (rva - s.va) + (s.rs - (rva - s.va)) ≤ _
    omega
  · show s.prd + (rva - s.va) + (s.rs - (rva - s.va)) = _
    omega

/-- The same facts spelled out without `RefOK`, plus what the pre-check established about the rva. -/
theorem C04_slice_file_sound_bounds (img : Img) (secs : List Sec) (hs : ∀ s ∈ secs, s.InRange)
    (rva min align : Nat) (hr : rva < 4294967296) (r : Ref)
    (h : sliceFile img secs rva min align = .ok r) :
    r.off + r.len ≤ img.bytes.size ∧ r.align = align ∧ (img.base + rva) % align = 0 ∧ min ≤ r.len ∧
    ∃ s, firstV secs rva = some s ∧ r.off + r.len = s.prd + s.rs ∧ r.off = s.prd + (rva - s.va) := by
  obtain ⟨⟨hb, _⟩, hm, hex⟩ := C04_slice_file_sound img secs hs rva min align hr r h
  obtain ⟨_, _, ha, s, _, _, _, _, _, _, rfl⟩ :=
    (C04_slice_file_ok_iff img secs hs rva min align hr r).1 h
  exact ⟨hb, rfl, ha, hm, hex⟩

/-- `RefOK` of the returned window is exactly the alignment of the *file offset* (both sides now
always hold, by `C04_slice_file_sound`). -/
theorem C04_slice_file_refok_iff (img : Img) (secs : List Sec) (hs : ∀ s ∈ secs, s.InRange)
    (rva min align : Nat) (hr : rva < 4294967296) (r : Ref)
    (h : sliceFile img secs rva min align = .ok r) :
    RefOK img r ↔ (img.base + r.off) % align = 0 := by
  obtain ⟨hb, ha, _⟩ := C04_slice_file_sound_bounds img secs hs rva min align hr r h
  unfold RefOK
  rw [ha]
  exact ⟨fun h => h.2, fun h => ⟨hb, h⟩⟩

/-- When the section that maps the rva has `PointerToRawData ≡ VirtualAddress (mod align)` (e.g.
both multiples of a FileAlignment / SectionAlignment that `align` divides) the check on the stored
bytes is implied by the check on the rva: on such tables the fix changes no outcome. -/
theorem C04_slice_file_congruent (img : Img) (secs : List Sec) (hs : ∀ s ∈ secs, s.InRange)
    (rva align : Nat) (s : Sec) (hf : firstV secs rva = some s)
    (hcong : s.prd % align = s.va % align) (ha : (img.base + rva) % align = 0) :
    (img.base + (s.prd + (rva - s.va))) % align = 0 := by
  have hc := containsRva_nowrap (hs s (firstV_some hf).1) (firstV_some hf).2
  -- congruent section pointers keep the alignment of the rva
  have e1 : img.base + (s.prd + (rva - s.va)) = s.prd + (img.base + (rva - s.va)) := by omega
  have e2 : img.base + rva = s.va + (img.base + (rva - s.va)) := by omega
  rw [e1, ← Nat.mod_add_mod, hcong, Nat.mod_add_mod, ← e2, ha]

/-- The input on which `slice_file` used to hand out a misaligned window (one section with
`VirtualAddress = 2`, `PointerToRawData = 1`, one byte of raw data, two-byte buffer at address 0,
`slice(2, 1, 2)`: the address of the *rva* `0 + 2` is even, the bytes live at file offset 1) is now
rejected with `Misaligned`. -/
theorem C04_slice_file_formerly_misaligned_rejected :
    sliceFile ⟨#[0, 0], 0⟩ [⟨0, 0, 1, 2, 1, 1, 0⟩] 2 1 2 = .err .misaligned := by
  decide

/-- The same for every requested length, `min = 0` included: a successful slice never starts on a
byte that `rva_to_file_offset` does not map (before the boundary fix of `range_file` the empty
window at offset `SizeOfRawData` was a counterexample for `min = 0`). -/
theorem C04_slice_agrees_r2f_any_min (img : Img) (soh : Nat) (secs : List Sec) (hs : ∀ s ∈ secs, s.InRange)
    (rva min align : Nat) (hr : rva < 4294967296) (hsoh : soh ≤ rva) (r : Ref)
    (h : sliceFile img secs rva min align = .ok r) :
    rvaToFileOffset soh secs rva = .ok r.off ∧ 1 ≤ r.len := by
  obtain ⟨_, _, _, s, hf, h1, h2, h3, h4, _, rfl⟩ :=
    (C04_slice_file_ok_iff img secs hs rva min align hr r).1 h
  refine ⟨?_, show 1 ≤ s.rs - (rva - s.va) by omega⟩
  rw [C04_r2f_spec soh secs hs rva hr hsoh, specR2F_eq_ok_iff]
  exact ⟨s, hf, h1, h3, rfl⟩

/-- The slice starts at the offset `rva_to_file_offset` reports. -/
theorem C04_slice_agrees_r2f (img : Img) (soh : Nat) (secs : List Sec) (hs : ∀ s ∈ secs, s.InRange)
    (rva align : Nat) (hr : rva < 4294967296) (hsoh : soh ≤ rva) (r : Ref)
    (h : sliceFile img secs rva 1 align = .ok r) :
    rvaToFileOffset soh secs rva = .ok r.off :=
  (C04_slice_agrees_r2f_any_min img soh secs hs rva 1 align hr hsoh r h).1

/-- Error classes of a failing slice: virtual-only tail (from its first byte, offset
`SizeOfRawData`, on, and for every requested length that fits the virtual extent, zero included)
→ `ZeroFill`; outside every section → `Bounds`; request longer than the virtual extent → `Bounds`. -/
theorem C04_slice_file_errors (img : Img) (secs : List Sec) (hs : ∀ s ∈ secs, s.InRange)
    (rva min align : Nat) (hr : rva < 4294967296) (h0 : rva ≠ 0) (hp : isPow2 align = true)
    (ha : (img.base + rva) % align = 0) :
    (firstV secs rva = none → sliceFile img secs rva min align = .err .bounds) ∧
    (∀ s, firstV secs rva = some s → s.prd + s.rs < 4294967296 → s.prd + s.rs ≤ img.bytes.size →
        s.rs ≤ rva - s.va → min ≤ (s.va + max s.vs s.rs) % 4294967296 - rva →
        sliceFile img secs rva min align = .err .zeroFill) ∧
    (∀ s, firstV secs rva = some s → s.prd + s.rs < 4294967296 → s.prd + s.rs ≤ img.bytes.size →
        (s.va + max s.vs s.rs) % 4294967296 - rva < min →
        sliceFile img secs rva min align = .err .bounds) := by
  have hE := sliceFile_aligned img secs rva min align h0 hp ha
  refine ⟨?_, ?_, ?_⟩
  · intro hf
    rw [hE, fileTail_err]
    rw [rangeFile_eq, hf]
  · intro s hf h1 h2 h3 h4
    rw [hE, fileTail_err]
    rw [rangeFile_eq, hf]
    show rangeOne img.bytes.size s rva min = _
    rw [rangeOne_nowrap h1 h2, if_neg (by omega), if_neg (by unfold wadd32; omega)]
  · intro s hf h1 h2 h3
    have hc := containsRva_nowrap (hs s (firstV_some hf).1) (firstV_some hf).2
    rw [hE, fileTail_err]
    rw [rangeFile_eq, hf]
    show rangeOne img.bytes.size s rva min = _
    rw [rangeOne_nowrap h1 h2, if_neg (by omega), if_pos (by unfold wadd32; omega)]

/-- **The virtual-only tail.**  Let `s` be the first section containing `rva`, its raw range inside
the buffer and not wrapping, and `rva` at or beyond the end of the raw data (`SizeOfRawData ≤
rva - VirtualAddress`; equality is the first tail byte).  Then `slice_file` never succeeds, whatever
length (zero included) and alignment are requested; it answers exactly `ZeroFill` when the rva is
non-null and aligned and the request fits the virtual extent; and `rva_to_file_offset` answers
`ZeroFill` at the same rva: the two lookups agree on every tail byte, the first one included. -/
theorem C04_tail_zero_fill (img : Img) (soh : Nat) (secs : List Sec) (hs : ∀ s ∈ secs, s.InRange)
    (rva min align : Nat) (hr : rva < 4294967296)
    (s : Sec) (hf : firstV secs rva = some s) (h1 : s.prd + s.rs < 4294967296)
    (h2 : s.prd + s.rs ≤ img.bytes.size) (h3 : s.rs ≤ rva - s.va) :
    (∀ r, sliceFile img secs rva min align ≠ .ok r) ∧
    (rva ≠ 0 → isPow2 align = true → (img.base + rva) % align = 0 →
        min ≤ (s.va + max s.vs s.rs) % 4294967296 - rva →
        sliceFile img secs rva min align = .err .zeroFill) ∧
    specR2F secs rva = .err .zeroFill ∧
    (soh ≤ rva → rvaToFileOffset soh secs rva = .err .zeroFill) := by
  have hc := containsRva_nowrap (hs s (firstV_some hf).1) (firstV_some hf).2
  have hspec := specR2F_tail hf h1 h3 (by omega)
  refine ⟨?_, ?_, hspec, ?_⟩
  · intro r h
    obtain ⟨_, _, _, s', hf', _, _, h3', _⟩ :=
      (C04_slice_file_ok_iff img secs hs rva min align hr r).1 h
    rw [hf] at hf'
    cases hf'
    omega
  · intro h0 hp ha hm
    exact (C04_slice_file_errors img secs hs rva min align hr h0 hp ha).2.1 s hf h1 h2 h3 hm
  · intro hsoh
    rw [C04_r2f_spec soh secs hs rva hr hsoh, hspec]

/-- The first tail byte on a concrete section (`VirtualAddress = 0x1000`, `SizeOfRawData = 0x10`,
`VirtualSize = 0x20`, raw data at file offset 0x20 of a 0x30-byte buffer): a zero-length request at
`va + rs` is `ZeroFill` (it used to be an empty window), like the byte after it and like
`rva_to_file_offset`; the last stored byte still slices. -/
example : let img : Img := ⟨⟨List.replicate 0x30 0⟩, 0⟩
    let secs : List Sec := [⟨0, 0, 0x20, 0x1000, 0x10, 0x20, 0⟩]
    sliceFile img secs (0x1000 + 0x10) 0 1 = .err .zeroFill ∧
    sliceFile img secs (0x1000 + 0x11) 0 1 = .err .zeroFill ∧
    sliceFile img secs (0x1000 + 0x10) 1 1 = .err .zeroFill ∧
    sliceFile img secs (0x1000 + 0x10) 0x11 1 = .err .bounds ∧
    sliceFile img secs (0x1000 + 0xF) 0 1 = .ok ⟨0x2F, 1, 1⟩ ∧
    rvaToFileOffset 0x20 secs (0x1000 + 0x10) = .err .zeroFill ∧
    firstV secs (0x1000 + 0x10) = some ⟨0, 0, 0x20, 0x1000, 0x10, 0x20, 0⟩ := by
  decide +kernel

/-- **Inversion** on every byte that is both stored and mapped, for well-formed tables. -/
theorem C04_f2r_inverts_r2f (soh : Nat) (secs : List Sec) (hs : ∀ s ∈ secs, s.InRange) (hwf : WF soh secs)
    (rva off : Nat) (hr : rva < 4294967296) (hsoh : soh ≤ rva)
    (h : rvaToFileOffset soh secs rva = .ok off)
    (hmapped : ∀ s, firstV secs rva = some s → rva - s.va < s.vs) :
    fileOffsetToRva soh secs off = .ok rva := by
  rw [C04_r2f_spec soh secs hs rva hr hsoh, specR2F_eq_ok_iff] at h
  obtain ⟨s, hf, hnw, hlt, rfl⟩ := h
  obtain ⟨hm, hcr⟩ := firstV_some hf
  have hc := containsRva_nowrap (hs s hm) hcr
  obtain ⟨hv, hp, hsp, hsv⟩ := hwf.1 s hm
  have hmp := hmapped s hf
  rw [C04_f2r_spec soh secs hs _ (by omega) (by omega), specF2R_eq_ok_iff]
  exact ⟨s, find_of_disjoint (·.prd) (·.rs) secs (fun t ht => (hwf.1 t ht).2.1) (hwf.2.imp (·.1)) hm
    (by omega) (by omega), by omega, by omega, by omega⟩

theorem C04_r2f_inverts_f2r (soh : Nat) (secs : List Sec) (hs : ∀ s ∈ secs, s.InRange) (hwf : WF soh secs)
    (rva off : Nat) (hr : off < 4294967296) (hsoh : soh ≤ off)
    (h : fileOffsetToRva soh secs off = .ok rva)
    (hstored : ∀ s, firstF secs off = some s → off - s.prd < s.rs) :
    rvaToFileOffset soh secs rva = .ok off := by
  rw [C04_f2r_spec soh secs hs off hr hsoh, specF2R_eq_ok_iff] at h
  obtain ⟨s, hf, hnw, hlt, rfl⟩ := h
  obtain ⟨hm, hco⟩ := firstF_some hf
  have hc := containsOff_nowrap (hs s hm) hco
  obtain ⟨hv, hp, hsp, hsv⟩ := hwf.1 s hm
  have hst := hstored s hf
  rw [C04_r2f_spec soh secs hs _ (by omega) (by omega), specR2F_eq_ok_iff]
  exact ⟨s, find_of_disjoint (·.va) (fun t => max t.vs t.rs) secs (fun t ht => (hwf.1 t ht).1) (hwf.2.imp (·.2)) hm
    (by omega) (by omega), by omega, by omega, by omega⟩

/-- Without well-formedness the inversion is false: an earlier section whose raw range overlaps
shadows the later one (two-section witness). -/
theorem C04_inversion_needs_wf :
    ∃ (soh : Nat) (secs : List Sec) (rva off : Nat),
      (∀ s ∈ secs, s.InRange) ∧ soh ≤ rva ∧ rvaToFileOffset soh secs rva = .ok off ∧
      (∀ s, firstV secs rva = some s → rva - s.va < s.vs) ∧
      fileOffsetToRva soh secs off ≠ .ok rva := by
  refine ⟨0x400, [⟨0, 0, 0x100, 0x1000, 0x400, 0x400, 0⟩, ⟨0, 0, 0x100, 0x2000, 0x200, 0x500, 0⟩],
    0x2010, 0x510, ?_, by decide, by decide, ?_, by decide⟩
  · unfold Sec.InRange
    decide
  · intro s hs
    have : firstV [⟨0, 0, 0x100, 0x1000, 0x400, 0x400, 0⟩, ⟨0, 0, 0x100, 0x2000, 0x200, 0x500, 0⟩] 0x2010
        = some ⟨0, 0, 0x100, 0x2000, 0x200, 0x500, 0⟩ := by decide
    rw [this] at hs
    cases hs
    decide

/-- `get_section_bytes`: the raw range (file view) / virtual range (mapped view) of the header,
exactly when it is non-null and inside the buffer. -/
theorem C04_section_bytes (v : View) (s : Sec) (hs : s.InRange) (r : Ref) :
    v.sectionBytes s = .ok r ↔
      (match v.kind with
       | .file => s.prd ≠ 0 ∧ s.prd + s.rs < 4294967296 ∧ s.prd + s.rs ≤ v.img.bytes.size ∧ r = ⟨s.prd, s.rs, 1⟩
       | .view => s.va ≠ 0 ∧ s.va + s.vs < 4294967296 ∧ s.va + s.vs ≤ v.img.bytes.size ∧ r = ⟨s.va, s.vs, 1⟩) := by
  obtain ⟨h1, h2, h3, h4⟩ := hs
  obtain ⟨img, fmt, kind, ib⟩ := v
  cases kind
  · exact window_ok_iff s.prd s.rs _ h4 h3 r
  · exact window_ok_iff s.va s.vs _ h2 h1 r

/-- Non-vacuity: a two-section table on which every branch above is reachable. -/
example : let secs : List Sec := [⟨0,0,0x300,0x1000,0x200,0x400,0⟩, ⟨0,0,0x100,0x2000,0x200,0x600,0⟩]
    rvaToFileOffset 0x400 secs 0x1010 = .ok 0x410 ∧ rvaToFileOffset 0x400 secs 0x1250 = .err .zeroFill ∧
    rvaToFileOffset 0x400 secs 0x1300 = .err .bounds ∧ fileOffsetToRva 0x400 secs 0x610 = .ok 0x2010 ∧
    WF 0x400 secs := by
  intro secs
  refine ⟨by decide, by decide, by decide, by decide, ?_⟩
  unfold WF
  decide

/-! ### header RVAs on file views, the buffer-blind conversion, `.bss` sections -/

/-- **Header RVAs on a file view.**  `rva_to_file_offset` maps every rva below `SizeOfHeaders` to
itself (pe.rs:87) whereas `slice` on a file view (`slice_file` → `range_file`, pe.rs:700-724) looks only
at the section table: a non-null, aligned rva inside the header area that no section covers is
`Bounds` — for every requested length, zero included.  (The property's clause "RVAs outside every
section report out-of-bounds" is what `slice` does; "RVAs below SizeOfHeaders map to themselves" is
about the conversion.  The two lookups therefore DISAGREE on the header area; `headers().image()` is
the way to the header bytes of a file.) -/
theorem C04_slice_below_headers_bounds (img : Img) (soh : Nat) (secs : List Sec) (rva min align : Nat)
    (h0 : rva ≠ 0) (hlt : rva < soh) (hnone : firstV secs rva = none)
    (hp : isPow2 align = true) (ha : (img.base + rva) % align = 0) :
    sliceFile img secs rva min align = .err .bounds ∧ rvaToFileOffset soh secs rva = .ok rva := by
  refine ⟨?_, C04_r2f_headers soh secs rva hlt⟩
  rw [sliceFile_aligned img secs rva min align h0 hp ha, fileTail_err]
  rw [rangeFile_eq, hnone]

/-- the same when every section starts at or beyond the headers (every `WF` table, every loader-made file) -/
theorem C04_slice_below_headers_bounds_wf (img : Img) (soh : Nat) (secs : List Sec) (rva min align : Nat)
    (hva : ∀ s ∈ secs, soh ≤ s.va) (h0 : rva ≠ 0) (hlt : rva < soh)
    (hp : isPow2 align = true) (ha : (img.base + rva) % align = 0) :
    sliceFile img secs rva min align = .err .bounds ∧ rvaToFileOffset soh secs rva = .ok rva :=
  C04_slice_below_headers_bounds img soh secs rva min align h0 hlt (firstV_none_below soh secs hva rva hlt) hp ha

/-- witness: `SizeOfHeaders = 0x20`, one section at rva 0x1000; rva 0x10 is `Bounds` for `slice`
(every length, every alignment that divides it) and maps to file offset 0x10 -/
example : let img : Img := ⟨⟨List.replicate 0x30 0⟩, 0⟩
    let secs : List Sec := [⟨0, 0, 0x20, 0x1000, 0x10, 0x20, 0⟩]
    (∀ s ∈ secs, 0x20 ≤ s.va) ∧ firstV secs 0x10 = none ∧
    sliceFile img secs 0x10 0 1 = .err .bounds ∧ sliceFile img secs 0x10 4 4 = .err .bounds ∧
    rvaToFileOffset 0x20 secs 0x10 = .ok 0x10 ∧ rvaToFileOffset 0x20 secs 0x1f = .ok 0x1f := by
  decide +kernel

/-- **`rva_to_file_offset` does not consult the buffer** (documented: "pure header arithmetic").  When
the first section containing the rva stores it (`rva - VirtualAddress < SizeOfRawData`, raw range not
wrapping) the answer is `PointerToRawData + (rva - VirtualAddress)` — whatever the buffer is; when that
section's raw range does not lie inside the buffer (a truncated file) the offset answered may be at or
beyond the end of the buffer, and `slice` at the same rva never succeeds (`range_file`:
`image.get(..)` fails, `Invalid`). -/
theorem C04_r2f_ignores_buffer (soh : Nat) (secs : List Sec) (hs : ∀ s ∈ secs, s.InRange) (rva : Nat)
    (hr : rva < 4294967296) (hsoh : soh ≤ rva) (s : Sec) (hf : firstV secs rva = some s)
    (hnw : s.prd + s.rs < 4294967296) (hlt : rva - s.va < s.rs) :
    rvaToFileOffset soh secs rva = .ok (s.prd + (rva - s.va)) ∧
    ∀ (img : Img), img.bytes.size < s.prd + s.rs →
      (∀ min align r, sliceFile img secs rva min align ≠ .ok r) ∧
      (rva ≠ 0 → sliceFile img secs rva 0 1 = .err .invalid) := by
  refine ⟨?_, ?_⟩
  · rw [C04_r2f_spec soh secs hs rva hr hsoh, specR2F_eq_ok_iff]
    exact ⟨s, hf, hnw, hlt, rfl⟩
  · intro img hsz
    refine ⟨?_, ?_⟩
    · intro min align r h
      obtain ⟨_, _, _, s', hf', _, h2, _⟩ := (C04_slice_file_ok_iff img secs hs rva min align hr r).1 h
      rw [hf] at hf'
      cases hf'
      omega
    · intro h0
      rw [sliceFile_aligned img secs rva 0 1 h0 (by decide) (Nat.mod_one _), fileTail_err]
      rw [rangeFile_eq, hf]
      have : ¬ (s.prd ≤ wadd32 s.prd s.rs ∧ wadd32 s.prd s.rs ≤ img.bytes.size) := by
        rw [rawRange_ok_iff (hs s (firstV_some hf).1)]; omega
      show rangeOne img.bytes.size s rva 0 = _
      unfold rangeOne
      exact if_neg this

/-- witness: a section declaring 0x200 bytes of raw data at file offset 0x400 in a buffer of 0x410 bytes:
rva 0x1100 "maps" to file offset 0x500 ≥ 0x410, and `slice` there is `Invalid` -/
example : let img : Img := ⟨⟨List.replicate 0x410 0⟩, 0⟩
    let secs : List Sec := [⟨0, 0, 0x300, 0x1000, 0x200, 0x400, 0⟩]
    img.bytes.size = 0x410 ∧ firstV secs 0x1100 = some ⟨0, 0, 0x300, 0x1000, 0x200, 0x400, 0⟩ ∧
    rvaToFileOffset 0x400 secs 0x1100 = .ok 0x500 ∧ sliceFile img secs 0x1100 0 1 = .err .invalid := by
  decide +kernel

/-- `WF` allows an ordinary `.bss` section (`SizeOfRawData = 0`, `PointerToRawData = 0`): the inversion
theorems `C04_f2r_inverts_r2f` / `C04_r2f_inverts_f2r` apply to such tables (`SizeOfHeaders ≤ PointerToRawData` is asked only of sections
with raw data: no table with a `.bss` would satisfy it otherwise); on the `.bss` section every rva is `ZeroFill`, on the stored section the inversion holds. -/
example : let secs : List Sec := [⟨0,0,0x300,0x1000,0x200,0x400,0⟩, ⟨0,0,0x100,0x2000,0,0,0⟩]
    WF 0x400 secs ∧ ¬ (0x400 ≤ (⟨0,0,0x100,0x2000,0,0,0⟩ : Sec).prd) ∧
    rvaToFileOffset 0x400 secs 0x2010 = .err .zeroFill ∧
    rvaToFileOffset 0x400 secs 0x1010 = .ok 0x410 ∧ fileOffsetToRva 0x400 secs 0x410 = .ok 0x1010 := by
  intro secs
  refine ⟨?_, by decide, by decide, by decide, by decide⟩
  unfold WF
  decide

end Pelite.Pe
