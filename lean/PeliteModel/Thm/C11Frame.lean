import PeliteModel.Lemmas.ExecFrame
import PeliteModel.Lemmas.ParseShape
import PeliteModel.Lemmas.PatternSem
import PeliteModel.Lemmas.PatternSemFootprint
import PeliteModel.Thm.C11Parse
/-!
C11 — four additions to `Thm/C11.lean` / `Thm/C11Parse.lean`, all WITHOUT the fragment restriction of T2:

* **frame** (`C11_exec_writes_only_named_slots`): an execution of ANY atom list — any nesting of
  `Push`/`Pop`, `Case`/`Break`, `Many`, on the accepting and on every failing path — changes no save
  slot other than those named by an atom of the list and never changes the length of the save array;
  hence (`C11_save_len_covers_every_written_slot`) the advertised `save_len` covers every slot the
  pattern writes, for every pattern string that parses;
* **bridge parser → scanner** (`C11_parse_atoms_scannable`): parser output satisfies the pattern
  hypotheses of the C10 completeness theorems; `C11_parse_emits`: the exact list of constructors the
  parser can emit; `C11_parse_slot0_only_first`: only the leading `Save(0)` mentions slot 0;
* **sanity of the reference semantics** for the clause "rejects a layout that differs in any byte the
  pattern constrains": exact bytes and quoted text constrain the image byte for byte, wild cards and
  fixed skips constrain nothing, a brace group continues at the byte after the jump operand;
* **the perturbation clause over the semantics T2' uses** (`denoteImpl`, section (4)): `C11_impl_footprint` — the
  verdict, final cursor and captures depend on the image only through the questions `footprint S p c` lists;
  `C11_impl_perturbed_rejected` / `C11_impl_rejects_differing_byte` / `C11_impl_constrained_byte` — a layout that
  differs in a byte of `constrained S p c` (the literal bytes up to the first `[a-b]` / `( | )` of each sequence) is
  rejected, every such byte holds on an accepted layout and its comparison is in the footprint;
  `C11_impl_constrained_complete` — for straight-line patterns these are ALL literal bytes.
-/
namespace Pelite.PatSem
open Pelite.Pattern Pelite.Exec

/-! ## (1) the frame lemma -/

/-- **Frame lemma.**  If `Scanner::exec` returns on the atom list `pat` — with either verdict — the
save array it leaves has the length of the one it was given and agrees with it at every index that is
not the slot of some atom of `pat`.  For EVERY atom list (hand written ones included), every image
interface, cursor and save array. -/
theorem C11_exec_writes_only_named_slots (S : ScanI) (pat : List Atom) (c : Nat) (save save' : Array Nat)
    (b : Bool) (h : run S pat c save = .ok (b, save')) :
    save'.size = save.size ∧ ∀ i : Nat, (∀ a ∈ pat, slotOf a ≠ some i) → save'[i]? = save[i]? := by
  obtain ⟨h1, h2⟩ := run_frame S pat c save save' b h
  exact ⟨h1, fun i hi => h2 i (fun ⟨a, ha, hw⟩ => hi a ha (slotOf_of_wslot hw))⟩

/-- the sharp form: only `Save`, `Zero` and the `Read*` atoms write (`wslot`); the slots named by
`Pir` / `Check` are read, never written -/
theorem C11_exec_writes_only_written_slots (S : ScanI) (pat : List Atom) (c : Nat) (save save' : Array Nat)
    (b : Bool) (h : run S pat c save = .ok (b, save')) :
    save'.size = save.size ∧ ∀ i : Nat, (∀ a ∈ pat, wslot a ≠ some i) → save'[i]? = save[i]? :=
  let ⟨h1, h2⟩ := run_frame S pat c save save' b h
  ⟨h1, fun i hi => h2 i fun ⟨a, ha, hw⟩ => hi a ha hw⟩

/-- the same for a call of `Exec::exec` in the middle of a pattern (any `pc`, mask, range extension,
fuel): only atoms at or behind the entry `pc` can write -/
theorem C11_exec_frame_from_pc (S : ScanI) (pat : List Atom) (fuel : Nat) (st : St) (mask ext : Nat) (b : Bool)
    (st' : St) (h : exec S pat fuel st mask ext = .ok (b, st')) :
    st'.save.size = st.save.size ∧
    ∀ i : Nat, (∀ j a, st.pc ≤ j → pat[j]? = some a → wslot a ≠ some i) → st'.save[i]? = st.save[i]? := by
  obtain ⟨h1, h2⟩ := exec_frame S pat fuel st mask ext b st' h
  refine ⟨h1, fun i hi => h2 i ?_⟩
  rintro ⟨j, a, hj, hp, hw⟩
  exact hi j a hj hp hw

/-- `save_len` bounds what an execution can touch — for any atom list -/
theorem C11_save_len_covers_every_written_slot_any (S : ScanI) (pat : List Atom) (c : Nat)
    (save save' : Array Nat) (b : Bool) (h : run S pat c save = .ok (b, save')) :
    save'.size = save.size ∧ ∀ i : Nat, saveLen pat ≤ i → save'[i]? = save[i]? := by
  obtain ⟨h1, h2⟩ := C11_exec_writes_only_named_slots S pat c save save' b h
  refine ⟨h1, fun i hi => h2 i (fun a ha hs => ?_)⟩
  have := C11_save_len_covers_any pat a ha i hs
  omega

/-- **The advertised save length covers every slot the pattern writes** — for every pattern string
that parses (no fragment, no well-formed tree needed): executing the parsed atoms at any cursor of any
image, whatever the verdict, changes only indices below `save_len(atoms)`, which is at most 255. -/
theorem C11_save_len_covers_every_written_slot (s : List UInt8) (atoms : List Atom) (hp : parse s = .ok atoms)
    (S : ScanI) (c : Nat) (save save' : Array Nat) (b : Bool) (h : run S atoms c save = .ok (b, save')) :
    saveLen atoms ≤ 255 ∧ save'.size = save.size ∧ ∀ i : Nat, saveLen atoms ≤ i → save'[i]? = save[i]? :=
  ⟨(C11_save_len_covers s atoms hp).2.1, C11_save_len_covers_every_written_slot_any S atoms c save save' b h⟩

/-- non-vacuity: nested group, alternatives and a range; slots 0–3 are written, 4 and 5 keep their
contents (`7`, `9`) although the save array is longer than `save_len = 4` -/
example :
    parse "e8 ${ ' ( 6a u1 | 68 [1-3] c3 ' ) } z".toUTF8.toList =
      .ok [.save 0, .byte 0xe8, .push 4, .jump4, .save 1, .case 3, .byte 0x6a, .readU8 2, .brk 6,
           .nop, .byte 0x68, .skip 1, .many 2, .byte 0xc3, .save 2, .pop, .zero 3] ∧
    saveLen [.save 0, .byte 0xe8, .push 4, .jump4, .save 1, .case 3, .byte 0x6a, .readU8 2, .brk 6,
           .nop, .byte 0x68, .skip 1, .many 2, .byte 0xc3, .save 2, .pop, .zero 3] = 4 ∧
    run (ofRaw .pe32 #[0xe8, 1, 0, 0, 0, 0xff, 0x68, 0, 0, 0xc3])
      [.save 0, .byte 0xe8, .push 4, .jump4, .save 1, .case 3, .byte 0x6a, .readU8 2, .brk 6,
           .nop, .byte 0x68, .skip 1, .many 2, .byte 0xc3, .save 2, .pop, .zero 3] 0 #[5, 5, 5, 5, 7, 9] =
      .ok (true, #[0, 6, 10, 0, 7, 9]) := by
  decide +kernel

/-! ## (2) parser output is what the scanner theorems ask for -/

/-- **Bridge to `Scan.Hyp`.**  Every successfully parsed pattern consists of atoms whose arguments
are `u8`s (`Atom.ok`) and that never read the save array (`noRead`: no `Pir`, no `Check`): the two
pattern hypotheses of `C10_next_complete` / `C10_scan_complete` / `C10_scan_exact` / `C10_finds_*`
hold for every pattern that comes out of `pattern::parse` (and hence out of `pattern!`).  ALL
documented syntax is inside: the read tokens `i1 i2 i4 u1 u2 u4` and `z` emit `Read*` / `Zero` atoms,
which WRITE save slots and are allowed by `noRead`. -/
theorem C11_parse_atoms_scannable (s : List UInt8) (atoms : List Atom) (h : parse s = .ok atoms) :
    atoms.all Exec.Atom.ok = true ∧ atoms.all Scan.noRead = true :=
  parse_scannable h

/-- **What the parser can emit**, by enumeration of every `push` / in-place update of `parse_helper`:
never `Fuzzy`, `Back`, `Pir`, `VTypeName` or `Check` — these five atoms exist for hand-written
patterns only (no pattern-string syntax produces them). -/
theorem C11_parse_emits (s : List UInt8) (atoms : List Atom) (h : parse s = .ok atoms) (a : Atom) (ha : a ∈ atoms) :
    (∀ n, a ≠ .fuzzy n) ∧ (∀ n, a ≠ .back n) ∧ (∀ n, a ≠ .pir n) ∧ a ≠ .vTypeName ∧ (∀ n, a ≠ .check n) := by
  obtain ⟨i, hi⟩ := List.mem_iff_getElem?.mp ha
  exact (emitted_iff a).1 (parse_shape h i a hi).1

/-- … and every other constructor IS emitted by some pattern string (the list above is exact) -/
example : parse "12 ' ${ } % * ? [300-600] @4 i1 u1 i2 u2 i4 u4 z ( 00 | 01 ) 02".toUTF8.toList =
    .ok [.save 0, .byte 0x12, .save 1, .push 4, .jump4, .pop, .jump1, .ptr, .skip 1, .rangext 1, .skip 44,
         .rangext 1, .many 44, .aligned 4, .readI8 2, .readU8 3, .readI16 4, .readU16 5, .readI32 6, .readU32 7,
         .zero 8, .case 2, .byte 0, .brk 2, .nop, .byte 1, .byte 2] := by
  decide +kernel

/-- **Slot 0 belongs to the leading `Save(0)`**: the parser's slot counter starts at 1 and never
returns to 0 (`|` and `)` reset it to values that were themselves ≥ 1), so no atom behind the first
one reads or writes slot 0. -/
theorem C11_parse_slot0_only_first (s : List UInt8) (atoms : List Atom) (h : parse s = .ok atoms) :
    atoms[0]? = some (.save 0) ∧ ∀ (j : Nat) a k, 0 < j → atoms[j]? = some a → slotOf a = some k → 0 < k :=
  ⟨C11_first_atom s atoms h, fun j a k hj ha hk => (parse_shape h j a ha).2 k hk hj⟩

/-! ## (3) sanity of the reference semantics: which image bytes a pattern constrains

`sem S k items c` is the documented meaning of the item sequence `items` (first free slot `k`) at
cursor `c` (`Spec/PatternSem.lean`); `denote S p c = sem S 1 p c` plus slot 0.  The lemmas below are
about the reference side only. -/

/-- an exact byte `hh` constrains the byte under the cursor: a layout that differs there is rejected -/
theorem denote_byte_constrains (S : ScanI) (k b : Nat) (r : List Item) (c : Nat) (x : Nat × Caps)
    (h : sem S k (.byte b :: r) c = some x) : S.read 1 c = some b := by
  rw [sem_cons S k _ r c (by intro a b h; cases h)] at h
  simp only [semItem, matchBytes] at h
  by_cases hb : S.read 1 c = some b
  · exact hb
  · simp [hb] at h

theorem matchBytes_constrains (S : ScanI) : ∀ (bs : List Nat) (c c' : Nat), matchBytes S bs c = some c' →
    c' = c + bs.length ∧ ∀ (i : Nat) b, bs[i]? = some b → S.read 1 (c + i) = some b := by
  intro bs
  induction bs with
  | nil => intro c c' h; simp only [matchBytes, Option.some.injEq] at h; subst h; simp
  | cons b0 bs ih =>
    intro c c' h
    simp only [matchBytes] at h
    split at h
    · next hb =>
      obtain ⟨h1, h2⟩ := ih _ _ h
      refine ⟨by simp only [List.length_cons]; omega, ?_⟩
      intro i b hi
      cases i with
      | zero => simp only [List.getElem?_cons_zero, Option.some.injEq] at hi; subst hi; exact hb
      | succ j =>
        simp only [List.getElem?_cons_succ] at hi
        have := h2 j b hi
        rwa [Nat.add_assoc, Nat.add_comm 1 j] at this
    · cases h

/-- quoted text `"…"` constrains every one of its bytes, in order, starting under the cursor -/
theorem denote_str_constrains (S : ScanI) (k : Nat) (bs : List UInt8) (r : List Item) (c : Nat) (x : Nat × Caps)
    (h : sem S k (.str bs :: r) c = some x) :
    ∀ (i : Nat) (b : UInt8), bs[i]? = some b → S.read 1 (c + i) = some b.toNat := by
  rw [sem_cons S k _ r c (by intro a b h; cases h)] at h
  simp only [semItem] at h
  cases hm : matchBytes S (bs.map UInt8.toNat) c with
  | none => simp [hm] at h
  | some c' =>
    intro i b hi
    exact (matchBytes_constrains S _ _ _ hm).2 i b.toNat (by simp [hi])

/-- … so a layout that differs from the pattern in ANY constrained byte is rejected -/
theorem denote_rejects_perturbed_text (S : ScanI) (k : Nat) (bs : List UInt8) (r : List Item) (c : Nat)
    (i : Nat) (b : UInt8) (hi : bs[i]? = some b) (hne : S.read 1 (c + i) ≠ some b.toNat) :
    sem S k (.str bs :: r) c = none := by
  cases h : sem S k (.str bs :: r) c with
  | none => rfl
  | some x => exact absurd (denote_str_constrains S k bs r c x h i b hi) hne

/-- the same at the level of `denote` (whole pattern strings that begin with quoted text) -/
theorem denote_rejects_perturbed_pattern (S : ScanI) (bs : List UInt8) (r : List Item) (c : Nat)
    (i : Nat) (b : UInt8) (hi : bs[i]? = some b) (hne : S.read 1 (c + i) ≠ some b.toNat) :
    denote S (.str bs :: r) c = none := by
  simp [denote, denote_rejects_perturbed_text S 1 bs r c i b hi hne]

/-- a wild card `?` constrains NOTHING: it is not even required that the byte exists; the rest is
matched one position further, whatever the image holds under the cursor -/
theorem denote_any_unconstrained (S : ScanI) (k : Nat) (r : List Item) (c : Nat) :
    sem S k (.any :: r) c = sem S k r (addRva c 1) := by
  rw [sem_cons S k _ r c (by intro a b h; cases h)]
  simp [semItem, slotsItem, addCaps_nil]

/-- … nor does a fixed skip `[n]` -/
theorem denote_skip_unconstrained (S : ScanI) (k n : Nat) (r : List Item) (c : Nat) :
    sem S k (.skip n :: r) c = sem S k r (addRva c n) := by
  rw [sem_cons S k _ r c (by intro a b h; cases h)]
  simp [semItem, slotsItem, addCaps_nil]

/-- consequently two images that differ only in bytes under wild cards are indistinguishable for the
wild card itself: the verdict is that of the rest of the pattern at the next position in both -/
theorem denote_any_same_verdict (S S' : ScanI) (k : Nat) (r : List Item) (c : Nat)
    (hrest : sem S k r (addRva c 1) = sem S' k r (addRva c 1)) :
    sem S k (.any :: r) c = sem S' k (.any :: r) c := by
  rw [denote_any_unconstrained, denote_any_unconstrained, hrest]

/-- **the cursor after a brace group**: `j { body }` matches `body` at the jump's destination, keeps
the captures of the body, and continues with the rest of the sequence at the byte after the jump
operand (`c + 1` for `%`, `c + 4` for `$`, `c +` pointer size for `*`) — NOT where the body ended. -/
theorem denote_group_returns (S : ScanI) (k : Nat) (j : Jump) (gap : List UInt8) (body r : List Item)
    (c c2 : Nat) (w : Caps) (h : sem S k (.group j gap body :: r) c = some (c2, w)) :
    ∃ t cb wb w2, j.target S c = some t ∧ sem S k body t = some (cb, wb) ∧
      sem S (slotsItems k body) r (addRva c (j.width S)) = some (c2, w2) ∧ w = w2 ++ wb := by
  rw [sem_cons S k _ r c (by intro a b h; cases h)] at h
  simp only [semItem, slotsItem] at h
  cases ht : j.target S c with
  | none => simp [ht] at h
  | some t =>
    simp only [ht] at h
    cases hb : sem S k body t with
    | none => simp [hb] at h
    | some xb =>
      obtain ⟨cb, wb⟩ := xb
      simp only [hb] at h
      cases hr : sem S (slotsItems k body) r (addRva c (j.width S)) with
      | none => simp [hr, addCaps] at h
      | some xr =>
        obtain ⟨c3, w2⟩ := xr
        simp only [hr, addCaps, Option.some.injEq, Prod.mk.injEq] at h
        obtain ⟨rfl, rfl⟩ := h
        exact ⟨t, cb, wb, w2, rfl, hb, rfl, rfl⟩

/-- a bookmark `'` captures the cursor it stands at, in the next free slot -/
theorem denote_save_captures (S : ScanI) (k : Nat) (r : List Item) (c c2 : Nat) (w : Caps)
    (h : sem S k (.save :: r) c = some (c2, w)) : (k, c) ∈ w := by
  rw [sem_cons S k _ r c (by intro a b h; cases h)] at h
  simp only [semItem, slotsItem] at h
  cases hr : sem S (k + 1) r c with
  | none => simp [hr, addCaps] at h
  | some xr =>
    obtain ⟨c3, w2⟩ := xr
    simp only [hr, addCaps, Option.some.injEq, Prod.mk.injEq] at h
    obtain ⟨_, rfl⟩ := h
    simp

/-- non-vacuity of the hypotheses above, and the perturbation read off a concrete layout:
`"MZ" ? 03` matches `4d 5a 99 03`, still matches when the wild-card byte changes, and is rejected when
a quoted byte or the exact byte changes -/
example :
    (sem (ofRaw .pe32 #[0x4d, 0x5a, 0x99, 0x03]) 1 [.str [0x4d, 0x5a], .any, .byte 3] 0).isSome = true ∧
    (sem (ofRaw .pe32 #[0x4d, 0x5a, 0x11, 0x03]) 1 [.str [0x4d, 0x5a], .any, .byte 3] 0).isSome = true ∧
    sem (ofRaw .pe32 #[0x4d, 0x5b, 0x99, 0x03]) 1 [.str [0x4d, 0x5a], .any, .byte 3] 0 = none ∧
    sem (ofRaw .pe32 #[0x4d, 0x5a, 0x99, 0x04]) 1 [.str [0x4d, 0x5a], .any, .byte 3] 0 = none ∧
    -- `e8 ${ aa } bb`: the body is matched at the call target 7, `bb` at 5 = behind the operand
    (sem (ofRaw .pe32 #[0xe8, 2, 0, 0, 0, 0xbb, 0, 0xaa]) 1 [.byte 0xe8, .group .j4 [] [.byte 0xaa], .byte 0xbb] 0).map (·.1)
      = some 6 := by
  decide +kernel

/-! ## (4) the perturbation clause for the semantics the unconditional T2' uses (`semI` / `denoteImpl`)

`footprint S p c` (`Spec/PatternSemImpl.lean`) lists the questions `denoteImpl S p c` asks the image: literal
comparisons `lit a`, operand reads `read w a`, pointer translations, slice lengths — on the accepting path and on
every failed candidate / alternative.  `constrained S p c` lists the literal bytes (address, value) the pattern
demands, jump destinations taken from the image. -/

/-- **Footprint theorem.**  The answer of `denoteImpl` — verdict, final cursor, captures — depends on the image only
through the answers to the questions of its footprint: an image `S'` of the same format that answers them as `S`
does gets the same answer, whatever else it contains.  Every pattern tree (any nesting, `[a-b]`, alternatives),
every cursor. -/
theorem C11_impl_footprint (S S' : ScanI) (hf : S'.fmt = S.fmt) (p : Pat) (c : Nat)
    (h : ∀ q ∈ footprint S p c, q.same S S') : denoteImpl S' p c = denoteImpl S p c :=
  denoteImpl_footprint hf p c h

/-- the same for a sequence in the middle of a pattern, against any continuation -/
theorem C11_semI_footprint (S S' : ScanI) (hf : S'.fmt = S.fmt) (items : List Item) (k c : Nat) (κ κ' : Kont)
    (φ : Nat → List Query) (hκ : ∀ c1, (∀ q ∈ φ c1, q.same S S') → κ' c1 = κ c1)
    (h : ∀ q ∈ fpI S k items c κ φ, q.same S S') : semI S' k items c κ' = semI S k items c κ :=
  semI_footprint hf items k c κ κ' φ hκ h

/-- instance: `e8 ${ "MZ" ( aa | [0-4] bb ) } 90 ?` on two buffers that differ in bytes the semantics never asks
for: offset 6 is under the wild card, 7 lies between the call and its target, 14 / 15 behind the match.  The
footprint lists the failed first alternative (`aa` at 10) and the failed first candidate of `[0-4]` (`bb` at 10)
before the successful one (11), then `90` behind the call operand -/
example :
    let p : Pat := [.byte 0xe8, .group .j4 [] [.str [0x4d, 0x5a], .alt [[.byte 0xaa], [.range 0 4, .byte 0xbb]]], .byte 0x90, .any]
    let S := ofRaw .pe32 #[0xe8, 3, 0, 0, 0, 0x90, 0x11, 0x22, 0x4d, 0x5a, 0x33, 0xbb, 0x44, 0x55, 0x66, 0x77]
    let S' := ofRaw .pe32 #[0xe8, 3, 0, 0, 0, 0x90, 0x99, 0x23, 0x4d, 0x5a, 0x33, 0xbb, 0x44, 0x55, 0x00, 0x01]
    footprint S p 0 = [.lit 0, .read 4 1, .lit 8, .lit 9, .lit 10, .slice 10, .lit 10, .lit 11, .lit 5] ∧
    (∀ q ∈ footprint S p 0, q.same S S') ∧ denoteImpl S p 0 = some (7, [(0, 0)]) ∧ denoteImpl S' p 0 = some (7, [(0, 0)]) := by
  decide +kernel

/-- **Perturbation, two images.**  Let `(a, v)` be a byte the pattern constrains on `S` at `c`.  An image `S'` of the
same format that answers the comparison at `a` with anything but `v`, and every OTHER question of the footprint as
`S` does (operand reads and slice lengths included: the perturbed byte is not also a jump operand), is rejected —
whether or not `S` itself is accepted. -/
theorem C11_impl_perturbed_rejected (S S' : ScanI) (hf : S'.fmt = S.fmt) (p : Pat) (c : Nat) (a v : Nat)
    (hm : (a, v) ∈ constrained S p c) (hagree : ∀ q ∈ footprint S p c, q ≠ Query.lit a → q.same S S')
    (hne : S'.read 1 a ≠ some v) : denoteImpl S' p c = none := by
  rw [denoteImpl, consI_perturbed hf hne _ 1 c Kont.done Kont.done (fun _ => []) hm hagree]; rfl

/-- **A layout that differs in a byte the pattern constrains is rejected**: the image perturbed into itself -/
theorem C11_impl_rejects_differing_byte (S : ScanI) (p : Pat) (c : Nat) (a v : Nat) (hm : (a, v) ∈ constrained S p c)
    (hne : S.read 1 a ≠ some v) : denoteImpl S p c = none :=
  C11_impl_perturbed_rejected S S rfl p c a v hm (fun q _ _ => Query.same_refl S q) hne

/-- **Every byte the pattern constrains is compared and holds.**  On an accepted layout every literal byte of
`constrained S p c` — exact bytes `hh` and the bytes of quoted text, at the addresses the layout's own jump
operands lead to — has the value the pattern demands, and its comparison is part
of the footprint. -/
theorem C11_impl_constrained_byte (S : ScanI) (p : Pat) (c : Nat) (x : Nat × Caps) (h : denoteImpl S p c = some x) :
    ∀ a v, (a, v) ∈ constrained S p c → S.read 1 a = some v ∧ Query.lit a ∈ footprint S p c := by
  intro a v hm
  refine ⟨Decidable.byContradiction fun hne => ?_, consI_fp S _ 1 c Kont.done _ a v hm⟩
  rw [C11_impl_rejects_differing_byte S p c a v hm hne] at h
  cases h

/-- **For straight-line patterns the constrained bytes are ALL literal bytes**: a pattern without `[a-b]` and
`( | )` (brace groups, jumps, reads, wild cards, alignment allowed) that accepts a layout constrains exactly as many
bytes as it has literal bytes, at any depth — so by the three theorems above it "rejects a layout that differs in
any byte the pattern constrains".  (With `[a-b]` / `( | )` the list stops at the first of them in each sequence:
which bytes are constrained behind it depends on the candidate / alternative taken.) -/
theorem C11_impl_constrained_complete (S : ScanI) (p : Pat) (hst : straight p = true) (c : Nat) (x : Nat × Caps)
    (h : denoteImpl S p c = some x) : (constrained S p c).length = litCount p := by
  simp only [denoteImpl, Option.map_eq_some_iff] at h
  obtain ⟨y, hy, _⟩ := h
  rw [constrained]
  rw [dropTrailing_straight p true hst] at hy ⊢
  exact consI_length S p 1 c Kont.done y hy hst

/-- instance (PE32+ pointer width, an absolute pointer): `68 *{ "MZ" aa } 90 ' u1` on `68 <ptr 16> 90 77 … 4d 5a aa`.
The five literal bytes are constrained at 0, 16, 17, 18 (behind the pointer) and 9; each perturbed buffer is
rejected; perturbing the wild-card-free rest (the byte `u1` reads) changes only the capture. -/
example :
    let p : Pat := [.byte 0x68, .group .ptr [] [.str [0x4d, 0x5a], .byte 0xaa], .byte 0x90, .save, .readU 1]
    let S := ofRaw .pe64 #[0x68, 16, 0, 0, 0, 0, 0, 0, 0, 0x90, 0x77, 0, 0, 0, 0, 0, 0x4d, 0x5a, 0xaa]
    straight p = true ∧ litCount p = 5 ∧
    constrained S p 0 = [(0, 0x68), (16, 0x4d), (17, 0x5a), (18, 0xaa), (9, 0x90)] ∧
    denoteImpl S p 0 = some (11, [(2, 0x77), (1, 10), (0, 0)]) ∧
    denoteImpl (ofRaw .pe64 #[0x68, 16, 0, 0, 0, 0, 0, 0, 0, 0x90, 0x77, 0, 0, 0, 0, 0, 0x4d, 0x5b, 0xaa]) p 0 = none ∧
    denoteImpl (ofRaw .pe64 #[0x68, 16, 0, 0, 0, 0, 0, 0, 0, 0x91, 0x77, 0, 0, 0, 0, 0, 0x4d, 0x5a, 0xaa]) p 0 = none ∧
    denoteImpl (ofRaw .pe64 #[0x69, 16, 0, 0, 0, 0, 0, 0, 0, 0x90, 0x77, 0, 0, 0, 0, 0, 0x4d, 0x5a, 0xaa]) p 0 = none ∧
    denoteImpl (ofRaw .pe64 #[0x68, 16, 0, 0, 0, 0, 0, 0, 0, 0x90, 0x78, 0, 0, 0, 0, 0, 0x4d, 0x5a, 0xaa]) p 0
      = some (11, [(2, 0x78), (1, 10), (0, 0)]) := by
  decide +kernel

/-- the hypotheses of `C11_impl_perturbed_rejected` on that layout: the buffer with offset 17 changed answers every
question of the footprint but `lit 17` as the original does -/
example :
    let p : Pat := [.byte 0x68, .group .ptr [] [.str [0x4d, 0x5a], .byte 0xaa], .byte 0x90, .save, .readU 1]
    let S := ofRaw .pe64 #[0x68, 16, 0, 0, 0, 0, 0, 0, 0, 0x90, 0x77, 0, 0, 0, 0, 0, 0x4d, 0x5a, 0xaa]
    let S' := ofRaw .pe64 #[0x68, 16, 0, 0, 0, 0, 0, 0, 0, 0x90, 0x77, 0, 0, 0, 0, 0, 0x4d, 0x5b, 0xaa]
    (17, 0x5a) ∈ constrained S p 0 ∧ (∀ q ∈ footprint S p 0, q ≠ Query.lit 17 → q.same S S') ∧ S'.read 1 17 ≠ some 0x5a := by
  decide +kernel

end Pelite.PatSem
