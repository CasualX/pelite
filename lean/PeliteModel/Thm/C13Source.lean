import PeliteModel.Thm.C13Queries
import PeliteModel.Lemmas.VersionSource
import PeliteModel.Generated.ImageLayout
/-!
C13 — the source-code rendering against the abstract content, and the byte-counting value length.

`Thm/C13.lean` shows that `source_code()` renders the reported events callback by callback
(`C13_source_renders_every_event`); that relates the model to its own renderer.  Here the text is
tied to the specification: `Spec.sourceOf v` (Spec/Version.lean) is the VERSIONINFO statement of the
abstract resource `v`, written from the statement's syntax with the specification's own numerals
(`Spec.decimal`, `hexLower`), wide string literals (`Spec.quoted` over `Spec.read16`) and field
offsets of VS_FIXEDFILEINFO — and `source_code()` on every documented layout of `v` is exactly that text.
With `C13_layout_strings_query`, `C13_layout_value_query`, `C13_layout_file_info` (Thm/C13Queries.lean)
all four views of the strings are functions of the same abstract content, which is the statement's
"agree with one another".

Second part: a `String` structure whose `wValueLength` counts bytes instead of words (a convention
some resource writers use) is *not* read like the documented one: `C13_byte_counted_string_partial`,
`C13_byte_counted_string_ends_table`.
-/
namespace Pelite.Version
open Spec

/-! ## the source text of every documented layout -/

/-- **C13, source-code rendering.**  On every block that lays out the abstract resource `v` as
documented, `source_code()` is the VERSIONINFO statement of `v`: the fixed-info statements iff the
root value is the 52 bytes of VS_FIXEDFILEINFO, one `BLOCK` per StringFileInfo / VarFileInfo and per
string table, one `VALUE` line per string in stored order with its value minus the terminating NUL,
the Translation pairs.  No side condition: keys and values that are not well-formed UTF-16, tables
whose key names no language, duplicate keys, Vars other than "Translation" (left out), root values
of any other length (no fixed-info statements) are all covered by `sourceOf`. -/
theorem C13_layout_source (v : VInfo) (ws : List Nat) (h : v.IsBlock ws) :
    sourceCode (block ws) = .ok (sourceOf v) :=
  source_of_reads _ (block_al _) v (root_layout v ws h 0)

/-- the reference writer's block, both conventions -/
theorem C13_source_round_trip (tight : Bool) (v : VInfo) (hwf : v.wf = true) :
    sourceCode (block (v.encode tight)) = .ok (sourceOf v) :=
  C13_layout_source v _ (C13_writer_produces_layout tight v hwf)

/-- under the decidable layout test (the `lay=1` of the correspondence run) -/
theorem C13_layout_source_decidable (v : VInfo) (ws : List Nat) (h : v.isBlockB ws = true) :
    sourceCode (block ws) = .ok (sourceOf v) :=
  C13_layout_source v ws (isBlockB_sound v ws h)

/-- **The formats agree**: `{}` of an unsigned integer is the decimal numeral, `{:#x}` is `0x` and the
lower-case hexadecimal numeral, `{:?}` of `FmtUtf16` is the wide string literal, one callback's text
depends only on what was reported, and the specification's two readings of UTF-16 (`text`, which
replaces ill-formed units, and `read16`, which keeps them) are the same reading. -/
theorem C13_source_formats (n : Nat) (ws : List Nat) (e : Event) :
    dec n = decimal n ∧ hexx n = ofString "0x" ++ hexLower n ∧ fmtDebug ws = quoted ws ∧
    renderEvent e = renderS e.erase ∧
    text ws = (read16 ws).map (fun | .scalar c => c | .unpaired _ => 0xFFFD) :=
  ⟨dec_eq n, hexx_eq n, fmtDebug_eq ws, renderEvent_eq e, text_eq_read16 ws⟩

open Pelite.Generated.Layout in
/-- **The specification's offsets into VS_FIXEDFILEINFO are those of the current `src/image.rs`**
(`Generated.Layout` is rewritten from the source on every check run): the four words of
`FILEVERSION` / `PRODUCTVERSION` are `Major, Minor, Patch, Build` of `dwFileVersion` /
`dwProductVersion` in the order the `String` visitor prints them, the five DWORDs are the members of
the same name, and the fixed info is present iff the root value has the structure's size. -/
theorem C13_source_field_offsets :
    ffiFileVersionMS + 2 = VS_FIXEDFILEINFO__dwFileVersion + VS_VERSION__Major ∧
    ffiFileVersionMS = VS_FIXEDFILEINFO__dwFileVersion + VS_VERSION__Minor ∧
    ffiFileVersionLS + 2 = VS_FIXEDFILEINFO__dwFileVersion + VS_VERSION__Patch ∧
    ffiFileVersionLS = VS_FIXEDFILEINFO__dwFileVersion + VS_VERSION__Build ∧
    ffiProductVersionMS + 2 = VS_FIXEDFILEINFO__dwProductVersion + VS_VERSION__Major ∧
    ffiProductVersionMS = VS_FIXEDFILEINFO__dwProductVersion + VS_VERSION__Minor ∧
    ffiProductVersionLS + 2 = VS_FIXEDFILEINFO__dwProductVersion + VS_VERSION__Patch ∧
    ffiProductVersionLS = VS_FIXEDFILEINFO__dwProductVersion + VS_VERSION__Build ∧
    ffiFileFlagsMask = VS_FIXEDFILEINFO__dwFileFlagsMask ∧ ffiFileFlags = VS_FIXEDFILEINFO__dwFileFlags ∧
    ffiFileOS = VS_FIXEDFILEINFO__dwFileOS ∧ ffiFileType = VS_FIXEDFILEINFO__dwFileType ∧
    ffiFileSubtype = VS_FIXEDFILEINFO__dwFileSubtype ∧
    (∀ v : VInfo, v.fixed.isSome = decide (2 * v.value.length = VS_FIXEDFILEINFO__size)) := by
  refine ⟨rfl, rfl, rfl, rfl, rfl, rfl, rfl, rfl, rfl, rfl, rfl, rfl, rfl, ?_⟩
  intro v
  unfold VInfo.fixed VS_FIXEDFILEINFO__size
  by_cases h : v.value.length = 26
  · simp [h]
  · have : ¬ 2 * v.value.length = 52 := by omega
    simp [h, this]

/-! ## instances -/

/-- the text of the sample of `Thm/C13.lean` (every word of its fixed info is 7; the string "A"
stores no value, "Bc" the empty string, "Def" a value with an embedded NUL) -/
example : sourceOf sample = ofString
    ("1 VERSIONINFO\nFILEVERSION 7, 7, 7, 7\nPRODUCTVERSION 7, 7, 7, 7\nFILEFLAGSMASK 0x70007\nFILEFLAGS 0x70007\n" ++
     "FILEOS (7 << 16) | 7\nFILETYPE 458759\nFILESUBTYPE 458759\n{\n" ++
     "  BLOCK L\"VarFileInfo\"\n  {\n    VALUE L\"Translation\", 1033, 1200\n  }\n" ++
     "  BLOCK L\"StringFileInfo\"\n  {\n    BLOCK L\"040904b0\"\n    {\n" ++
     "      VALUE L\"A\", L\"\"\n      VALUE L\"Bc\", L\"\"\n      VALUE L\"Def\", L\"x\\0y\"\n    }\n  }\n}\n") := by
  simp only [ofString_append]
  repeat rw [ofString_ofList]
  decide +kernel

/-- `C13_layout_source` on the layout with mixed choices of `Thm/C13Queries.lean`, and both writer conventions -/
example : sourceCode (block mixedLayout) = .ok (sourceOf sample) ∧
    sourceCode (block (sample.encode true)) = .ok (sourceOf sample) ∧
    sourceCode (block (sample.encode false)) = .ok (sourceOf sample) :=
  have hwf : sample.wf = true := by decide +kernel
  ⟨C13_layout_source_decidable sample mixedLayout (by decide +kernel),
   C13_source_round_trip true sample hwf, C13_source_round_trip false sample hwf⟩

/-- the fixed info of the crate's unit test (`test_parse_254`: file version 22.607.2013.25), a Var
that is not "Translation", a Translation with two pairs, two tables (one key names no language), a
key with a quote, values with every escape, a surrogate pair and an unpaired surrogate -/
def sample2 : VInfo :=
  ⟨ofString "VS_VERSION_INFO",
   [1213, 65263, 0, 1, 607, 22, 25, 2013, 608, 23, 26, 2014, 63, 0, 0x21, 0x8000, 4, 4, 2, 0, 0, 0, 0, 0, 0, 0],
   [.stringInfo [⟨ofString "040904b0", [⟨ofString "Company\"Name", ofString "a\\b\tc\r\n" ++ [0]⟩,
                                       ⟨ofString "Smile", [0xD83D, 0xDE00, 0xDC00, 0xE9, 0]⟩]⟩,
                 ⟨ofString "zz", [⟨[], [0, 0]⟩]⟩],
    .varInfo [⟨ofString "Other", [1, 2]⟩, ⟨kTranslation, [0x409, 1200, 0x407, 1252, 7]⟩]]⟩

/-- no side condition is needed: the Var "Other" is left out, the odd word of the Translation value is
half a pair and is dropped, the second NUL of the value `[0, 0]` stays, the unpaired surrogate is `\udc00` -/
example : sample2.wf = true ∧ sample2.queriesDetermined = false ∧ sourceOf sample2 =
    ofString
      ("1 VERSIONINFO\nFILEVERSION 22, 607, 2013, 25\nPRODUCTVERSION 23, 608, 2014, 26\nFILEFLAGSMASK 0x3f\n" ++
       "FILEFLAGS 0x80000021\nFILEOS (4 << 16) | 4\nFILETYPE 2\nFILESUBTYPE 0\n{\n" ++
       "  BLOCK L\"StringFileInfo\"\n  {\n    BLOCK L\"040904b0\"\n    {\n" ++
       "      VALUE L\"Company\\\"Name\", L\"a\\\\b\\tc\\r\\n\"\n      VALUE L\"Smile\", L\"") ++
    [0x1F600] ++   -- the surrogate pair D83D DE00 as one character
    ofString
      ("\\udc00é\"\n    }\n" ++
       "    BLOCK L\"zz\"\n    {\n      VALUE L\"\", L\"\\0\"\n    }\n  }\n" ++
       "  BLOCK L\"VarFileInfo\"\n  {\n    VALUE L\"Translation\", 1033, 1200, 1031, 1252\n  }\n}\n") ∧
    sourceCode (block (sample2.encode false)) = .ok (sourceOf sample2) := by
  have hwf : sample2.wf = true := by decide +kernel
  refine ⟨hwf, by decide +kernel, ?_, C13_source_round_trip false sample2 hwf⟩
  simp only [ofString_append]
  repeat rw [ofString_ofList]
  decide +kernel

/-- a root value that is not the 52 bytes of VS_FIXEDFILEINFO has no fixed-info statements, and the
model renders the same (these two evaluated, not through the theorem); the tight block of `sample2`
through `C13_source_round_trip` -/
example : sourceOf ⟨ofString "V", [1, 2], []⟩ = ofString "{\n}\n" ∧
    sourceCode (block ((⟨ofString "V", [1, 2], []⟩ : VInfo).encode false)) = .ok (ofString "{\n}\n") ∧
    sourceCode (block (sample2.encode true)) = .ok (sourceOf sample2) :=
  ⟨by decide +kernel, by decide +kernel, C13_source_round_trip true sample2 (by decide +kernel)⟩

/-! ## visitors that decline blocks and string tables

`Visit::file_info` and `Visit::string_table` may return `false`; `visit` then goes on to the next
block / table without entering the declined one.  `recorderSkip2 fmask tmask` (Model/Version.lean; the
visitor of the `events_skip2` operation of the correspondence run) records every callback and
declines those selected by the masks. -/

/-- **A declining visitor sees the one event list minus the declined subtrees**, for all masks and
every word list: instance of `C13_visit_is_fold_of_events` (`replay` skips from a declined callback
to the end of its subtree). -/
theorem C13_declining_visitor_is_fold (fmask tmask : Nat) (ws : List Nat) :
    ∃ es, events (block ws) = .ok es ∧
      visit (recorderSkip2 fmask tmask) (block ws) ([], 0, 0) =
        .ok (es.foldl (replay (recorderSkip2 fmask tmask)) (([], 0, 0), none)).1 :=
  C13_visit_is_fold_of_events (recorderSkip2 fmask tmask) (fun _ _ _ => rfl) ws ([], 0, 0)

/-- both declines on `sample2`: the second block (VarFileInfo, bit 1 of `fmask`) and the first string
table ("040904b0", bit 0 of `tmask`) are recorded but not entered; everything else is reported -/
example : (visit (recorderSkip2 2 1) (block (sample2.encode false)) ([], 0, 0)).bind
      (fun r => .ok (r.1.map Event.erase, r.2)) = .ok
    ([.versionInfo (ofString "VS_VERSION_INFO") sample2.fixed, .enter 0,
      .fileInfo kStringFileInfo, .enter 1,
        .stringTable (ofString "040904b0"),
        .stringTable (ofString "zz"), .enter 2, .string [] [0], .exit 2,
      .exit 1,
      .fileInfo kVarFileInfo,
      .exit 0], 2, 2) := by
  decide +kernel

/-! ## a `String` whose `wValueLength` counts bytes

Microsoft documents `String.wValueLength` as "the size, in words, of the Value member"; resources
exist whose writer stored the size in bytes.  `visit` reads the strings of a table with
`Parser::new_words` (`value_length = words[1]`, `wType` is not consulted), so such a structure asks
for twice the words it holds: `parse_tlv` answers `Err(Invalid)`, `Parser::next` empties its input,
and that string *and every later string of the same table* are not reported.  (A string without a
value, `wValueLength = 0`, is the same structure under both conventions.)  The documented layout is
read back completely (`C13_layout_*`), so this is a tolerance gap for a writer quirk, not a violation
of the statement; `IsNode` is therefore not extended by that convention. -/

/-- **a byte-counted `String` is `Err(Invalid)` and ends its table**, for every key that can be
written, every non-empty value, both writer conventions and whatever follows the structure: the
loop over the table's strings reports nothing from there on. -/
theorem C13_byte_counted_string_partial (tight : Bool) (key value tl : List Nat) (off : Nat)
    (hk : keyOk key = true) (hv : value ≠ []) :
    parseTlv .words ⟨off, Spec.encode tight (.mk key value false []) ++ tl⟩ = .err .invalid ∧
    items .words ⟨off, Spec.encode tight (.mk key value false []) ++ tl⟩ = [] :=
  ⟨parseTlv_words_byteCounted tight key value tl off hk hv,
   items_err (parseTlv_words_byteCounted tight key value tl off hk hv)⟩

example : keyOk [66] = true ∧ ([50, 0] : List Nat) ≠ [] ∧
    parseTlv .words ⟨0, Spec.encode false (.mk [66] [50, 0] false []) ++ [0xFFFF, 16, 2, 1, 67, 0, 0, 51, 0]⟩ = .err .invalid ∧
    -- the same structure counted in words is read, and the parser resumes behind it
    (parseTlv .words ⟨0, Spec.encode false (.mk [66] [50, 0] true []) ++ [16, 2, 1, 67, 0, 0, 51, 0]⟩).isOk = true := by
  decide +kernel

/-- the abstract resource of the witness: two tables, the first with the strings A = "1", B = "2", C = "3" -/
def byteCountedInfo : VInfo :=
  ⟨ofString "V", [],
   [.stringInfo [⟨ofString "040904b0", [⟨[65], [49, 0]⟩, ⟨[66], [50, 0]⟩, ⟨[67], [51, 0]⟩]⟩,
                 ⟨ofString "000004b0", [⟨[68], [52, 0]⟩]⟩]]⟩

/-- its documented arrangement, except that the String "B" is marked binary: the reference writer
then stores `wValueLength = 4` (bytes) for its two words -/
def byteCountedNode : Node :=
  .mk (ofString "V") [] false
    [.mk kStringFileInfo [] true
      [.mk (ofString "040904b0") [] true
         [.mk [65] [49, 0] true [], .mk [66] [50, 0] false [], .mk [67] [51, 0] true []],
       .mk (ofString "000004b0") [] true [.mk [68] [52, 0] true []]]]

/-- **Witness: a byte-counted string ends its table.**  The block differs from the documented
encoding of `byteCountedInfo` in exactly two words (`wValueLength` 2 → 4 and `wType` 1 → 0 of "B").
Reported: "A" of the first table and the whole second table; "B" *and "C"* are missing from the
events, from `strings`, `value`, `file_info` and from the source text, while the documented encoding
reports all three. -/
theorem C13_byte_counted_string_ends_table :
    Spec.encode false byteCountedNode = ((byteCountedInfo.encode false).set 45 4).set 46 0 ∧
    (events (block (Spec.encode false byteCountedNode))).bind (fun es => .ok (es.map Event.erase)) = .ok
      [.versionInfo (ofString "V") none, .enter 0, .fileInfo kStringFileInfo, .enter 1,
       .stringTable (ofString "040904b0"), .enter 2, .string [65] [49], .exit 2,
       .stringTable (ofString "000004b0"), .enter 2, .string [68] [52], .exit 2, .exit 1, .exit 0] ∧
    strings (block (Spec.encode false byteCountedNode)) ⟨0x409, 1200⟩ = .ok [([65], [49])] ∧
    stringsOf byteCountedInfo (0x409, 1200) = [([65], [49]), ([66], [50]), ([67], [51])] ∧
    strings (block (Spec.encode false byteCountedNode)) ⟨0, 1200⟩ = .ok (stringsOf byteCountedInfo (0, 1200)) ∧
    value (block (Spec.encode false byteCountedNode)) ⟨0x409, 1200⟩ [67] = .ok none ∧
    valueOf byteCountedInfo (0x409, 1200) [67] = some [51] ∧
    (fileInfo (block (Spec.encode false byteCountedNode))).bind (fun fi => .ok fi.strings) = .ok
      [(⟨0x409, 1200⟩, [([65], [49])]), (⟨0, 1200⟩, [([68], [52])])] ∧
    sourceCode (block (Spec.encode false byteCountedNode)) = .ok (ofString
      ("{\n  BLOCK L\"StringFileInfo\"\n  {\n    BLOCK L\"040904b0\"\n    {\n      VALUE L\"A\", L\"1\"\n    }\n" ++
       "    BLOCK L\"000004b0\"\n    {\n      VALUE L\"D\", L\"4\"\n    }\n  }\n}\n")) ∧
    -- the documented encoding of the same resource
    strings (block (byteCountedInfo.encode false)) ⟨0x409, 1200⟩ = .ok (stringsOf byteCountedInfo (0x409, 1200)) := by
  simp only [ofString_append]
  repeat rw [ofString_ofList]
  decide +kernel

/-- the same with `wType` left at 1 (only `wValueLength` differs from the documented encoding):
`wType` is not consulted -/
example : events (block ((byteCountedInfo.encode false).set 45 4)) = events (block (Spec.encode false byteCountedNode)) := by
  decide +kernel

end Pelite.Version
