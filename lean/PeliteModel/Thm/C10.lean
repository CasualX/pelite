import PeliteModel.Lemmas.Scan
/-!
C10 — the scanner reports exactly the positions where the pattern matches
(src/pe64/scanner.rs, src/wrap/scanner.rs), and the C02 / C03 obligations of the interpreter.

Model: `Exec.exec` / `Exec.run` (`Exec::exec`, `exec_many`, `Scanner::exec`), `Scan.next`
(`Matches::next` with `setup`, the three strategies, `next_section`), `Scan.scanAll` (repeated
`next` on one save array), `Scan.finds`.  Reference: `Spec/Scan.lean` (`execOK`, `IsCand`,
`specMatches`, `SecWF`, `Hyp`).

All theorems quantify over every image (`Pe.View`: both formats, file and mapped, any section table
unless `SecWF` is asked for), every atom list (not only parser output), every range and save array.
The only size assumption the proofs use is the global model bound "buffers are below 4 GiB".  Some statements also
say that their arguments are values of the Rust types — atom arguments are `u8` (`pat.all Atom.ok`, `∀ q ∈ qs, q < 256`),
`range.end` is a `u32` (`m.stop`, `hi < 2^32`); where the proof has no use for that (soundness, `save[0]`, the skip
table: `next_sound`, `next_pos_save0`, `winEq_of_lt_jump` in `Lemmas/` are stated without) the hypothesis is idle.
-/
namespace Pelite.Scan
open Pelite.Pattern Pelite.Exec

/-- `exec` started at any `pc` with fuel `pat.length + 1 - pc` (at least 1) returns normally — for
ARBITRARY atom lists, cursors, masks and save arrays.  The fuel is handed down to nested calls and to
the loop continuation alike, so it bounds the length of the chain of active frames: the Rust
recursion depth is at most `pat.len() + 1`.  (The number of *steps* is not bounded by the pattern
length: `exec_many` re-runs the rest of the pattern once per candidate offset, so the total work is
bounded only by the product of the `Many` limits, each at most the slice length.) -/
theorem C10_exec_total (v : Pe.View) (hsz : v.b.size < 4294967296) (pat : List Atom)
    (fuel : Nat) (st : St) (mask ext : Nat) (hfuel : pat.length + 1 ≤ fuel + st.pc) (h1 : 1 ≤ fuel) :
    ∃ b st', exec (ofView v) pat fuel st mask ext = .ok (b, st') := by
  obtain ⟨⟨b, st'⟩, h⟩ := exec_total (ofView_wf v hsz) pat fuel st mask ext (by omega)
  exact ⟨b, st', h⟩

/-- why that fuel suffices: every call returns with a `pc` at or beyond its entry `pc`, so the loop
continuation and every nested frame (`Push`, `Case`, each attempt of `Many`) start strictly beyond
the atom that caused them — the entry `pc` strictly increases along the chain of active frames. -/
theorem C10_exec_pc_monotone (S : ScanI) (pat : List Atom) (fuel : Nat) (st : St) (mask ext : Nat)
    (b : Bool) (st' : St) (h : exec S pat fuel st mask ext = .ok (b, st')) : st.pc ≤ st'.pc :=
  exec_pc_mono S pat fuel st mask ext b st' h

/-- `Scanner::exec` never panics (in particular `self.cursor += 1` cannot overflow), never reads
outside the image and terminates, on every view and every atom list. -/
theorem C10_exec_never_fails (v : Pe.View) (hsz : v.b.size < 4294967296) (pat : List Atom)
    (cursor : Nat) (save : Array Nat) :
    ∃ b s, Exec.run (ofView v) pat cursor save = .ok (b, s) :=
  run_total (ofView_wf v hsz) pat cursor save

/-- the same for `impl Scan for &[u8]` (the repository's unit test harness) -/
theorem C10_exec_raw_never_fails (f : Pe.Fmt) (bytes : Bytes) (hsz : bytes.size < 4294967296)
    (pat : List Atom) (cursor : Nat) (save : Array Nat) :
    ∃ b s, Exec.run (ofRaw f bytes) pat cursor save = .ok (b, s) :=
  run_total (ofRaw_wf f bytes hsz) pat cursor save

/-- `self.pc` stays within `pat.len() + 255`: none of the `usize` additions on it can overflow. -/
theorem C10_exec_pc_bounded (S : ScanI) (pat : List Atom) (hok : pat.all Atom.ok = true)
    (fuel : Nat) (st : St) (mask ext : Nat) (b : Bool) (st' : St)
    (h : exec S pat fuel st mask ext = .ok (b, st')) (hpc : st.pc ≤ pat.length + 255) :
    st'.pc ≤ pat.length + 255 :=
  exec_pc_le S pat hok fuel st mask ext b st' h hpc

/-- The model's unbounded integers are the machine's: started on a `u32` cursor and a save array of
`u32`s, the execution hands back a save array of the same length whose slots are `u32`s. -/
theorem C10_exec_machine_range (v : Pe.View) (hsz : v.b.size < 4294967296) (pat : List Atom)
    (cursor : Nat) (save s' : Array Nat) (b : Bool) (hc : cursor < 4294967296) (hs : SaveOK save)
    (h : Exec.run (ofView v) pat cursor save = .ok (b, s')) :
    SaveOK s' ∧ s'.size = save.size := by
  obtain ⟨st, hex, rfl⟩ := run_exec h
  exact (exec_keeps (ofView_wf v hsz) pat (Q := fun s => SaveOK s ∧ s.size = save.size)
    (fun _ _ _ h hv => ⟨saveSet_ok h.1 _ hv, (saveSet_size ..).trans h.2⟩) _ _ _ _ _ _ hex ⟨hc, hs, rfl⟩).2

/-- If the pattern executes successfully at `c`, the image holds the literal prefix extracted by
`Matches::setup` (the leading `Byte`s, looking through `Save` / `Aligned` / `Nop`, at most
`QS_BUF_LEN`) at `c, c+1, …` — this is what makes the first-byte scan and the quick search complete. -/
theorem C10_prefix (v : Pe.View) (hsz : v.b.size < 4294967296) (pat : List Atom)
    (hok : pat.all Atom.ok = true) (c : Nat) (save s' : Array Nat)
    (h : Exec.run (ofView v) pat c save = .ok (true, s')) :
    ∀ i b, (setup pat)[i]? = some b → (ofView v).read 1 (c + i) = some b :=
  run_prefix (ofView_wf v hsz) pat hok c save s' h

/-- every entry used lies between 1 and the prefix length (progress, and `cursor + jump` stays in
the window) -/
theorem C10_jumps_bounds (qs : List Nat) (hq : ∀ q ∈ qs, q < 256) (hlen : 1 ≤ qs.length) (b : Nat) (hb : b < 256) :
    1 ≤ (mkJumps qs).getD b 0 ∧ (mkJumps qs).getD b 0 ≤ qs.length :=
  mkJumps_bounds qs hlen b hb

/-- `jumps[p[t]] ≤ m - 1 - t` for `t < m - 1`: the table holds `m - 1 - (last index of the byte in
p[0..m-1))`, default `m` -/
theorem C10_jumps_le (qs : List Nat) (hq : ∀ q ∈ qs, q < 256) (t : Nat) (ht : t + 1 < qs.length) :
    (mkJumps qs).getD (qs.getD t 0) 0 ≤ qs.length - 1 - t :=
  mkJumps_le qs t ht (by
    rw [List.getD_eq_getElem?_getD, List.getElem?_eq_getElem (by omega)]
    exact hq _ (List.getElem_mem _))

/-- **`shift_safe`**: with `b` the last byte of the window at offset `o`, the prefix does not occur
at `o + j` for `0 < j < jumps[b]` — for every prefix, repeated and periodic bytes included.  It
justifies `i += jump` after a rejected window and `range.start = cursor + jump` after a match. -/
theorem C10_shift_safe (bytes : Bytes) (qs : List Nat) (hq : ∀ q ∈ qs, q < 256) (o j : Nat)
    (hj0 : 0 < j) (hj : j < (mkJumps qs).getD (byteAt bytes (o + qs.length - 1)) 0) :
    winEq bytes (o + j) qs = false :=
  shift_safe bytes qs hq o j hj0 hj

/-- One call of `Matches::next` returns normally (no panic in the range arithmetic of the three
strategies and of `next_section`, the quick search terminates) and, when it reports a match, that
match is at a position `c` with `range.start ≤ c < range.end`, below the new `range.start`; the
pattern was executed at `c` successfully and the save array handed back is what that execution left.
`range.end` never changes. -/
theorem C10_next_sound (v : Pe.View) (hsz : v.b.size < 4294967296) (pat : List Atom)
    (hok : pat.all Atom.ok = true) (m : MSt) (save : Array Nat) (hstop : m.stop < 4294967296) :
    ∃ r, next v pat m save = .ok r ∧ r.m.stop = m.stop ∧ m.start ≤ r.m.start ∧
      (r.found = true → m.start ≤ r.pos ∧ r.pos < m.stop ∧ r.pos < r.m.start ∧ r.m.start ≤ m.stop ∧
        ∃ s, Exec.run (ofView v) pat r.pos s = .ok (true, r.save)) := by
  obtain ⟨r, hr, hs⟩ := next_sound v hsz pat m save
  refine ⟨r, hr, hs.stop_eq, hs.start_le, fun hf => ?_⟩
  obtain ⟨a1, a2, a3, a4, a5⟩ := hs.found hf
  exact ⟨a1, a3, a2, a4, a5⟩

/-- The whole sequence `while matches.next(&mut save) { … }` (at most `n` calls): every reported
position lies in the range and the pattern executes there with the reported captures; the positions
are strictly ascending; `hi - lo + 1` calls exhaust the iterator. -/
theorem C10_scan_sound (v : Pe.View) (hsz : v.b.size < 4294967296) (pat : List Atom)
    (hok : pat.all Atom.ok = true) (lo hi : Nat) (hhi : hi < 4294967296) (n : Nat) (save : Array Nat) :
    ∃ a, scanAll (next v pat) n (matchesInit lo hi) save = .ok a ∧
      (∀ h ∈ a.hits, lo ≤ h.1 ∧ h.1 < hi ∧ ∃ s, Exec.run (ofView v) pat h.1 s = .ok (true, h.2)) ∧
      (a.hits.map (·.1)).Pairwise (· < ·) ∧
      (hi - lo < n → a.exhausted = true) := by
  obtain ⟨a, ha, _, h2, h3, h4⟩ := scanAll_sound (ex := interp v pat) (nx := next v pat) hi
    (next_sound v hsz pat)
    n (matchesInit lo hi) save rfl
  exact ⟨a, ha, h2, h3, h4⟩

/-- `matches_code` / `finds_code` are `matches` / `finds` over `headers().code_range()` =
`BaseOfCode .. BaseOfCode.wrapping_add(SizeOfCode)`, whose end is a `u32`: the theorems of this file
apply to them as they are. -/
theorem C10_matches_code_range (v : Pe.View) :
    matchesCodeInit v = matchesInit (Pe.baseOfCode v.b) (wadd32 (Pe.baseOfCode v.b) (Pe.sizeOfCode v.b)) ∧
    (matchesCodeInit v).stop < 4294967296 := by
  refine ⟨rfl, ?_⟩
  show wadd32 _ _ < _
  unfold wadd32; omega

/-! ## completeness — mapped views, and file views with sections sorted by VirtualAddress

The pattern must not read the save array (`noRead`: no `Check`, no `Pir` — atoms the parser never
emits, `Thm/C11Frame.lean:C11_parse_atoms_scannable`): `next` executes the pattern on whatever the previous attempts left in the caller's save
array, so for such atoms "executing the pattern at `c` succeeds" is not a property of `c` alone. -/

/-- For patterns that do not read the save array the outcome of an execution is a function of the
position only: it agrees with the reference predicate `execOK` (execution on an empty save array). -/
theorem C10_exec_save_independent (v : Pe.View) (pat : List Atom) (hnr : pat.all noRead = true)
    (c : Nat) (s s' : Array Nat) (b : Bool) (h : Exec.run (ofView v) pat c s = .ok (b, s')) :
    execOK v pat c = b :=
  execOK_of_run hnr h

/-- … and so are its captures: `next` runs the pattern on whatever earlier attempts left in the save
array, yet (same length, pattern without `Check` / `Pir`) every slot handed back holds the value an
execution on any other array `s2` writes there, or is a slot that execution does not write at all
(`SaveRel`: slot by slot "equal in both, or untouched in both").  With `C10_next_sound` the reported
captures are those of the execution at the reported position, not of stale attempts. -/
theorem C10_captures_independent (v : Pe.View) (pat : List Atom) (hnr : pat.all noRead = true)
    (c : Nat) (s1 s2 t1 : Array Nat) (hsz : s1.size = s2.size) (b : Bool)
    (h : Exec.run (ofView v) pat c s1 = .ok (b, t1)) :
    ∃ t2, Exec.run (ofView v) pat c s2 = .ok (b, t2) ∧ t1.size = t2.size ∧
      ∀ i : Nat, t1[i]? = t2[i]? ∨ (t1[i]? = s1[i]? ∧ t2[i]? = s2[i]?) := by
  obtain ⟨t2, h2, hrel⟩ := run_captures_indep (ofView v) pat hnr c s1 s2 t1 hsz b h
  exact ⟨t2, h2, hrel.1, hrel.2⟩

/-- Which of the three searches runs is decided by the length of the literal prefix alone; the
theorems below hold for all of them. -/
theorem C10_strategy_selection (ex : Interp) (bytes : Bytes) (qs : List Nat) (off len : Nat) (m : MSt) (save : Array Nat) :
    strategy ex bytes qs off len m save =
      if qs.length = 0 then strategy0 ex len m save
      else if qs.length < 4 then strategy1 ex bytes qs off len m save
      else strategy2 ex bytes qs off len m save := rfl

/-- One call of `next` under `Hyp`: every candidate position below the new `range.start` other than
the reported one — every candidate of the remaining range when `false` is returned — is a position
at which the pattern does not execute successfully.  Whichever strategy the prefix selects. -/
theorem C10_next_complete (v : Pe.View) (pat : List Atom) (lo hi : Nat) (h : Hyp v pat lo hi)
    (m : MSt) (save : Array Nat) (hm : m.stop = hi) :
    ∃ r, next v pat m save = .ok r ∧
      (r.found = true → ∀ p, IsCand v (setup pat).length m.start hi p → p < r.m.start → p ≠ r.pos → execOK v pat p = false) ∧
      (r.found = false → ∀ p, IsCand v (setup pat).length m.start hi p → execOK v pat p = false) := by
  obtain ⟨r, hr, hs⟩ := next_spec h m save
  subst hm
  exact ⟨r, hr, fun hf p hc hp1 hp2 => deadV_not_execOK h (hs.skipped hf p hc hp1 hp2),
    fun hf p hc => deadV_not_execOK h (hs.notfound hf p hc)⟩

/-- **Completeness.**  Under `Hyp` (mapped view, or file view with a `SecWF` section table; pattern
without `Check` / `Pir`), once `next` has returned `false` every position of the reference list
`specMatches` — every candidate position of the range at which the pattern executes — has been
reported.  With `C10_scan_sound`: it was reported exactly once, in ascending order. -/
theorem C10_scan_complete (v : Pe.View) (pat : List Atom) (lo hi : Nat) (h : Hyp v pat lo hi)
    (n : Nat) (save : Array Nat) (a : All)
    (ha : scanAll (next v pat) n (matchesInit lo hi) save = .ok a) (hex : a.exhausted = true) :
    ∀ p ∈ specMatches v pat lo hi, p ∈ a.hits.map (·.1) := by
  intro p hp
  obtain ⟨hc, hE⟩ := (mem_specMatches v pat lo hi p).1 hp
  apply scanAll_complete (nx := next v pat) hi (next_spec h) n (matchesInit lo hi) save a rfl ha hex p hc
  intro hd
  rw [deadV_not_execOK h hd] at hE
  cases hE

/-- Soundness and completeness together, against the reference predicate: under `Hyp` the exhausted
scan reports a strictly ascending list of positions of the range at which the pattern executes,
containing every candidate position at which it executes. -/
theorem C10_scan_exact (v : Pe.View) (pat : List Atom) (lo hi : Nat) (h : Hyp v pat lo hi)
    (n : Nat) (hn : hi - lo < n) (save : Array Nat) :
    ∃ a, scanAll (next v pat) n (matchesInit lo hi) save = .ok a ∧ a.exhausted = true ∧
      (a.hits.map (·.1)).Pairwise (· < ·) ∧
      (∀ p ∈ a.hits.map (·.1), lo ≤ p ∧ p < hi ∧ execOK v pat p = true) ∧
      (∀ p ∈ specMatches v pat lo hi, p ∈ a.hits.map (·.1)) := by
  have h' := h
  obtain ⟨hok, hnr, hsz, _, hhi, hwf⟩ := h'
  obtain ⟨a, ha, h1, h2, h3⟩ := C10_scan_sound v hsz pat hok lo hi hhi n save
  refine ⟨a, ha, h3 hn, h2, ?_, C10_scan_complete v pat lo hi h n save a ha (h3 hn)⟩
  intro p hp
  obtain ⟨hh, hmem, rfl⟩ := List.mem_map.1 hp
  obtain ⟨c1, c2, s, hs⟩ := h1 hh hmem
  exact ⟨c1, c2, execOK_of_run hnr hs⟩

/-- **C10 as an equality of lists.**  Under `Hyp`, an exhausted scan that reported candidate positions only
reported exactly the reference list `specMatches`, in its order: both
lists are ascending, and they have the same members (`C10_scan_sound`, `C10_scan_complete`).  A scan may also report
positions of the range that are not candidates (`C10_strategy1_reports_past_range_end`), hence the last hypothesis. -/
theorem specMatches_eq_hits {v : Pe.View} {pat : List Atom} {lo hi n : Nat} {save : Array Nat} {a : All}
    (h : Hyp v pat lo hi) (ha : scanAll (next v pat) n (matchesInit lo hi) save = .ok a) (hex : a.exhausted = true)
    (hc : ∀ p ∈ a.hits.map (·.1), IsCand v (setup pat).length lo hi p) :
    specMatches v pat lo hi = a.hits.map (·.1) := by
  obtain ⟨a', ha', hrun, hasc, -⟩ := C10_scan_sound v h.2.2.1 pat h.1 lo hi h.2.2.2.2.1 n save
  cases ha.symm.trans ha'
  have hsm : (specMatches v pat lo hi).Pairwise (· < ·) := (candidates_sorted v _ lo hi h.2.2.2.2.2).filter _
  refine List.Perm.eq_of_pairwise (fun _ _ _ _ h1 h2 => absurd h1 (Nat.lt_asymm h2)) hsm hasc ?_
  refine (List.perm_ext_iff_of_nodup (hsm.imp Nat.ne_of_lt) (hasc.imp Nat.ne_of_lt)).2 fun p =>
    ⟨C10_scan_complete v pat lo hi h n save a ha hex p, fun hp => ?_⟩
  obtain ⟨x, hx, rfl⟩ := List.mem_map.1 hp
  obtain ⟨-, -, s, hs⟩ := hrun x hx
  exact (mem_specMatches ..).2 ⟨hc _ hp, execOK_of_run h.2.1 hs⟩

/-- `finds` returns normally; when it answers `true` the save array holds the captures of an
execution at a position `c` of the range, and `c` is the only candidate position at which the
pattern executes. -/
theorem C10_finds_true (v : Pe.View) (pat : List Atom) (lo hi : Nat) (h : Hyp v pat lo hi) (save : Array Nat) :
    ∃ b s, finds v pat lo hi save = .ok (b, s) ∧
      (b = true → ∃ c, lo ≤ c ∧ c < hi ∧ (∃ s0, Exec.run (ofView v) pat c s0 = .ok (true, s)) ∧
        ∀ p ∈ specMatches v pat lo hi, p = c) := by
  obtain ⟨b, s, hf, h1, _⟩ := finds_spec h save
  refine ⟨b, s, hf, fun hb => ?_⟩
  obtain ⟨c, hacc, hsp, huniq⟩ := h1 hb
  refine ⟨c, hsp.1, hsp.2.1, hacc, fun p hp => ?_⟩
  obtain ⟨hc, hE⟩ := (mem_specMatches v pat lo hi p).1 hp
  exact huniq p hc hE

/-- **`finds` succeeds precisely when the scan reports exactly one match.**  For every image (any
section table) and every pattern without `Check` / `Pir`: `finds(pat, lo..hi, save)` answers `true`
exactly when the exhaustive loop `while matches.next(save) { record }` started from the same state
(`scanAll`, with more calls allowed than the range has positions, so it ends by `next` returning
`false`) records exactly one match; the save array `finds` hands back is then the one recorded with
that match: it is what the execution of the pattern at the reported position `c` left, i.e. (by
`C10_captures_independent`) it holds that match's captures on every slot its execution writes.
The grey-zone behaviour of `C10_strategy1_reports_past_range_end` is consistent with this: `finds`
is `false` when the scan reports two matches, whether or not both are candidates. -/
theorem C10_finds_iff_one_reported (v : Pe.View) (hsz : v.b.size < 4294967296) (pat : List Atom)
    (hok : pat.all Atom.ok = true) (hnr : pat.all noRead = true) (lo hi : Nat) (hhi : hi < 4294967296)
    (save : Array Nat) (n : Nat) (hn : hi - lo < n + 2) :
    ∃ b s a, finds v pat lo hi save = .ok (b, s) ∧
      scanAll (next v pat) (n + 2) (matchesInit lo hi) save = .ok a ∧ a.exhausted = true ∧
      (b = true ↔ a.hits.length = 1) ∧
      (b = true → ∃ c, a.hits = [(c, s)] ∧ lo ≤ c ∧ c < hi ∧
        ∃ s0, Exec.run (ofView v) pat c s0 = .ok (true, s)) := by
  have hsound := next_sound v hsz pat
  obtain ⟨a, ha, _, h2, _, h4⟩ := scanAll_sound (ex := interp v pat) (nx := next v pat) hi hsound
    (n + 2) (matchesInit lo hi) save rfl
  obtain ⟨b, s, hf, hiff⟩ := findsWith_iff_scanAll (nx := next v pat)
    (fun m save => let ⟨r, hr, _⟩ := hsound m save; ⟨r, hr⟩)
    (fun m s1 s2 r1 r2 h1 h2 => nextWith_agree (interp_indep v hsz pat hnr) v (setup pat) m s1 s2 r1 r2 h1 h2)
    (matchesInit lo hi) save n
  obtain ⟨h5, h6⟩ := hiff a ha
  refine ⟨b, s, a, hf, ha, h4 hn, h5, fun hb => ?_⟩
  obtain ⟨c, hc⟩ := h6 hb
  obtain ⟨c1, c2, c3⟩ := h2 (c, s) (by rw [hc]; exact List.mem_cons_self ..)
  exact ⟨c, hc, c1, c2, c3⟩

/-- The statement "`finds` succeeds precisely when exactly one candidate position executes" is
FALSE for the code as written: the first-byte scan (prefixes of 1–3 bytes) also reports matches
whose prefix crosses the end of the range — positions that are not candidates — and such a match
makes `finds` answer `false` although exactly one candidate matches.  Witness: mapped bytes
`00 aa bb 00 aa bb`, pattern `aa bb`, range `0..5`: the reference list is `[1]`, the scan reports
1 and 4, `finds` answers `false`.  (Replay: `finds v32 Byte(170),Byte(187) 0 5 0` on an image with
these bytes in a section; see `C10_strategy1_reports_past_range_end` for the scan.) -/
theorem C10_finds_iff_unique_false :
    ∃ (v : Pe.View) (pat : List Atom) (lo hi : Nat) (save : Array Nat), Hyp v pat lo hi ∧
      (∃ c, ∀ p, p ∈ specMatches v pat lo hi ↔ p = c) ∧ ∃ s, finds v pat lo hi save = .ok (false, s) := by
  refine ⟨⟨⟨#[0, 0xAA, 0xBB, 0, 0xAA, 0xBB], 0⟩, .pe32, .view, 0⟩, [.byte 0xAA, .byte 0xBB], 0, 5, #[], ?_, ⟨1, ?_⟩, #[], ?_⟩
  · decide +kernel
  · have : specMatches ⟨⟨#[0, 0xAA, 0xBB, 0, 0xAA, 0xBB], 0⟩, .pe32, .view, 0⟩ [.byte 0xAA, .byte 0xBB] 0 5 = [1] := by
      decide +kernel
    intro p; rw [this]; simp
  · decide +kernel

/-- The strongest true variant: if no examined position outside the candidates executes
successfully (`hG`: no match in the grey zone — stored bytes of the range that are beyond
VirtualSize or less than a prefix length before the end of the range / section), then `finds`
answers `true` precisely when exactly one candidate position executes, and then (by
`C10_finds_true`) leaves that match's captures in the save array. -/
theorem C10_finds_iff_unique_partial (v : Pe.View) (pat : List Atom) (lo hi : Nat) (h : Hyp v pat lo hi)
    (hG : ∀ c, IsScanPos v lo hi c → execOK v pat c = true → IsCand v (setup pat).length lo hi c)
    (save : Array Nat) :
    ∃ b s, finds v pat lo hi save = .ok (b, s) ∧
      (b = true ↔ ∃ c, ∀ p, p ∈ specMatches v pat lo hi ↔ p = c) := by
  obtain ⟨b, s, hf, _, h2⟩ := finds_spec h save
  refine ⟨b, s, hf, ?_⟩
  rw [h2 hG]
  constructor
  · rintro ⟨c, hc⟩; exact ⟨c, fun p => by rw [mem_specMatches]; exact hc p⟩
  · rintro ⟨c, hc⟩; exact ⟨c, fun p => by rw [← mem_specMatches]; exact hc p⟩

/-- Corollary with `C10_scan_exact` / `C10_finds_iff_unique_partial`: under `Hyp`, when no examined
position outside the candidates executes successfully (no grey-zone match), "the scan reports
exactly one match" is "exactly one candidate position executes": the exhausted scan then reports one
match precisely when the reference list has exactly one element — and `finds` answers `true` in
exactly that case. -/
theorem C10_one_reported_iff_one_candidate (v : Pe.View) (pat : List Atom) (lo hi : Nat) (h : Hyp v pat lo hi)
    (hG : ∀ c, IsScanPos v lo hi c → execOK v pat c = true → IsCand v (setup pat).length lo hi c)
    (save : Array Nat) (n : Nat) (hn : hi - lo < n + 2) :
    ∃ b s a, finds v pat lo hi save = .ok (b, s) ∧
      scanAll (next v pat) (n + 2) (matchesInit lo hi) save = .ok a ∧ a.exhausted = true ∧
      (b = true ↔ a.hits.length = 1) ∧
      (a.hits.length = 1 ↔ ∃ c, ∀ p, p ∈ specMatches v pat lo hi ↔ p = c) := by
  have h' := h
  obtain ⟨hok, hnr, hsz, _, hhi, _⟩ := h'
  obtain ⟨b, s, a, hf, ha, hex, h1, _⟩ := C10_finds_iff_one_reported v hsz pat hok hnr lo hi hhi save n hn
  obtain ⟨b', s', hf', h2⟩ := C10_finds_iff_unique_partial v pat lo hi h hG save
  rw [hf] at hf'
  simp only [Out.ok.injEq, Prod.mk.injEq] at hf'
  obtain ⟨rfl, rfl⟩ := hf'
  exact ⟨b, s, a, hf, ha, hex, h1, by rw [← h1, h2]⟩

/-! ## why the candidate positions stop a prefix length before the end

The property restricts completeness to positions "at least a prefix length away from the end of the
range and of its section".  The restriction is necessary for the quick search ("FIXME! Quicksearch
stops too soon") and the strategies disagree beyond it: -/

/-- quick search (prefix ≥ 4 bytes): mapped bytes `00 01 02 03 04 01 02 03 04`, range `0..8`; the
pattern executes at 5 (inside the range) but only 1 is reported -/
theorem C10_quicksearch_stops_before_range_end :
    let v : Pe.View := ⟨⟨#[0, 1, 2, 3, 4, 1, 2, 3, 4], 0⟩, .pe32, .view, 0⟩
    let pat : List Atom := [.byte 1, .byte 2, .byte 3, .byte 4]
    execOK v pat 5 = true ∧
    (scanAll (next v pat) 9 (matchesInit 0 8) #[]).bind (fun a => .ok (a.hits.map (·.1), a.exhausted)) = .ok ([1], true) := by
  decide +kernel

/-- first-byte scan (prefix of 1–3 bytes): the same situation is reported -/
theorem C10_strategy1_reports_past_range_end :
    let v : Pe.View := ⟨⟨#[0, 0xAA, 0xBB, 0, 0xAA, 0xBB], 0⟩, .pe32, .view, 0⟩
    let pat : List Atom := [.byte 0xAA, .byte 0xBB]
    (scanAll (next v pat) 9 (matchesInit 0 5) #[]).bind (fun a => .ok (a.hits.map (·.1), a.exhausted)) = .ok ([1, 4], true) := by
  decide +kernel

/-! ## the hypotheses are satisfiable on non-trivial instances -/

example : SecWF [⟨0, 0, 0x30, 0x1000, 0x40, 0x200, 0⟩, ⟨0, 0, 0x95, 0x2000, 0x80, 0x240, 0⟩, ⟨0, 0, 0x10, 0x2100, 0x10, 0x2c0, 0⟩] := by
  decide

example : Hyp ⟨⟨#[0, 1, 2, 3, 4, 1, 2, 3, 4], 0⟩, .pe32, .view, 0⟩
    [.save 0, .byte 1, .byte 2, .skip 1, .many 2, .byte 4, .case 1, .byte 1, .brk 0, .readU8 1] 0 9 := by
  decide +kernel

example : specMatches ⟨⟨#[0, 1, 2, 3, 4, 1, 2, 3, 4], 0⟩, .pe32, .view, 0⟩
    [.save 0, .byte 1, .byte 2, .skip 1, .many 2, .byte 4] 0 9 = [1, 5] := by
  decide +kernel

end Pelite.Scan
