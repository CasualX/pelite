import PeliteModel.Thm.C12
import PeliteModel.Lemmas.ResFindLocal
import PeliteModel.Lemmas.ResGroups
/-!
C12, continued — (1) lookups are PATH LOCAL: for arbitrary section bytes `find`, `find_resource`,
`find_resource_ex`, `find_dir`, `manifest`, `version_info` and `GroupResource::image` are left folds
of a one-level first-match step over the path, so they depend only on the directories along the path
(no `IsTree` of the whole section, unlike `C12_find_on_tree` / `C12_helpers_on_tree`);
(2) `icons()` / `cursors()` and the lookups of a group on a section that represents ANY tree.
The vocabulary (`Sel`, `stepSel`, `walkSel`, `Follows`, `LocalResult`) is defined in Lemmas/ResFindLocal.lean.
-/
namespace Pelite.Resources
open Pelite

/-! ## 1. `find` is a left fold of one-level steps — for ANY bytes -/

/-- **Path locality of `find`.**  For arbitrary section bytes (no alignment, no well-formedness)
`Resources::find(path)` is the left fold of the one-level step over the path components, starting at
the root directory; likewise `Directory::find`.  What is off the path is never read. -/
theorem C12_find_path_local (r : Resources) (p : List Nat) :
    find r p =
      (match pathSplit p with
       | none => failF .notFound
       | some (slash, rest) =>
         if slash ≠ [47] ∧ slash ≠ [92] then failF .noRootPath
         else (rest.map Sel.part).foldl (fun acc s => bindF acc fun cur => stepSel r cur s) (rootEntry r)) ∧
    ∀ d : Dir, d.find r p =
      ((dirPathParts p).map Sel.part).foldl (fun acc s => bindF acc fun cur => stepSel r cur s) (okF (.dir d)) := by
  refine ⟨?_, fun d => ?_⟩
  · unfold find
    cases pathSplit p with
    | none => rfl
    | some sp =>
      dsimp only
      split
      · rfl
      · show _ = walkSel r (rootEntry r) _
        rw [← bindF_okF (walkSel ..), walk_root]
        exact liftE_congr _ fun d => (findParts_eq_walkR r _ _).trans (bindF_okF _).symm
  · show findParts r _ _ = walkSel r (okF _) _
    rw [walkSel_okF, findParts_eq_walkR]

/-- The one-level step is the public one-level API: a path component is `get(Name::Str(part))` after
the UTF-8 check, `.name q` is `get(q)`, `.first` is `first()`; on a data entry every step is
`UnDataEntry`.  (`get` / `first` are `entries().find(..)` / `.next()` followed by `entry()`.) -/
theorem C12_step_is_get (r : Resources) (d : Dir) (de : DataEntry) (p : List Nat) (q : Name) :
    stepSel r (.dir d) (.part p) = (if utf8Chars p = none then failF .bad8Path else d.get r (.str p)) ∧
    stepSel r (.dir d) (.name q) = d.get r q ∧ stepSel r (.dir d) .first = d.first r ∧
    stepSel r (.data de) (.part p) = (if utf8Chars p = none then failF .bad8Path else failF .unDataEntry) ∧
    stepSel r (.data de) (.name q) = failF .unDataEntry ∧ stepSel r (.data de) .first = failF .unDataEntry := by
  have part : ∀ en, stepSel r en (.part p) =
      if utf8Chars p = none then failF .bad8Path else stepSel r en (.name (.str p)) := fun en => by
    rw [stepSel_part]
    cases utf8Chars p <;> cases en <;> rfl
  exact ⟨part _, rfl, rfl, part _, rfl, rfl⟩

/-- **Each step is "first match in stored order"** (cf. `C12_first_match`), in closed form: on a
4-aligned section and a directory the code handed out (`DirOK`, which `C12_walk_total` shows for every
directory met), a by-name step takes the first entry of THIS directory's table whose name can be read
and matches (`nameIs` ⇔ `entryMatches`: named entries compared as UTF-16, ids as numbers —
`C12_name_match`) and resolves it with `entry()`; `first` takes the first entry of the table. -/
theorem C12_step_first_match (r : Resources) (hb : Aligned r) (d : Dir) (hd : DirOK r d) (q : Name) :
    stepSel r (.dir d) (.name q) =
      (match (entriesFrom r (d.off + 16) (d.named + d.ids)).find? (nameIs r q) with
       | some e => liftE (e.entry r) okF
       | none => failF .notFound) ∧
    stepSel r (.dir d) .first =
      (match (entriesFrom r (d.off + 16) (d.named + d.ids)).head? with
       | some e => liftE (e.entry r) okF
       | none => failF .notFound) ∧
    (∀ e, nameIs r q e = true ↔ entryMatches r q e) :=
  ⟨lookup_of_entries hb (entries_eq hb hd) q, first_of_entries (entries_eq hb hd), fun e => nameIs_iff r q e⟩

/-- The same without the executable `find?`: a by-name step returns `en` iff the table splits as
`pre ++ e :: post` with `e` the first matching entry and `e.entry() = Ok(en)`; it fails with
`NotFound` iff no entry matches, and with `Pe(err)` iff `entry()` of the first match fails — which
can only be `Misaligned` or `Bounds` (`entry_err`). -/
theorem C12_step_exact (r : Resources) (hb : Aligned r) (d : Dir) (hd : DirOK r d) (q : Name) :
    (∀ en, stepSel r (.dir d) (.name q) = .ok (.ok en) ↔
      ∃ pre e post, entriesFrom r (d.off + 16) (d.named + d.ids) = pre ++ e :: post ∧ entryMatches r q e ∧
        (∀ x ∈ pre, ¬ entryMatches r q x) ∧ e.entry r = .ok en) ∧
    (∀ fe, stepSel r (.dir d) (.name q) = .ok (.error fe) ↔
      (fe = .notFound ∧ ∀ x ∈ entriesFrom r (d.off + 16) (d.named + d.ids), ¬ entryMatches r q x) ∨
      ∃ pre e post err, entriesFrom r (d.off + 16) (d.named + d.ids) = pre ++ e :: post ∧ entryMatches r q e ∧
        (∀ x ∈ pre, ¬ entryMatches r q x) ∧ e.entry r = .err err ∧ fe = .pe err ∧
        (err = .misaligned ∨ err = .bounds)) := by
  rw [show stepSel r (.dir d) (.name q) = _ from lookup_of_entries hb (entries_eq hb hd) q]
  refine ⟨fun en => ?_, fun fe => ?_⟩
  · simp only [resolve_eq_okok, find_nameIs_some]
    exact ⟨fun ⟨e, ⟨pre, post, h1, h2, h3⟩, h4⟩ => ⟨pre, e, post, h1, h2, h3, h4⟩,
      fun ⟨pre, e, post, h1, h2, h3, h4⟩ => ⟨e, ⟨pre, post, h1, h2, h3⟩, h4⟩⟩
  · simp only [resolve_eq_okerr, find_nameIs_some, find_nameIs_none]
    exact or_congr Iff.rfl
      ⟨fun ⟨e, err, ⟨pre, post, h1, h2, h3⟩, h4, h5⟩ => ⟨pre, e, post, err, h1, h2, h3, h4, h5, entry_err hb h4⟩,
       fun ⟨pre, e, post, err, h1, h2, h3, h4, h5, _⟩ => ⟨e, err, ⟨pre, post, h1, h2, h3⟩, h4, h5⟩⟩

/-- … and "matches" is a statement of the specification alone: `entryMatches r q e` (the predicate of
`C12_first_match` and `C12_step_exact`) holds iff the entry's Name field stores some name `nm` —
layout relation `NameAt`: an id with the high bit clear, or an even in-bounds offset of a
length-prefixed UTF-16 string — that matches `q` under the documented rule `nameMatch` (ids as
numbers, strings as `#<id>` / `#TYPE` / exact UTF-16 encoding).  An entry whose name cannot be read
(odd or dangling string offset) matches nothing and is skipped. -/
theorem C12_entry_matches_spec (r : Resources) (hb : Aligned r) (q : Name) (e : DirEntry) :
    entryMatches r q e ↔ ∃ nm : RName, NameAt r e.name nm ∧ nameMatch nm q = true := by
  rw [← nameIs_iff]
  constructor
  · intro h
    obtain ⟨n, h1, _⟩ := (nameIs_iff r q e).1 h
    obtain ⟨h3, _⟩ := getName_ok hb h1
    exact ⟨_, h3, by rw [← h3.nameIs hb]; exact h⟩
  · rintro ⟨nm, h1, h2⟩
    rw [h1.nameIs hb]; exact h2

/-! ## 2. The helpers are folds of the same step -/

/-- **Path locality of the helpers** — for arbitrary section bytes.  `find_resources`, `find_resource`,
`find_resource_ex`, `find_data`, `find_dir`, `manifest`, the lookup of `version_info` and
`version_info` itself, the group directory of `icons()` / `cursors()`, and `GroupResource::image` are
each the left fold of at most three one-level steps from the root followed by a conversion of the
entry reached (`asDir`, `asData`, `dataBytes` = `.data()?.bytes()?`, `utf8Bytes` = the same and
`str::from_utf8`).  (Not `rfl`: the code interleaves `dir()` / `data()` conversions, whose errors
coincide with those of the next step.) -/
theorem C12_helpers_path_local (r : Resources) (ty name lang : Name) (p : List Nat) (gty : Nat) (g : Group) (id t : Nat)
    (ht : g.typeId = .ok t) :
    findResources r ty name = bindF (walkSel r (rootEntry r) [.name ty, .name name]) asDir ∧
    findResource r ty name = bindF (walkSel r (rootEntry r) [.name ty, .name name, .first]) (dataBytes r) ∧
    findResourceEx r ty name lang = bindF (walkSel r (rootEntry r) [.name ty, .name name, .name lang]) (dataBytes r) ∧
    findData r p = bindF (find r p) asData ∧ findDir r p = bindF (find r p) asDir ∧
    manifest r = bindF (walkSel r (rootEntry r) [.name (.id 24), .first, .first]) (utf8Bytes r) ∧
    versionBytes r = bindF (walkSel r (rootEntry r) [.name (.id 16), .name (.id 1), .first]) (dataBytes r) ∧
    versionInfo r = bindF (walkSel r (rootEntry r) [.name (.id 16), .name (.id 1), .first]) (versionFin r) ∧
    (liftE (root r) fun d => d.getDir r (.id gty)) = bindF (walkSel r (rootEntry r) [.name (.id gty)]) asDir ∧
    g.image r id = bindF (walkSel r (rootEntry r) [.name (.id t), .name (.id id), .first]) (dataBytes r) := by
  -- both sides normalise (associativity of `?`, `asDir_name`, `asDir_first`) to the same chain of steps from `root()?`
  simp only [walk_root, findResources, findResource, findResourceEx, manifest, versionInfo, versionBytes, versionFin, utf8Bytes,
    dataBytes, Group.image, ht, Dir.getDir, Dir.getData, Dir.firstDir, Dir.firstData, walkR, bindF_assoc, bindF_liftE,
    bindF_okF_left, asDir_name, asDir_first]
  exact ⟨rfl, rfl, rfl, rfl, rfl, rfl, rfl, rfl, rfl, rfl⟩

/-- the hypothesis `g.typeId = .ok t` holds for every group `GroupResource::new` accepts (`C12_safe_groups`) -/
example : (⟨0, 1, 0⟩ : Group).typeId = .ok RT_ICON ∧ (⟨0, 2, 0⟩ : Group).typeId = .ok RT_CURSOR := ⟨rfl, rfl⟩

/-- what the conversions at the end of a lookup do with the entry reached -/
theorem C12_finishers (r : Resources) (d : Dir) (de : DataEntry) :
    asDir (.dir d) = okF d ∧ asDir (.data de) = failF .unDataEntry ∧
    asData (.data de) = okF de ∧ asData (.dir d) = failF .unDirectory ∧
    dataBytes r (.dir d) = failF .unDirectory ∧ dataBytes r (.data de) = liftE (de.bytes r) okF :=
  ⟨rfl, rfl, rfl, rfl, rfl, rfl⟩

/-! ## 3. Corollary: what a lookup returns on arbitrary bytes -/

/-- **A fold of steps returns the entry reached by following the selected children, or the error of
the first failing step.**  For arbitrary bytes, any selectors and any final conversion `fin`: the
answer is `Ok(a)` iff the root header is readable, the selectors can be followed from the root to
some entry `tgt`, and `fin tgt = Ok(a)`; it is `Err(e)` iff reading the root fails (`e = Pe(err)`), or
the first step that does not return an entry fails with `e`, or `fin` fails with `e` on the entry
reached.  (`LocalResult` spells exactly this out.) -/
theorem C12_lookup_local (r : Resources) (sels : List Sel) {α : Type} (fin : Entry → Out (FRes α)) (res : FRes α) :
    bindF (walkSel r (rootEntry r) sels) fin = .ok res ↔ LocalResult r sels fin res := by
  -- `root()?` split off, then `walkR_ok_iff` / `walkR_err_iff`; `or_comm`: `LocalResult` lists the unreadable root first
  rw [walk_root, liftE_eq_ok, or_comm]
  cases res with
  | ok a =>
    simp only [reduceCtorEq, and_false, exists_false, false_or, bindF_eq_okok, walkR_ok_iff]
    exact ⟨fun ⟨d0, h0, tgt, h1, h2⟩ => ⟨d0, tgt, h0, h1, h2⟩, fun ⟨d0, tgt, h0, h1, h2⟩ => ⟨d0, h0, tgt, h1, h2⟩⟩
  | error e => simp only [Except.error.injEq, bindF_eq_okerr, walkR_err_iff, walkR_ok_iff, LocalResult]

/-- `Follows` is: one step that returns an entry, then the rest; and the entry reached is unique -/
theorem C12_follows (r : Resources) (cur tgt : Entry) (s : Sel) (rest : List Sel) :
    (Follows r cur [] tgt ↔ tgt = cur) ∧
    (Follows r cur (s :: rest) tgt ↔ ∃ nxt, stepSel r cur s = .ok (.ok nxt) ∧ Follows r nxt rest tgt) ∧
    (∀ sels a b, Follows r cur sels a → Follows r cur sels b → a = b) :=
  ⟨follows_nil, follows_cons, fun _ _ _ ha hb => ha.unique hb⟩

/-- On a 4-aligned section (what `Pe::resources` hands out) every fold of steps from the root ends in
a Rust value, and every directory met on the way — the root, and whatever `entry()` returned —
satisfies the invariant `DirOK` that `C12_step_first_match` / `C12_step_exact` ask for. -/
theorem C12_walk_total (r : Resources) (hb : Aligned r) (sels : List Sel) :
    IsVal (walkSel r (rootEntry r) sels) ∧
    (∀ d0, root r = .ok d0 → DirOK r d0) ∧
    (∀ d0 d, root r = .ok d0 → Follows r (.dir d0) sels (.dir d) → DirOK r d) :=
  ⟨by rw [← bindF_okF (walkSel ..), walk_root]
      exact isVal_liftE (safe_root hb) fun d hd =>
        isVal_bindF (valP_walkR hb sels (.dir d) (root_ok hb hd)).1 fun _ _ => trivial,
   fun _ h => root_ok hb h,
   fun d0 _ h hf => (valP_walkR hb sels (.dir d0) (root_ok hb h)).2 _ ((walkR_ok_iff r sels _ _).2 hf)⟩

/-- **The corollary for `find`, `find_dir`, `find_data`**: on arbitrary bytes `find(path)` answers
`res` iff the path is empty and `res = Err(NotFound)`, or it does not start with `/` or `\` and
`res = Err(NoRootPath)`, or `res` is explained by the directories along the path (`LocalResult`: the
entry reached by following the first matching entry per component, or the error of the first
component that fails — `Bad8Path`, `NotFound`, `UnDataEntry`, `Pe(Misaligned | Bounds)`). -/
theorem C12_find_local (r : Resources) (p : List Nat) :
    (∀ res, find r p = .ok res ↔
      match pathSplit p with
      | none => res = .error .notFound
      | some (slash, rest) =>
        if slash ≠ [47] ∧ slash ≠ [92] then res = .error .noRootPath
        else LocalResult r (rest.map Sel.part) okF res) ∧
    (∀ res, findDir r p = .ok res ↔
      match pathSplit p with
      | none => res = .error .notFound
      | some (slash, rest) =>
        if slash ≠ [47] ∧ slash ≠ [92] then res = .error .noRootPath
        else LocalResult r (rest.map Sel.part) asDir res) ∧
    (∀ res, findData r p = .ok res ↔
      match pathSplit p with
      | none => res = .error .notFound
      | some (slash, rest) =>
        if slash ≠ [47] ∧ slash ≠ [92] then res = .error .noRootPath
        else LocalResult r (rest.map Sel.part) asData res) := by
  have key : ∀ {α : Type} (fin : Entry → Out (FRes α)) (res : FRes α), bindF (find r p) fin = .ok res ↔
      match pathSplit p with
      | none => res = .error .notFound
      | some (slash, rest) =>
        if slash ≠ [47] ∧ slash ≠ [92] then res = .error .noRootPath
        else LocalResult r (rest.map Sel.part) fin res := by
    intro α fin res
    rw [(C12_find_path_local r p).1]
    cases pathSplit p with
    | none =>
      show Out.ok (Except.error FindError.notFound) = Out.ok res ↔ res = .error .notFound
      constructor
      · intro h; cases h; rfl
      · intro h; rw [h]
    | some sp =>
      dsimp only
      by_cases hc : sp.1 ≠ [47] ∧ sp.1 ≠ [92]
      · rw [if_pos hc, if_pos hc]
        show Out.ok (Except.error FindError.noRootPath) = Out.ok res ↔ res = .error .noRootPath
        constructor
        · intro h; cases h; rfl
        · intro h; rw [h]
      · rw [if_neg hc, if_neg hc]
        exact C12_lookup_local r _ fin res
  refine ⟨fun res => ?_, fun res => key asDir res, fun res => key asData res⟩
  have := key okF res
  rw [bindF_okF] at this
  exact this

/-- **The corollary for `find_resource`, `find_resource_ex`, `find_resources`, `manifest`,
`version_info`, `GroupResource::image`**: on arbitrary bytes each answers `res` iff `res` is explained
by the (at most three) directories along its path. -/
theorem C12_helpers_local (r : Resources) (ty name lang : Name) (g : Group) (id t : Nat) (ht : g.typeId = .ok t) :
    (∀ res, findResources r ty name = .ok res ↔ LocalResult r [.name ty, .name name] asDir res) ∧
    (∀ res, findResource r ty name = .ok res ↔ LocalResult r [.name ty, .name name, .first] (dataBytes r) res) ∧
    (∀ res, findResourceEx r ty name lang = .ok res ↔ LocalResult r [.name ty, .name name, .name lang] (dataBytes r) res) ∧
    (∀ res, manifest r = .ok res ↔ LocalResult r [.name (.id 24), .first, .first] (utf8Bytes r) res) ∧
    (∀ res, versionBytes r = .ok res ↔ LocalResult r [.name (.id 16), .name (.id 1), .first] (dataBytes r) res) ∧
    (∀ res, versionInfo r = .ok res ↔ LocalResult r [.name (.id 16), .name (.id 1), .first] (versionFin r) res) ∧
    (∀ res, g.image r id = .ok res ↔ LocalResult r [.name (.id t), .name (.id id), .first] (dataBytes r) res) := by
  obtain ⟨h1, h2, h3, _, _, h6, h7, h8, _, h10⟩ := C12_helpers_path_local r ty name lang [] 0 g id t ht
  rw [h1, h2, h3, h6, h7, h8, h10]
  exact ⟨C12_lookup_local r _ _, C12_lookup_local r _ _, C12_lookup_local r _ _, C12_lookup_local r _ _,
    C12_lookup_local r _ _, C12_lookup_local r _ _, C12_lookup_local r _ _⟩

/-! ## 4. `IsTree` of the whole section is NOT needed for lookups: a witness -/

/-- A 132-byte section.  Root (offset 0): `#3 → T` (offset 32), `#9 → B` (offset 80).  `T`: `#1 → N`
(offset 56).  `N`: `#1033 →` a data entry (offset 112) for the 4 bytes at 128.  `B` is off every path
through `T` and is broken twice: its entry `#1` points back at `B` itself (a cycle) and its entry `#2`
at offset 0x1000, far outside the section (a dangling reference). -/
def cycSection : Resources :=
  ⟨#[0,0,0,0, 0,0,0,0, 0,0,0,0, 0,0,2,0,   3,0,0,0, 32,0,0,0x80,   9,0,0,0, 80,0,0,0x80,
     0,0,0,0, 0,0,0,0, 0,0,0,0, 0,0,1,0,   1,0,0,0, 56,0,0,0x80,
     0,0,0,0, 0,0,0,0, 0,0,0,0, 0,0,1,0,   9,4,0,0, 112,0,0,0,
     0,0,0,0, 0,0,0,0, 0,0,0,0, 0,0,2,0,   1,0,0,0, 80,0,0,0x80,   2,0,0,0, 0,0x10,0,0x80,
     128,0,0,0, 4,0,0,0, 0,0,0,0, 0,0,0,0,
     0xDE,0xAD,0xBE,0xEF], 0, 0⟩

/-- **Lookups succeed where no tree exists.**  `cycSection` represents no tree at all (a directory
contains itself), `fsck` rejects it, and lookups into the broken directory report its defects (the
cycle can be walked round and round, the dangling entry is `Bounds`) — yet every lookup whose path
avoids `B` gives the right answer: `find`, `find_data`, `find_dir`, `find_resource`,
`find_resource_ex` return the directories, the data entry and its 4 bytes.  So the hypothesis
`IsTree r t` of `C12_find_on_tree` / `C12_helpers_on_tree` is sufficient, not necessary;
`C12_find_local` / `C12_helpers_local` are the statements that apply to such sections. -/
theorem C12_lookup_off_cycle :
    (¬ ∃ t, IsTree cycSection t) ∧ fsck cycSection = .err .insanity ∧ Aligned cycSection ∧
    find cycSection (asc "/#3/#1/#1033") = .ok (.ok (.data ⟨112, 128, 4, 0⟩)) ∧
    findData cycSection (asc "/#ICON/#1/#1033") = .ok (.ok ⟨112, 128, 4, 0⟩) ∧
    findDir cycSection (asc "/#3/#1") = .ok (.ok ⟨56, 0, 1⟩) ∧
    findResource cycSection (.id 3) (.id 1) = .ok (.ok ⟨128, 4, 1⟩) ∧
    findResourceEx cycSection (.id 3) (.id 1) (.id 1033) = .ok (.ok ⟨128, 4, 1⟩) ∧
    bytesAt cycSection.sec 128 4 = [0xDE, 0xAD, 0xBE, 0xEF] ∧
    find cycSection (asc "/#9/#1/#1/#1") = .ok (.ok (.dir ⟨80, 0, 2⟩)) ∧
    find cycSection (asc "/#9/#2") = .ok (.error (.pe .bounds)) := by
  refine ⟨?_, by decide +kernel⟩
  -- the two references that close the cycle: root entry 1 designates `B`, and so does entry 0 of `B`
  have ⟨a1, a2, b1, b2⟩ :
      1 < le16 cycSection.sec (0 + 12) + le16 cycSection.sec (0 + 14) ∧
        le32 cycSection.sec (0 + 16 + 8 * 1 + 4) = 0x80000000 + 80 ∧
      0 < le16 cycSection.sec (80 + 12) + le16 cycSection.sec (80 + 14) ∧
        le32 cycSection.sec (80 + 16 + 8 * 0 + 4) = 0x80000000 + 80 := by decide +kernel
  rintro ⟨t, hdir, hnode⟩
  cases t with
  | data c cp => cases hdir
  | dir m es =>
    have h1 : Reach cycSection 0 1 80 := .step (.refl 0) ⟨1, a1, by decide, a2⟩
    have h2 : Reach cycSection 80 (0 + 1) 80 := .step (.refl 80) ⟨0, b1, by decide, b2⟩
    obtain ⟨m', es', h3, _⟩ := reach_isNode h1 hnode
    exact no_self_reach h2 h3

/-- the same lookup, read through `C12_find_local`: the data entry is reached by following `#3`, `#1`, `#1033` -/
theorem cycSection_follows :
    Follows cycSection (.dir ⟨0, 0, 2⟩) [.part (asc "#3"), .part (asc "#1"), .part (asc "#1033")]
      (.data ⟨112, 128, 4, 0⟩) := by
  have h := ((C12_find_local cycSection (asc "/#3/#1/#1033")).1 _).1 C12_lookup_off_cycle.2.2.2.1
  rw [show pathSplit (asc "/#3/#1/#1033") = some ([47], [asc "#3", asc "#1", asc "#1033"]) by decide +kernel] at h
  dsimp only at h
  rw [if_neg (by decide)] at h
  obtain ⟨d0, tgt, hr, hf, ht⟩ := h
  rw [show root cycSection = .ok ⟨0, 0, 2⟩ by decide +kernel] at hr
  cases hr
  cases ht
  exact hf

example : Follows cycSection (.dir ⟨0, 0, 2⟩) [.part (asc "#3"), .part (asc "#1"), .part (asc "#1033")]
    (.data ⟨112, 128, 4, 0⟩) := cycSection_follows

/-- hypotheses of `C12_step_first_match` / `C12_step_exact` on that section -/
example : Aligned cycSection ∧ DirOK cycSection ⟨80, 0, 2⟩ ∧ root cycSection = .ok ⟨0, 0, 2⟩ := by decide +kernel

/-! ## 5. Group resources on any tree -/

/-- **`icons()` / `cursors()` on a section that represents ANY tree `t`** (`ty = RT_GROUP_ICON = 14` /
`RT_GROUP_CURSOR = 12`): the iterator yields exactly one item per entry of `t.groups ty` — the entries
of that type's directory in stored order, none when there is no such directory — and item by item
(`ItemsRel` / `ItemRel`): where the tree has no first-language data below the entry, that error
(`UnDataEntry`, `NotFound`, `UnDirectory`); otherwise `Misaligned` if the data lie at an odd address
(a property of the layout), else the format error of `parseGroup` on the data (`Bounds`, `BadMagic`),
else `Ok((name, group))` with the entry's name and a group object that stands for the parsed
GRPICONDIR (`GroupRep`: type, count, and per entry `dwBytesInRes` / `nId`). -/
theorem C12_groups_on_tree (r : Resources) (hb : Aligned r) (t : Node) (h : IsTree r t) (ty : Nat) :
    ∃ items, groups r ty = .ok items ∧ ItemsRel r items (t.groups ty) ∧
      (icons r = groups r RT_GROUP_ICON ∧ cursors r = groups r RT_GROUP_CURSOR) := by
  obtain ⟨d, hr, hrep⟩ := root_rep hb h
  obtain ⟨items, h1, h2, _⟩ := groups_rep (repLike_rep hb) hb hr hrep ty
  exact ⟨items, h1, h2, rfl, rfl⟩

/-- `ItemsRel` is the item-by-item relation on lists of equal length -/
theorem C12_itemsRel (r : Resources) (items : List (FRes (Name × Group))) (specs : List (RName × FRes (List UInt8))) :
    ItemsRel r items specs ↔
      items.length = specs.length ∧ ∀ i (h1 : i < items.length) (h2 : i < specs.length), ItemRel r items[i] specs[i] := by
  induction items generalizing specs with
  | nil =>
    cases specs with
    | nil => simp [ItemsRel]
    | cons s specs => simp [ItemsRel]
  | cons it items ih =>
    cases specs with
    | nil => simp [ItemsRel]
    | cons s specs =>
      simp only [ItemsRel, ih, List.length_cons, Nat.add_right_cancel_iff]
      constructor
      · rintro ⟨h0, hl, hi⟩
        refine ⟨hl, fun i h1 h2 => ?_⟩
        cases i with
        | zero => exact h0
        | succ i => exact hi i (by omega) (by omega)
      · rintro ⟨hl, hi⟩
        exact ⟨hi 0 (by omega) (by omega), hl, fun i h1 h2 => hi (i + 1) (by omega) (by omega)⟩

/-- **The lookups of a group** that stands for the parsed GRPICONDIR `G` (as every group yielded on a
tree does, `C12_groups_on_tree`): `entries()` are `G`'s entries in stored order; `image(id)` is — for
arbitrary bytes — `find_resource(&[RT_ICON | RT_CURSOR, id])`, i.e. the path-local fold
`/<RT_ICON or RT_CURSOR>/<id>/<first language>` of section 2; and on a section that represents `t` it
returns the bytes of the data entry the specification finds there (`t.groupImage G id`). -/
theorem C12_group_lookups (r : Resources) (hb : Aligned r) (g : Group) (G : GroupSpec) (hg : GroupRep r g G) :
    (∃ es, g.entries r = .ok es ∧ es.map (fun e => (e.bytesInRes, e.nId)) = G.entries) ∧
    (∀ id, g.image r id = findResource r (.id G.imageType) (.id id) ∧
      g.image r id = bindF (walkSel r (rootEntry r) [.name (.id G.imageType), .name (.id id), .first]) (dataBytes r)) ∧
    (G.imageType = RT_ICON ∨ G.imageType = RT_CURSOR) ∧
    (∀ t, IsTree r t → ∀ id, FRelG (RepBytes r) (g.image r id) (t.groupImage G id)) := by
  refine ⟨⟨_, groupEntries_eq hg.1, hg.2.2.2⟩, fun id => ⟨image_eq hg id, ?_⟩, ?_, fun t ht id => image_rep hb ht hg id⟩
  · rw [image_eq hg id]
    exact findResource_eq_walk r _ _
  · unfold GroupSpec.imageType
    by_cases h : G.kind = 1
    · rw [if_pos h]; exact Or.inl rfl
    · rw [if_neg h]; exact Or.inr rfl

/-- `parseGroup` on the group data a resource compiler writes for an `.ico` / `.cur` file
(`groupBlob`, Spec): type, count, and per image its size and consecutive ids — here for the sample
two-image icon of Thm/C12.lean. -/
example : parseGroup (groupBlob 1 sampleIco) = .ok ⟨1, [(5, 1), (0, 2)]⟩ := by decide +kernel

/-- a tree whose `RT_GROUP_ICON` directory is NOT of the `icoToTree` shape: a well-formed group with
two languages (the first one counts), a data entry where a directory is expected, an empty name
directory, a group with a bad type word, a truncated group, and a named group -/
def groupsTree : Node :=
  .dir 0 (.ofList [
    (.id 3, .dir 0 (.ofList [(.id 7, .dir 0 (.ofList [(.id 0, .data [9, 9, 9] 0)]))])),
    (.id 14, .dir 1 (.ofList [
      (.wide [0x41], .dir 0 (.ofList [(.id 1033, .data [0,0, 1,0, 0,0] 0)])),
      (.id 1, .dir 0 (.ofList [(.id 1031, .data [0,0, 1,0, 1,0,  16,16,0,0, 1,0, 32,0, 3,0,0,0, 7,0] 0),
                               (.id 1033, .data [1, 2, 3] 0)])),
      (.id 2, .data [0,0, 1,0, 0,0] 0),
      (.id 3, .dir 0 .nil),
      (.id 4, .dir 0 (.ofList [(.id 0, .data [0,0, 3,0, 0,0] 0)])),
      (.id 5, .dir 0 (.ofList [(.id 0, .data [0,0, 1,0, 1,0] 0)]))]))])

example : Encodable 0 groupsTree := by decide

theorem groupsTree_groups : groupsTree.groups 14 =
    [(.wide [0x41], .ok [0,0, 1,0, 0,0]),
     (.id 1, .ok [0,0, 1,0, 1,0,  16,16,0,0, 1,0, 32,0, 3,0,0,0, 7,0]),
     (.id 2, .error .unDataEntry), (.id 3, .error .notFound),
     (.id 4, .ok [0,0, 3,0, 0,0]), (.id 5, .ok [0,0, 1,0, 1,0])] := by decide +kernel

example : groupsTree.groups 14 =
    [(.wide [0x41], .ok [0,0, 1,0, 0,0]),
     (.id 1, .ok [0,0, 1,0, 1,0,  16,16,0,0, 1,0, 32,0, 3,0,0,0, 7,0]),
     (.id 2, .error .unDataEntry), (.id 3, .error .notFound),
     (.id 4, .ok [0,0, 3,0, 0,0]), (.id 5, .ok [0,0, 1,0, 1,0])] ∧
    groupsTree.groups 12 = [] := ⟨groupsTree_groups, by decide +kernel⟩

example : parseGroup [0,0, 1,0, 1,0,  16,16,0,0, 1,0, 32,0, 3,0,0,0, 7,0] = .ok ⟨1, [(3, 7)]⟩ ∧
    parseGroup [0,0, 3,0, 0,0] = .error .badMagic ∧ parseGroup [0,0, 1,0, 1,0] = .error .bounds := by decide +kernel

/-- … and what the code yields on the section the reference writer makes of it (as
`C12_groups_on_tree` predicts): the hypotheses `Aligned`, `IsTree` are satisfiable, and so is `GroupRep`
(`groupsTree_group`) -/
example : Aligned (resourcesOf 0 groupsTree) ∧ IsTree (resourcesOf 0 groupsTree) groupsTree :=
  ⟨aligned_resourcesOf 0 _, isTree_resourcesOf (by decide)⟩

theorem groupsTree_group : GroupRep (resourcesOf 0 groupsTree) ⟨264, 1, 1⟩ ⟨1, [(3, 7)]⟩ := by
  unfold GroupRep
  decide +kernel

example : ∃ gA g1, icons (resourcesOf 0 groupsTree) =
    .ok [.ok (.wide [0x41], gA), .ok (.id 1, g1), .error .unDataEntry, .error .notFound,
         .error (.pe .badMagic), .error (.pe .bounds)] ∧
    GroupRep (resourcesOf 0 groupsTree) g1 ⟨1, [(3, 7)]⟩ ∧
    g1.image (resourcesOf 0 groupsTree) 7 = findResource (resourcesOf 0 groupsTree) (.id 3) (.id 7) := by
  -- the writer's layout is canonical, so `groups_canon` applies and running `icons` on the section is not needed
  have henc : Encodable 0 groupsTree := by decide
  obtain ⟨items, h1, h2, h3⟩ := groups_canon (aligned_resourcesOf 0 groupsTree) (isTree_resourcesOf henc)
    (canon_resourcesOf henc) 14
  rw [groupsTree_groups] at h2
  -- with the concrete section in the hypotheses, taking `ItemsRel` apart makes the elaborator evaluate it
  generalize resourcesOf 0 groupsTree = r at h1 h2 ⊢
  obtain ⟨iA, items, rfl, a, h2⟩ := h2.cons_inv
  obtain ⟨i1, items, rfl, b, h2⟩ := h2.cons_inv
  obtain ⟨i2, items, rfl, c, h2⟩ := h2.cons_inv
  obtain ⟨i3, items, rfl, d, h2⟩ := h2.cons_inv
  obtain ⟨i4, items, rfl, e, h2⟩ := h2.cons_inv
  obtain ⟨i5, items, rfl, f, h2⟩ := h2.cons_inv
  cases h2.nil_inv
  have hm : ∀ it ∈ [iA, i1, i2, i3, i4, i5], it ≠ .error (.pe .misaligned) := fun it hi h => h3 (h ▸ hi)
  have a' := a.aligned (hm _ (by simp))
  have b' := b.aligned (hm _ (by simp))
  have e' := e.aligned (hm _ (by simp))
  have f' := f.aligned (hm _ (by simp))
  rw [show parseGroup _ = .ok ⟨1, []⟩ by decide +kernel] at a'
  rw [show parseGroup _ = .ok ⟨1, [(3, 7)]⟩ by decide +kernel] at b'
  rw [show parseGroup _ = .error .badMagic by decide +kernel] at e'
  rw [show parseGroup _ = .error .bounds by decide +kernel] at f'
  obtain ⟨gA, rfl, _⟩ := a'
  obtain ⟨g1, rfl, hg, _⟩ := b'
  cases (show i2 = _ from c)
  cases (show i3 = _ from d)
  cases e'
  cases f'
  exact ⟨gA, g1, h1, hg, image_eq hg 7⟩

end Pelite.Resources
