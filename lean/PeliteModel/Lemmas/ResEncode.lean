import PeliteModel.Lemmas.ResRep
/-!
C12: the reference writer produces a section that represents the tree in the canonical layout (`enc_node`), by reading
the written bytes back chunk by chunk; sizes of written trees.
-/
namespace Pelite.Resources
open Pelite

theorem pad4_ge (n : Nat) : n ≤ pad4 n := by unfold pad4; omega
theorem pad4_lt (n : Nat) : pad4 n < n + 4 := by unfold pad4; omega
theorem pad4_mod (n : Nat) : pad4 n % 4 = 0 := by unfold pad4; omega

theorem zeros_length (n : Nat) : (zeros n).length = n := by simp [zeros]

theorem rname_size_mod (nm : RName) : nm.size % 4 = 0 := by
  cases nm with
  | id n => rfl
  | wide ws => exact pad4_mod _

theorem encName_length (nm : RName) : (encName nm).length = nm.size := by
  cases nm with
  | id n => rfl
  | wide ws =>
    simp only [encName, RName.size, List.length_append, le16b_length, encWords_length, zeros_length]
    have := pad4_ge (2 + 2 * ws.length)
    omega

theorem encTable_length : ∀ (es : Entries) (o : Nat), (encTable o es).length = 8 * es.length
  | .nil, _ => rfl
  | .cons nm ch rest, o => by
    simp only [encTable, List.length_append, le32b_length, Entries.length, encTable_length rest]
    omega

mutual
theorem encNode_length (dirVA : Nat) : ∀ (t : Node) (base : Nat), (encNode dirVA base t).length = t.size
  | .data c cp, base => by
    simp only [encNode, Node.size, List.length_append, le32b_length, zeros_length]
    have := pad4_ge c.length
    omega
  | .dir n es, base => by
    simp only [encNode, Node.size, List.length_append, le32b_length, le16b_length, encTable_length,
      encBlobs_length dirVA es]
theorem encBlobs_length (dirVA : Nat) : ∀ (es : Entries) (o : Nat), (encBlobs dirVA o es).length = es.blobSize
  | .nil, _ => rfl
  | .cons nm ch rest, o => by
    simp only [encBlobs, Entries.blobSize, List.length_append, encName_length, encNode_length dirVA ch,
      encBlobs_length dirVA rest]
end

mutual
theorem node_size_mod : ∀ (t : Node), t.size % 4 = 0
  | .data c cp => by simp only [Node.size]; have := pad4_mod c.length; omega
  | .dir n es => by simp only [Node.size]; have := blobSize_mod es; omega
theorem blobSize_mod : ∀ (es : Entries), es.blobSize % 4 = 0
  | .nil => rfl
  | .cons nm ch rest => by
    simp only [Entries.blobSize]
    have := rname_size_mod nm; have := node_size_mod ch; have := blobSize_mod rest
    omega
end

/-! ### reading the written bytes back -/

theorem nameAt_enc {r : Resources} {nm : RName} {tpos o : Nat}
    (ht : Window r.sec tpos (le32b (nameField nm o))) (hs : Window r.sec o (encName nm)) (hin : o + nm.size ≤ r.sec.size)
    (hwf : nm.WF) (ho : o % 4 = 0) (hlt : o < 0x80000000) : NameAt r (le32 r.sec tpos) nm := by
  cases nm with
  | id n => rw [ht.le32 (by simp only [nameField, RName.WF] at hwf ⊢; omega)]; exact ⟨rfl, hwf⟩
  | wide ws =>
    obtain ⟨hlen, hws⟩ := hwf
    simp only [encName, Window.append, le16b_length] at hs
    have hp := pad4_ge (2 + 2 * ws.length)
    simp only [RName.size] at hin
    simp only [nameField] at ht
    rw [ht.le32 (by omega)]
    unfold NameAt
    dsimp only
    rw [show (0x80000000 + o) % 0x80000000 = o by omega, hs.1.1.le16 hlen, hs.1.2.words hws]
    exact ⟨by omega, by omega, by omega, rfl, rfl⟩

theorem offsetField_read {b : Bytes} {tpos o : Nat} {ch : Node} (h : Window b tpos (le32b (offsetField ch o)))
    (ho : o < 0x80000000) : (0x80000000 ≤ le32 b tpos ↔ ch.isDir = true) ∧ le32 b tpos % 0x80000000 = o := by
  unfold offsetField at h
  cases hd : ch.isDir <;> rw [hd] at h
  · rw [h.le32 (by simp only [Bool.false_eq_true, if_false]; omega)]
    simp only [Bool.false_eq_true, if_false, iff_false]; omega
  · rw [h.le32 (by simp only [if_true]; omega)]
    simp only [if_true, iff_true]; omega

theorem node_size_ge (t : Node) : 16 ≤ t.size := by cases t <;> simp only [Node.size] <;> omega

/- One induction for both facts, since both follow the same chunks; the section is arbitrary outside the
chunk.  `lim` bounds every offset used: inside the section, below 2^31, RVAs below 2^32. -/
mutual
theorem enc_node (r : Resources) (lim : Nat) (l1 : lim ≤ r.sec.size) (l2 : lim ≤ 0x80000000)
    (l3 : r.dirVA + lim < 4294967296) : ∀ (t : Node) (base : Nat),
    Window r.sec base (encNode r.dirVA base t) → base % 4 = 0 → base + t.size ≤ lim →
    Canon r base t ∧ (t.WF → IsNode r base t)
  | .data c cp, base, h, hal, hle => by
    simp only [encNode, Window.append, List.length_append, le32b_length, and_assoc] at h
    obtain ⟨f0, f1, f2, -, f4, -⟩ := h
    simp only [Node.size] at hle
    have hp := pad4_ge c.length
    have e0 := f0.le32 (by omega)
    refine ⟨⟨e0, hal⟩, fun hwf => ?_⟩
    unfold IsNode
    rw [e0, f1.le32 hwf.1, f2.le32 hwf.2, show r.dirVA + base + 16 - r.dirVA = base + 4 + 4 + 4 + 4 by omega]
    exact ⟨hal, by omega, by omega, by omega, by omega, f4.symm, rfl⟩
  | .dir n es, base, h, hal, hle => by
    simp only [encNode, Window.append, List.length_append, le32b_length, le16b_length, encTable_length, and_assoc] at h
    obtain ⟨-, -, -, -, f4, f5, htab, hblob⟩ := h
    simp only [Node.size] at hle
    rw [show base + (4 + 4 + 2 + 2 + 2 + 2 + 8 * es.length) = base + 16 + 8 * es.length by omega] at hblob
    have he := enc_entries r lim l1 l2 l3 es (base + 16) (base + 16 + 8 * es.length) htab hblob (by omega) (by omega)
    refine ⟨he.1, fun hwf => ?_⟩
    unfold IsNode
    rw [f4.le16 hwf.2.1, f5.le16 hwf.2.2.1]
    exact ⟨hal, by omega, rfl, by have := hwf.1; omega, he.2 hwf.2.2.2⟩
theorem enc_entries (r : Resources) (lim : Nat) (l1 : lim ≤ r.sec.size) (l2 : lim ≤ 0x80000000)
    (l3 : r.dirVA + lim < 4294967296) : ∀ (es : Entries) (tpos o : Nat),
    Window r.sec tpos (encTable o es) → Window r.sec o (encBlobs r.dirVA o es) → o % 4 = 0 → o + es.blobSize ≤ lim →
    CanonEntries r tpos es ∧ (es.WF → IsEntries r tpos es)
  | .nil, _, _, _, _, _, _ => ⟨trivial, fun _ => trivial⟩
  | .cons nm ch rest, tpos, o, ht, hbl, hal, hle => by
    simp only [encTable, Window.append, List.length_append, le32b_length, and_assoc] at ht
    simp only [encBlobs, Window.append, List.length_append, encName_length, encNode_length, and_assoc] at hbl
    obtain ⟨t0, t1, t2⟩ := ht
    obtain ⟨b0, b1, b2⟩ := hbl
    simp only [Entries.blobSize] at hle
    have hnmod := rname_size_mod nm
    have hcmod := node_size_mod ch
    have hcsz := node_size_ge ch
    obtain ⟨hkind, hoff⟩ := offsetField_read t1 (show o + nm.size < 0x80000000 by omega)
    have hch := enc_node r lim l1 l2 l3 ch (o + nm.size) b1 (by omega) (by omega)
    rw [show o + (nm.size + ch.size) = o + nm.size + ch.size by omega] at b2
    have hrest := enc_entries r lim l1 l2 l3 rest (tpos + 8) (o + nm.size + ch.size) t2 b2 (by omega) (by omega)
    unfold CanonEntries IsEntries
    rw [hoff]
    exact ⟨⟨hch.1, hrest.1⟩, fun hwf =>
      ⟨nameAt_enc t0 b0 (by omega) hwf.1 hal (by omega), hkind, hch.2 hwf.2.1, hrest.2 hwf.2.2⟩⟩
end

theorem ReadAt.lim {l : List UInt8} {off n : Nat} {c : List UInt8} (h : ReadAt l off c) (hn : c.length = n) (dirVA b : Nat) :
    off + n ≤ (⟨l.toArray, dirVA, b⟩ : Resources).sec.size := by
  have := h.bound
  simp only [List.size_toArray]; omega

theorem isEntries_enc (sec : List UInt8) (dirVA b : Nat) : ∀ (es : Entries) (tpos o : Nat),
    ReadAt sec tpos (encTable o es) → ReadAt sec o (encBlobs dirVA o es) → es.WF → o % 4 = 0 →
    o + es.blobSize ≤ 0x80000000 → dirVA + o + es.blobSize < 4294967296 →
    IsEntries ⟨sec.toArray, dirVA, b⟩ tpos es
  | es, tpos, o, ht, hbl, hwf, hal, hsz, hva =>
    (enc_entries ⟨sec.toArray, dirVA, b⟩ _ (hbl.lim (encBlobs_length ..) dirVA b) hsz (by rw [← Nat.add_assoc]; exact hva) es tpos o ht.window hbl.window hal
      (Nat.le_refl _)).2 hwf

theorem canonEntries_enc (sec : List UInt8) (dirVA b : Nat) : ∀ (es : Entries) (tpos o : Nat),
    ReadAt sec tpos (encTable o es) → ReadAt sec o (encBlobs dirVA o es) → o % 4 = 0 →
    o + es.blobSize ≤ 0x80000000 → dirVA + o + es.blobSize < 4294967296 →
    CanonEntries ⟨sec.toArray, dirVA, b⟩ tpos es
  | es, tpos, o, ht, hbl, hal, hsz, hva =>
    (enc_entries ⟨sec.toArray, dirVA, b⟩ _ (hbl.lim (encBlobs_length ..) dirVA b) hsz (by rw [← Nat.add_assoc]; exact hva) es tpos o ht.window hbl.window hal
      (Nat.le_refl _)).1

theorem resourcesOf_size (dirVA : Nat) (t : Node) : (resourcesOf dirVA t).sec.size = t.size := by
  show (encodeTree dirVA t).toArray.size = t.size
  rw [List.size_toArray]
  exact encNode_length dirVA t 0

theorem enc_resourcesOf {dirVA : Nat} {t : Node} (h : Encodable dirVA t) :
    Canon (resourcesOf dirVA t) 0 t ∧ IsNode (resourcesOf dirVA t) 0 t := by
  obtain ⟨_, hwf, h1, h2⟩ := h
  have := enc_node (resourcesOf dirVA t) t.size (by rw [resourcesOf_size]; exact Nat.le_refl _) (by omega) h2 t 0
    (ReadAt.whole _).window rfl (by omega)
  exact ⟨this.1, this.2 hwf⟩

theorem isTree_resourcesOf {dirVA : Nat} {t : Node} (h : Encodable dirVA t) : IsTree (resourcesOf dirVA t) t :=
  ⟨h.1, (enc_resourcesOf h).2⟩

theorem canon_resourcesOf {dirVA : Nat} {t : Node} (h : Encodable dirVA t) : Canon (resourcesOf dirVA t) 0 t :=
  (enc_resourcesOf h).1

theorem aligned_resourcesOf (dirVA : Nat) (t : Node) : Aligned (resourcesOf dirVA t) := rfl

mutual
theorem dirCount_le_size : ∀ (t : Node), 16 * t.dirCount ≤ t.size
  | .data c cp => by simp [Node.dirCount]
  | .dir n es => by
    simp only [Node.dirCount, Node.size]
    have := dirCount_le_blobSize es
    omega
theorem dirCount_le_blobSize : ∀ (es : Entries), 16 * es.dirCount ≤ es.blobSize
  | .nil => by simp [Entries.dirCount]
  | .cons nm ch rest => by
    simp only [Entries.dirCount, Entries.blobSize]
    have := dirCount_le_size ch
    have := dirCount_le_blobSize rest
    omega
end

/-- a chain of `n` nested directories above one data entry -/
def chain : Nat → Node
  | 0 => .data [1] 0
  | n+1 => .dir 0 (.cons (.id (n + 1)) (chain n) .nil)

theorem chain_measures (n : Nat) : (chain n).depth = n ∧ (chain n).dirCount = n ∧ (chain n).size = 20 + 24 * n := by
  induction n with
  | zero => exact ⟨rfl, rfl, rfl⟩
  | succ n ih =>
    obtain ⟨h1, h2, h3⟩ := ih
    simp only [chain, Node.depth, Entries.depth, Node.dirCount, Entries.dirCount, Node.size, Entries.blobSize,
      Entries.length, RName.size, h1, h2, h3]
    exact ⟨by omega, trivial, by omega⟩

theorem chain_encodable {n : Nat} (h0 : 0 < n) (hn : n < 0x4000000) : Encodable 0 (chain n) := by
  have wf : ∀ m, m < 0x4000000 → (chain m).WF := by
    intro m
    induction m with
    | zero => intro _; simp [chain, Node.WF]
    | succ m ih => intro hm; simp [chain, Node.WF, Entries.WF, RName.WF, Entries.length, ih (by omega)]; omega
  have hs := (chain_measures n).2.2
  refine ⟨?_, wf n hn, by omega, by omega⟩
  cases n with
  | zero => omega
  | succ n => rfl

end Pelite.Resources
