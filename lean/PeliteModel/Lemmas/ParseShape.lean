import PeliteModel.Lemmas.Pattern
import PeliteModel.Spec.Scan
/-!
A second loop invariant of `parse_helper`: which atom constructors it can emit (never `Fuzzy`, `Back`, `Pir`, `VTypeName`,
`Check`: by enumeration of every `result.push(..)`, `result[i] = ..`, `mem::replace(last, ..)` of the loop), and that slot 0
is written by the leading `Save(0)` only (`save` starts at 1, is only incremented, and is reset at `|` / `)` to values
that were themselves `≥ 1`).
-/
namespace Pelite.Pattern

/-- split every `if` / `match` of a hypothesis, looking through the `let`s in between -/
local macro "splits_at " h:ident : tactic =>
  `(tactic| repeat' (first | split at $h:ident | dsimp only at $h:ident))

def emitted : Atom → Bool
  | .fuzzy _ | .back _ | .pir _ | .vTypeName | .check _ => false
  | _ => true

def ShapeAt (i : Nat) (a : Atom) : Prop :=
  emitted a = true ∧ ∀ k, slotOf a = some k → 0 < i → 0 < k

def AShape (r : Array Atom) : Prop := ∀ (i : Nat) a, r[i]? = some a → ShapeAt i a

theorem AShape.push {r : Array Atom} {a : Atom} (h : AShape r) (he : emitted a = true)
    (hs : ∀ k, slotOf a = some k → 0 < k) : AShape (r.push a) := by
  intro i a' hi
  rcases get_push_inv hi with hi | ⟨_, rfl⟩
  · exact h i a' hi
  · exact ⟨he, fun k hk _ => hs k hk⟩

theorem AShape.set {r : Array Atom} {a : Atom} (j : Nat) (h : AShape r) (he : emitted a = true)
    (hs : slotOf a = none) : AShape (r.setIfInBounds j a) := by
  intro i a' hi
  rcases get_set_inv hi with ⟨_, hi⟩ | ⟨_, rfl⟩
  · exact h i a' hi
  · exact ⟨he, fun k hk => by rw [hs] at hk; cases hk⟩

structure Shape (st : PSt) : Prop where
  atoms : AShape st.result
  save_pos : 0 < st.save
  subs_pos : ∀ s ∈ st.subs, 0 < s.save

theorem initSt_shape : Shape initSt := by
  refine ⟨fun i a hi => ?_, by decide, nofun⟩
  cases i with
  | zero => cases hi; exact ⟨rfl, fun _ _ h => absurd h (Nat.lt_irrefl 0)⟩
  | succ i => cases hi

theorem fillBrks_shape {r r' : Array Atom} {brks : List Nat} (h : fillBrks r brks = .ok r') (hr : AShape r) :
    AShape r' := by
  fun_induction fillBrks r brks
  case case1 => cases h; exact hr
  case case5 ih => exact ih h (hr.set _ rfl rfl)
  all_goals cases h

theorem emitted_of_passive : ∀ {a}, passive a = true → emitted a = true ∧ slotOf a = none
  | .jump1, _ | .jump4, _ | .ptr, _ | .byte _, _ | .skip _, _ | .rangext _, _ | .many _, _ | .aligned _, _ => ⟨rfl, rfl⟩

theorem Grows.ashape {r r' : Array Atom} (hg : Grows r r') (h : AShape r) : AShape r' := by
  induction hg with
  | refl => exact h
  | push _ ha ih => exact ih.push (emitted_of_passive ha).1 (fun k hk => by rw [(emitted_of_passive ha).2] at hk; cases hk)

theorem SlotMk.emitted {mk} (h : SlotMk mk) (n : Nat) : emitted (mk n) = true := by
  simp only [SlotMk, List.mem_cons, List.not_mem_nil, or_false] at h
  rcases h with rfl | rfl | rfl | rfl | rfl | rfl | rfl | rfl <;> rfl

theorem Step.shape {st c st'} (hs : Step st c st') (h : Shape st) : Shape st' := by
  cases hs with
  | grow hg => exact ⟨hg.ashape h.atoms, h.save_pos, h.subs_pos⟩
  | slot hmk _ =>
    refine ⟨h.atoms.push (hmk.emitted _) fun k hk => ?_, Nat.succ_pos _, h.subs_pos⟩
    cases (hmk.spec _).2.2.1.symm.trans hk
    exact h.save_pos
  | skipInc _ _ => exact ⟨h.atoms.set _ rfl rfl, h.save_pos, h.subs_pos⟩
  | openB hj _ =>
    rcases hj with ⟨_, rfl⟩ | ⟨_, rfl⟩ | ⟨_, rfl⟩ <;>
      exact ⟨(h.atoms.set _ rfl rfl).push rfl nofun, h.save_pos, h.subs_pos⟩
  | closeB _ => exact ⟨h.atoms.push rfl nofun, h.save_pos, h.subs_pos⟩
  | subStart =>
    exact ⟨h.atoms.push rfl nofun, h.save_pos,
      fun s hs => (List.mem_cons.mp hs).elim (fun e => e ▸ h.save_pos) (h.subs_pos s)⟩
  | @subCase sub subs hsubs _ =>
    have hsub := h.subs_pos
    rw [hsubs] at hsub
    have h0 : 0 < sub.save := hsub sub List.mem_cons_self
    exact ⟨((h.atoms.push (a := .brk 0) rfl nofun).set _ rfl rfl).push rfl nofun, h0,
      fun s hs => (List.mem_cons.mp hs).elim (fun e => e ▸ h0) fun hs => hsub s (List.mem_cons_of_mem _ hs)⟩
  | subEnd hsubs hfb =>
    have hsub := h.subs_pos
    rw [hsubs] at hsub
    exact ⟨fillBrks_shape hfb (h.atoms.set _ rfl rfl), Nat.lt_of_lt_of_le h.save_pos (Nat.le_max_right _ _),
      fun s hs => hsub s (List.mem_cons_of_mem _ hs)⟩

theorem Reach.shape {s rest pat st} (h : Reach s rest pat st) : Shape st := by
  induction h with
  | init => exact initSt_shape
  | step hr ht ih => exact ((tok_good _ _ hr.spec.1).of_eq ht).1.shape ih

theorem trim_shape {r : Array Atom} (h : AShape r) : AShape (trim r) := by
  obtain ⟨tail, h1, _⟩ := trim_append r
  intro i a hi
  refine h i a ?_
  rw [← Array.getElem?_toList, h1]
  exact getElem?_append_left' (by simpa using hi)

theorem parse_shape {s : List UInt8} {atoms : List Atom} (h : parse s = .ok atoms) :
    ∀ (i : Nat) a, atoms[i]? = some a → ShapeAt i a := by
  obtain ⟨pat, st, hr, _, _, rfl⟩ := parse_ok_reach h
  intro i a hi
  exact trim_shape hr.shape.atoms i a (by simpa using hi)

/-! ### consequences in the interpreter's vocabulary -/

theorem ok_of_argOf {a : Atom} (h : argOf a < 256) : Exec.Atom.ok a = true := by
  cases a <;> simp_all [argOf, Exec.Atom.ok]

theorem noRead_of_emitted {a : Atom} (h : emitted a = true) : Scan.noRead a = true := by
  cases a <;> simp_all [emitted, Scan.noRead]

/-- what the scanner asks of a pattern (`Scan.Hyp`, first two clauses) holds of every parsed one -/
theorem parse_scannable {s : List UInt8} {atoms : List Atom} (h : parse s = .ok atoms) :
    atoms.all Exec.Atom.ok = true ∧ atoms.all Scan.noRead = true := by
  refine ⟨List.all_eq_true.mpr fun a ha => ok_of_argOf ((parse_trimmedOK h).args a ha),
    List.all_eq_true.mpr fun a ha => ?_⟩
  obtain ⟨i, hi⟩ := List.mem_iff_getElem?.mp ha
  exact noRead_of_emitted (parse_shape h i a hi).1

theorem emitted_iff (a : Atom) : emitted a = true ↔
    (∀ n, a ≠ .fuzzy n) ∧ (∀ n, a ≠ .back n) ∧ (∀ n, a ≠ .pir n) ∧ a ≠ .vTypeName ∧ (∀ n, a ≠ .check n) := by
  cases a <;> simp [emitted]

end Pelite.Pattern
