import PeliteModel.Lemmas.PeHdr
/-! For C04: section lookup, the two conversion loops, `range_file` and the tail of `slice_file` / `read_file`. -/
namespace Pelite.Pe

theorem cadd32_isNone (a b : Nat) : (cadd32 a b).isNone = true ↔ 4294967296 ≤ a + b := by
  unfold cadd32
  split <;> simp <;> omega

theorem firstV_nil (rva : Nat) : firstV [] rva = none := rfl
theorem firstF_nil (fo : Nat) : firstF [] fo = none := rfl

theorem firstV_cons (s : Sec) (rest : List Sec) (rva : Nat) :
    firstV (s :: rest) rva = if s.containsRva rva = true then some s else firstV rest rva := by
  unfold firstV
  rw [List.find?_cons]
  cases s.containsRva rva <;> rfl

theorem firstF_cons (s : Sec) (rest : List Sec) (fo : Nat) :
    firstF (s :: rest) fo = if s.containsOff fo = true then some s else firstF rest fo := by
  unfold firstF
  rw [List.find?_cons]
  cases s.containsOff fo <;> rfl

theorem containsRva_iff (s : Sec) (rva : Nat) :
    s.containsRva rva = true ↔ s.va ≤ rva ∧ rva < wadd32 s.va (max s.vs s.rs) := by
  simp [Sec.containsRva, wadd32]

theorem containsOff_iff (s : Sec) (fo : Nat) :
    s.containsOff fo = true ↔ s.prd ≤ fo ∧ fo < wadd32 s.prd s.rs := by
  simp [Sec.containsOff, wadd32]

theorem firstV_some {secs : List Sec} {rva : Nat} {s : Sec} (h : firstV secs rva = some s) :
    s ∈ secs ∧ s.containsRva rva = true := by
  unfold firstV at h
  exact ⟨List.mem_of_find?_eq_some h, by simpa using List.find?_some h⟩

theorem firstF_some {secs : List Sec} {fo : Nat} {s : Sec} (h : firstF secs fo = some s) :
    s ∈ secs ∧ s.containsOff fo = true := by
  unfold firstF at h
  exact ⟨List.mem_of_find?_eq_some h, by simpa using List.find?_some h⟩

theorem firstV_none_below (soh : Nat) (secs : List Sec) (hva : ∀ s ∈ secs, soh ≤ s.va) (rva : Nat)
    (hlt : rva < soh) : firstV secs rva = none := by
  unfold firstV
  rw [List.find?_eq_none]
  intro s hs hc
  have := hva s hs
  simp only [Sec.containsRva, Bool.and_eq_true, decide_eq_true_eq] at hc
  omega

theorem containsRva_nowrap {s : Sec} (hs : s.InRange) {rva : Nat} (h : s.containsRva rva = true) :
    s.va ≤ rva ∧ rva < s.va + max s.vs s.rs ∧ s.va + max s.vs s.rs < 4294967296 := by
  obtain ⟨h1, h2, h3, h4⟩ := hs
  simp only [Sec.containsRva, Bool.and_eq_true, decide_eq_true_eq] at h
  omega

theorem containsOff_nowrap {s : Sec} (hs : s.InRange) {fo : Nat} (h : s.containsOff fo = true) :
    s.prd ≤ fo ∧ fo < s.prd + s.rs ∧ s.prd + s.rs < 4294967296 := by
  obtain ⟨h1, h2, h3, h4⟩ := hs
  simp only [Sec.containsOff, Bool.and_eq_true, decide_eq_true_eq] at h
  omega

/-- `lo`, `len`: the virtual or the raw extent of a section -/
theorem find_of_disjoint (lo len : Sec → Nat) (secs : List Sec)
    (hnw : ∀ s ∈ secs, lo s + len s < 4294967296)
    (hpw : secs.Pairwise (fun a b => lo a + len a ≤ lo b ∨ lo b + len b ≤ lo a))
    {s : Sec} (hs : s ∈ secs) {y : Nat} (h1 : lo s ≤ y) (h2 : y < lo s + len s) :
    secs.find? (fun t => decide (lo t ≤ y) && decide (y < (lo t + len t) % 4294967296)) = some s := by
  induction secs with
  | nil => cases hs
  | cons a rest ih =>
    rw [List.pairwise_cons] at hpw
    have hna := hnw a List.mem_cons_self
    rw [List.find?_cons]
    rcases List.mem_cons.1 hs with rfl | hsr
    · rw [Nat.mod_eq_of_lt hna, decide_eq_true h1, decide_eq_true h2]
      rfl
    · have hd := hpw.1 s hsr
      have : (decide (lo a ≤ y) && decide (y < (lo a + len a) % 4294967296)) = false := by
        rw [Nat.mod_eq_of_lt hna, Bool.and_eq_false_iff, decide_eq_false_iff_not, decide_eq_false_iff_not]
        omega
      rw [this]
      exact ih (fun t ht => hnw t (List.mem_cons_of_mem _ ht)) hpw.2 hsr

/-! ### the two conversion loops -/

theorem r2fSecs_eq_spec (secs : List Sec) (rva : Nat) : r2fSecs secs rva = specR2F secs rva := by
  induction secs with
  | nil => rfl
  | cons s rest ih =>
    unfold r2fSecs specR2F
    rw [firstV_cons]
    simp only [← containsRva_iff]
    by_cases hc : s.containsRva rva = true
    · simp only [hc, if_true]
      by_cases ho : 4294967296 ≤ s.prd + s.rs
      · simp [(cadd32_isNone _ _).2 ho, ho]
      · have : ¬ (cadd32 s.prd s.rs).isNone = true := fun h => ho ((cadd32_isNone _ _).1 h)
        simp [this, ho, Nat.add_comm (rva - s.va) s.prd]
    · simp only [hc]
      rw [ih]; rfl

theorem f2rSecs_eq_spec (secs : List Sec) (fo : Nat) : f2rSecs secs fo = specF2R secs fo := by
  induction secs with
  | nil => rfl
  | cons s rest ih =>
    unfold f2rSecs specF2R
    rw [firstF_cons]
    simp only [← containsOff_iff]
    by_cases hc : s.containsOff fo = true
    · simp only [hc, if_true]
      by_cases ho : 4294967296 ≤ s.va + s.vs
      · simp [(cadd32_isNone _ _).2 ho, ho]
      · have : ¬ (cadd32 s.va s.vs).isNone = true := fun h => ho ((cadd32_isNone _ _).1 h)
        simp [this, ho, Nat.add_comm (fo - s.prd) s.va]
    · simp only [hc]
      rw [ih]; rfl

theorem specR2F_eq_ok_iff {secs : List Sec} {rva off : Nat} :
    specR2F secs rva = .ok off ↔
      ∃ s, firstV secs rva = some s ∧ s.prd + s.rs < 4294967296 ∧ rva - s.va < s.rs ∧ off = s.prd + (rva - s.va) := by
  unfold specR2F
  cases firstV secs rva with
  | none => simp
  | some s =>
    simp only [Option.some.injEq, exists_eq_left']
    (repeat' split) <;> simp_all [eq_comm] <;> omega

theorem specF2R_eq_ok_iff {secs : List Sec} {fo rva : Nat} :
    specF2R secs fo = .ok rva ↔
      ∃ s, firstF secs fo = some s ∧ s.va + s.vs < 4294967296 ∧ fo - s.prd < s.vs ∧ rva = s.va + (fo - s.prd) := by
  unfold specF2R
  cases firstF secs fo with
  | none => simp
  | some s =>
    simp only [Option.some.injEq, exists_eq_left']
    (repeat' split) <;> simp_all [eq_comm] <;> omega

theorem specR2F_tail {secs : List Sec} {rva : Nat} {s : Sec} (hf : firstV secs rva = some s)
    (h1 : s.prd + s.rs < 4294967296) (h2 : s.rs ≤ rva - s.va) (h3 : rva - s.va < s.vs) :
    specR2F secs rva = .err .zeroFill := by
  unfold specR2F
  rw [hf]
  show (if s.prd + s.rs ≥ 4294967296 then _ else _) = _
  rw [if_neg (by omega), if_neg (by omega), if_pos h3]

/-! ### `range_file` / `slice_file` -/

/-- what `range_file` answers once the section is chosen -/
def rangeOne (size : Nat) (s : Sec) (rva min : Nat) : Out (Nat × Nat) :=
  let vend := wadd32 s.va (max s.vs s.rs)
  let stop := wadd32 s.prd s.rs
  if s.prd ≤ stop ∧ stop ≤ size then
    let so := rva - s.va
    let slen := stop - s.prd
    if so < slen ∧ slen - so ≥ min then .ok (s.prd + so, slen - so)
    else if min > vend - rva then .err .bounds else .err .zeroFill
  else .err .invalid

theorem rangeFile_eq (size : Nat) (secs : List Sec) (rva min : Nat) :
    rangeFile size secs rva min =
      match firstV secs rva with
      | none => .err .bounds
      | some s => rangeOne size s rva min := by
  induction secs with
  | nil => rfl
  | cons s rest ih =>
    unfold rangeFile
    rw [firstV_cons]
    simp only [← containsRva_iff]
    by_cases hc : s.containsRva rva = true
    · simp only [hc, if_true]; rfl
    · simp only [hc]
      rw [ih]; rfl

/-- with `u32` fields, `image.get(prd .. prd.wrapping_add(rs))` succeeds iff the raw range does not
wrap and ends inside the buffer -/
theorem rawRange_ok_iff {s : Sec} (hs : s.InRange) (size : Nat) :
    (s.prd ≤ wadd32 s.prd s.rs ∧ wadd32 s.prd s.rs ≤ size) ↔
      (s.prd + s.rs < 4294967296 ∧ s.prd + s.rs ≤ size) := by
  obtain ⟨h1, h2, h3, h4⟩ := hs
  unfold wadd32
  omega

theorem rangeOne_nowrap {s : Sec} {size : Nat} (h1 : s.prd + s.rs < 4294967296)
    (h2 : s.prd + s.rs ≤ size) (rva min : Nat) :
    rangeOne size s rva min =
      if rva - s.va < s.rs ∧ min ≤ s.rs - (rva - s.va) then .ok (s.prd + (rva - s.va), s.rs - (rva - s.va))
      else if min > wadd32 s.va (max s.vs s.rs) - rva then .err .bounds else .err .zeroFill := by
  have hw : wadd32 s.prd s.rs = s.prd + s.rs := by unfold wadd32; omega
  unfold rangeOne
  simp only [hw, Nat.le_add_right, h2, and_self, if_true, Nat.add_sub_cancel_left, ge_iff_le]

theorem rangeOne_ok_iff {s : Sec} (hs : s.InRange) (size rva min o l : Nat) :
    rangeOne size s rva min = .ok (o, l) ↔
      s.prd + s.rs < 4294967296 ∧ s.prd + s.rs ≤ size ∧ rva - s.va < s.rs ∧
      min ≤ s.rs - (rva - s.va) ∧ o = s.prd + (rva - s.va) ∧ l = s.rs - (rva - s.va) := by
  by_cases hr : s.prd + s.rs < 4294967296 ∧ s.prd + s.rs ≤ size
  · rw [rangeOne_nowrap hr.1 hr.2]
    by_cases hc : rva - s.va < s.rs ∧ min ≤ s.rs - (rva - s.va)
    · simp only [hc, and_self, if_true, Out.ok.injEq, Prod.mk.injEq, hr, true_and]
      constructor
      · rintro ⟨rfl, rfl⟩; exact ⟨rfl, rfl⟩
      · rintro ⟨rfl, rfl⟩; exact ⟨rfl, rfl⟩
    · simp only [hc, if_false]
      constructor
      · intro h; split at h <;> cases h
      · intro h; exact absurd ⟨h.2.2.1, h.2.2.2.1⟩ hc
  · have hr' := hr
    rw [← rawRange_ok_iff hs] at hr'
    unfold rangeOne
    simp only [hr', if_false]
    constructor
    · intro h; cases h
    · intro h; exact absurd ⟨h.1, h.2.1⟩ hr

/-- what the four primitives share: the `debug_assert!` of `aligned_to` (a power of two), then the alignment test `p` -/
def gate (site : String) (align : Nat) (p : Prop) [Decidable p] (t : Out Ref) : Out Ref :=
  if isPow2 align = true then (if p then t else .err .misaligned) else .panic site

theorem gate_pow2 {site : String} {p : Prop} [Decidable p] {align : Nat} {t : Out Ref} (hp : isPow2 align = true) :
    gate site align p t = if p then t else .err .misaligned := if_pos hp

theorem gate_not_pow2 {site : String} {p : Prop} [Decidable p] {align : Nat} {t : Out Ref}
    (hp : ¬ isPow2 align = true) : gate site align p t = .panic site := if_neg hp

theorem gate_ok_iff {site : String} {p : Prop} [Decidable p] {align : Nat} {t : Out Ref} {r : Ref} :
    gate site align p t = .ok r ↔ isPow2 align = true ∧ p ∧ t = .ok r := by
  unfold gate
  by_cases hp : isPow2 align = true <;> by_cases h : p <;> simp [hp, h]

/-- the part of `slice_file` / `read_file` after the null / bounds / alignment preamble -/
def fileTail (img : Img) (secs : List Sec) (rva min align : Nat) : Out Ref :=
  match rangeFile img.bytes.size secs rva min with
  | .ok (o, l) => if (img.base + o) % align = 0 then .ok ⟨o, l, align⟩ else .err .misaligned
  | .err e => .err e
  | .panic s => .panic s
  | .ub s => .ub s
  | .diverge => .diverge

theorem sliceFile_eq_tail (img : Img) (secs : List Sec) (rva min align : Nat) :
    sliceFile img secs rva min align =
      if rva = 0 then .err .null
      else gate "slice_file:aligned_to" align ((img.base + rva) % align = 0) (fileTail img secs rva min align) := by
  unfold sliceFile fileTail alignedTo gate
  by_cases hp : isPow2 align = true <;> by_cases ha : (img.base + rva) % align = 0 <;> simp [hp, ha] <;> rfl

theorem sliceFile_aligned (img : Img) (secs : List Sec) (rva min align : Nat)
    (h0 : rva ≠ 0) (hp : isPow2 align = true) (ha : (img.base + rva) % align = 0) :
    sliceFile img secs rva min align = fileTail img secs rva min align := by
  rw [sliceFile_eq_tail, if_neg h0, gate_pow2 hp, if_pos ha]

theorem fileTail_err {img : Img} {secs : List Sec} {rva min align : Nat} {e : Err}
    (h : rangeFile img.bytes.size secs rva min = .err e) : fileTail img secs rva min align = .err e := by
  unfold fileTail
  rw [h]

theorem fileTail_ok_iff_range (img : Img) (secs : List Sec) (rva min align : Nat) (r : Ref) :
    fileTail img secs rva min align = .ok r ↔
      ∃ o l, rangeFile img.bytes.size secs rva min = .ok (o, l) ∧ (img.base + o) % align = 0 ∧
        r = ⟨o, l, align⟩ := by
  unfold fileTail
  cases rangeFile img.bytes.size secs rva min with
  | ok p =>
    obtain ⟨o, l⟩ := p
    by_cases hal : (img.base + o) % align = 0
    · simp only [if_pos hal, Out.ok.injEq, Prod.mk.injEq]
      exact ⟨fun h => ⟨o, l, ⟨rfl, rfl⟩, hal, h.symm⟩, fun ⟨_, _, ⟨rfl, rfl⟩, _, h⟩ => h.symm⟩
    · simp only [if_neg hal, reduceCtorEq, Out.ok.injEq, Prod.mk.injEq, false_iff]
      rintro ⟨_, _, ⟨rfl, rfl⟩, h, _⟩
      exact hal h
  | _ => simp

theorem fileTail_ok_iff (img : Img) (secs : List Sec) (hs : ∀ s ∈ secs, s.InRange) (rva min align : Nat) (r : Ref) :
    fileTail img secs rva min align = .ok r ↔
      ∃ s, firstV secs rva = some s ∧ s.prd + s.rs < 4294967296 ∧ s.prd + s.rs ≤ img.bytes.size ∧
        rva - s.va < s.rs ∧ min ≤ s.rs - (rva - s.va) ∧
        (img.base + (s.prd + (rva - s.va))) % align = 0 ∧
        r = ⟨s.prd + (rva - s.va), s.rs - (rva - s.va), align⟩ := by
  rw [fileTail_ok_iff_range, rangeFile_eq]
  cases hf : firstV secs rva with
  | none => simp
  | some s =>
    simp only [rangeOne_ok_iff (hs s (firstV_some hf).1), Option.some.injEq, exists_eq_left']
    constructor
    · rintro ⟨o, l, ⟨h1, h2, h3, h4, rfl, rfl⟩, hal, rfl⟩
      exact ⟨h1, h2, h3, h4, hal, rfl⟩
    · rintro ⟨h1, h2, h3, h4, hal, rfl⟩
      exact ⟨_, _, ⟨h1, h2, h3, h4, rfl, rfl⟩, hal, rfl⟩

theorem fileTail_sound {img : Img} {secs : List Sec} (hs : ∀ s ∈ secs, s.InRange) {rva min align : Nat}
    {r : Ref} (h : fileTail img secs rva min align = .ok r) :
    RefOK img r ∧ min ≤ r.len ∧ r.align = align := by
  obtain ⟨s, -, -, h2, h3, h4, hal, rfl⟩ := (fileTail_ok_iff img secs hs ..).1 h
  exact ⟨⟨by simp only; omega, hal⟩, h4, rfl⟩

theorem sliceFile_ok_iff (img : Img) (secs : List Sec) (hs : ∀ s ∈ secs, s.InRange) (rva min align : Nat) (r : Ref) :
    sliceFile img secs rva min align = .ok r ↔
      rva ≠ 0 ∧ isPow2 align = true ∧ (img.base + rva) % align = 0 ∧
      ∃ s, firstV secs rva = some s ∧ s.prd + s.rs < 4294967296 ∧ s.prd + s.rs ≤ img.bytes.size ∧
        rva - s.va < s.rs ∧ min ≤ s.rs - (rva - s.va) ∧
        (img.base + (s.prd + (rva - s.va))) % align = 0 ∧
        r = ⟨s.prd + (rva - s.va), s.rs - (rva - s.va), align⟩ := by
  rw [sliceFile_eq_tail, ite_err_eq_ok, gate_ok_iff, fileTail_ok_iff img secs hs]

theorem sliceFile_ok_iff_range (img : Img) (secs : List Sec) (rva min align : Nat) (r : Ref) :
    sliceFile img secs rva min align = .ok r ↔
      rva ≠ 0 ∧ isPow2 align = true ∧ (img.base + rva) % align = 0 ∧
      ∃ o l, rangeFile img.bytes.size secs rva min = .ok (o, l) ∧ (img.base + o) % align = 0 ∧
        r = ⟨o, l, align⟩ := by
  rw [sliceFile_eq_tail, ite_err_eq_ok, gate_ok_iff, fileTail_ok_iff_range]

/-! ### `read_file`, `slice_section`, `read_section`: the same preamble in front of `fileTail` or the rest of the image -/

theorem readFile_eq_tail (img : Img) (secs : List Sec) (imageBase soi va min align : Nat) :
    readFile img secs imageBase soi va min align =
      if va = 0 then .err .null
      else if va < imageBase ∨ va - imageBase > soi then .err .bounds
      else gate "read_file:aligned_to" align ((img.base + (va - imageBase)) % align = 0)
        (fileTail img secs (va - imageBase) min align) := by
  unfold readFile fileTail alignedTo gate
  by_cases hp : isPow2 align = true <;> by_cases ha : (img.base + (va - imageBase)) % align = 0 <;>
    simp [hp, ha] <;> rfl

theorem readFile_ok_iff (img : Img) (secs : List Sec) (hs : ∀ s ∈ secs, s.InRange)
    (imageBase soi va min align : Nat) (r : Ref) :
    readFile img secs imageBase soi va min align = .ok r ↔
      va ≠ 0 ∧ imageBase ≤ va ∧ va - imageBase ≤ soi ∧ isPow2 align = true ∧
      (img.base + (va - imageBase)) % align = 0 ∧
      ∃ s, firstV secs (va - imageBase) = some s ∧ s.prd + s.rs < 4294967296 ∧
        s.prd + s.rs ≤ img.bytes.size ∧ (va - imageBase) - s.va < s.rs ∧
        min ≤ s.rs - ((va - imageBase) - s.va) ∧
        (img.base + (s.prd + ((va - imageBase) - s.va))) % align = 0 ∧
        r = ⟨s.prd + ((va - imageBase) - s.va), s.rs - ((va - imageBase) - s.va), align⟩ := by
  rw [readFile_eq_tail, ite_err_eq_ok, ite_err_eq_ok, gate_ok_iff, fileTail_ok_iff img secs hs]
  simp only [not_or, Nat.not_lt, gt_iff_lt, and_assoc, ne_eq]

def sectionTail (img : Img) (start min align : Nat) : Out Ref :=
  if start ≤ img.bytes.size ∧ img.bytes.size - start ≥ min then .ok ⟨start, img.bytes.size - start, align⟩
  else .err .bounds

theorem sliceSection_eq_tail (img : Img) (rva min align : Nat) :
    sliceSection img rva min align =
      if rva = 0 then .err .null
      else gate "slice_section:aligned_to" align ((img.base + rva) % align = 0) (sectionTail img rva min align) := by
  unfold sliceSection alignedTo gate sectionTail
  by_cases hp : isPow2 align = true <;> by_cases ha : (img.base + rva) % align = 0 <;> simp [hp, ha]

theorem readSection_eq_tail (img : Img) (imageBase soi va min align : Nat) :
    readSection img imageBase soi va min align =
      if va = 0 then .err .null
      else if va < imageBase ∨ va - imageBase > soi then .err .bounds
      else gate "read_section:aligned_to" align ((img.base + (va - imageBase)) % align = 0)
        (sectionTail img (va - imageBase) min align) := by
  unfold readSection alignedTo gate sectionTail
  by_cases hp : isPow2 align = true <;> by_cases ha : (img.base + (va - imageBase)) % align = 0 <;> simp [hp, ha]

theorem sectionTail_ok_iff {img : Img} {start min align : Nat} {r : Ref} :
    sectionTail img start min align = .ok r ↔
      start ≤ img.bytes.size ∧ min ≤ img.bytes.size - start ∧ r = ⟨start, img.bytes.size - start, align⟩ := by
  unfold sectionTail
  by_cases h : start ≤ img.bytes.size ∧ img.bytes.size - start ≥ min
  · simp [h, eq_comm]
  · simp only [if_neg h, reduceCtorEq, false_iff]
    exact fun h' => h ⟨h'.1, h'.2.1⟩

theorem sliceSection_ok_iff (img : Img) (rva min align : Nat) (r : Ref) :
    sliceSection img rva min align = .ok r ↔
      rva ≠ 0 ∧ isPow2 align = true ∧ (img.base + rva) % align = 0 ∧ rva ≤ img.bytes.size ∧
      min ≤ img.bytes.size - rva ∧ r = ⟨rva, img.bytes.size - rva, align⟩ := by
  rw [sliceSection_eq_tail, ite_err_eq_ok, gate_ok_iff, sectionTail_ok_iff]

theorem readSection_ok_iff (img : Img) (imageBase soi va min align : Nat) (ref : Ref) :
    readSection img imageBase soi va min align = .ok ref ↔
      va ≠ 0 ∧ imageBase ≤ va ∧ va - imageBase ≤ soi ∧ isPow2 align = true ∧ (img.base + (va - imageBase)) % align = 0 ∧
      va - imageBase ≤ img.bytes.size ∧ min ≤ img.bytes.size - (va - imageBase) ∧
      ref = ⟨va - imageBase, img.bytes.size - (va - imageBase), align⟩ := by
  rw [readSection_eq_tail, ite_err_eq_ok, ite_err_eq_ok, gate_ok_iff, sectionTail_ok_iff]
  simp only [not_or, Nat.not_lt, gt_iff_lt, and_assoc, ne_eq]

/-! ### a piece of a window is the window at the advanced address -/

theorem add_aligned {base r d align : Nat} (ha : (base + r) % align = 0) (hd : d % align = 0) :
    (base + (r + d)) % align = 0 := by
  rw [← Nat.add_assoc, Nat.add_mod, ha, hd]; simp

theorem sliceSection_shift {img : Img} {rva m align d m' : Nat} {s : Ref}
    (h : sliceSection img rva m align = .ok s) (hd : d % align = 0) (hm : d + m' ≤ s.len) :
    sliceSection img (rva + d) m' align = .ok ⟨s.off + d, s.len - d, align⟩ := by
  obtain ⟨h0, hp, ha, hle, -, rfl⟩ := (sliceSection_ok_iff ..).1 h
  have hm' : d + m' ≤ img.bytes.size - rva := hm
  exact (sliceSection_ok_iff ..).2 ⟨Nat.ne_of_gt (Nat.lt_add_right d (Nat.pos_of_ne_zero h0)), hp, add_aligned ha hd,
    by omega, by omega, by rw [Nat.sub_add_eq]⟩

/-- `hsoi`: the VA path tests every address against the declared image size -/
theorem readSection_shift {img : Img} {ib soi va m align d m' : Nat} {s : Ref}
    (h : readSection img ib soi va m align = .ok s) (hd : d % align = 0) (hm : d + m' ≤ s.len)
    (hsoi : va - ib + d ≤ soi) :
    readSection img ib soi (va + d) m' align = .ok ⟨s.off + d, s.len - d, align⟩ := by
  obtain ⟨h0, hB, -, hp, ha, hle, -, rfl⟩ := (readSection_ok_iff ..).1 h
  have hm' : d + m' ≤ img.bytes.size - (va - ib) := hm
  clear h hm
  have e : va + d - ib = va - ib + d := by omega
  have : va + d ≠ 0 ∧ ib ≤ va + d ∧ va - ib + d ≤ img.bytes.size ∧ m' ≤ img.bytes.size - (va - ib + d) := by omega
  rw [readSection_ok_iff, e]
  exact ⟨this.1, this.2.1, hsoi, hp, add_aligned ha hd, this.2.2.1, this.2.2.2, by rw [Nat.sub_add_eq]⟩

/-- a file window ends with the raw data and its first byte is stored (`hlt`: there is no empty window behind the last
byte); the section lookup is first-match per address, so the piece must be resolved by the same section (`hsame`) -/
theorem sliceFile_shift {img : Img} {secs : List Sec} (hs : ∀ s ∈ secs, s.InRange) {rva m align d m' : Nat} {r : Ref}
    (h : sliceFile img secs rva m align = .ok r) (hd : d % align = 0) (hm : d + m' ≤ r.len) (hlt : d < r.len)
    (hsame : firstV secs (rva + d) = firstV secs rva) :
    sliceFile img secs (rva + d) m' align = .ok ⟨r.off + d, r.len - d, align⟩ := by
  obtain ⟨h0, hp, ha, s, hf, h1, h2, -, -, h5, rfl⟩ := (sliceFile_ok_iff img secs hs ..).1 h
  have hm' : d + m' ≤ s.rs - (rva - s.va) := hm
  have hlt' : d < s.rs - (rva - s.va) := hlt
  clear hm hlt
  have hva := (containsRva_nowrap (hs s (firstV_some hf).1) (firstV_some hf).2).1
  have e1 : rva + d - s.va = (rva - s.va) + d := by omega
  rw [sliceFile_ok_iff img secs hs, hsame]
  refine ⟨Nat.ne_of_gt (Nat.lt_add_right d (Nat.pos_of_ne_zero h0)), hp, add_aligned ha hd, s, hf, h1, h2, ?_⟩
  rw [e1]
  exact ⟨Nat.add_lt_of_lt_sub' hlt', by omega, by rw [← Nat.add_assoc s.prd]; exact add_aligned h5 hd,
    by rw [Nat.add_assoc, Nat.sub_add_eq]⟩

/-! ### `get_section_bytes`; `slice` / `read` on a view of known kind -/

/-- `image.get(addr .. addr.wrapping_add(size))` behind the null test, for `u32` operands -/
theorem window_ok_iff (addr size bsize : Nat) (ha : addr < 4294967296) (hs : size < 4294967296) (r : Ref) :
    (if addr = 0 then Out.err Err.null
      else if addr ≤ wadd32 addr size ∧ wadd32 addr size ≤ bsize then
        Out.ok (⟨addr, wadd32 addr size - addr, 1⟩ : Ref) else .err .bounds) = .ok r ↔
      addr ≠ 0 ∧ addr + size < 4294967296 ∧ addr + size ≤ bsize ∧ r = ⟨addr, size, 1⟩ := by
  rw [ite_err_eq_ok]
  unfold wadd32
  by_cases hw : addr + size < 4294967296
  · rw [Nat.mod_eq_of_lt hw, Nat.add_sub_cancel_left]
    by_cases hb : addr + size ≤ bsize
    · simp [hw, hb, eq_comm]
    · simp [hb]
  · have : ¬ (addr ≤ (addr + size) % 4294967296 ∧ (addr + size) % 4294967296 ≤ bsize) := by omega
    simp [this, hw]

/-- an equation, not an unfolding (Prim/Basic, reads as digits of one number): through it the decoded section table of a
hand-built file is put in where `v.slice` is visible in a goal -/
theorem View.slice_file {v : View} (h : v.kind = .file) (rva min align : Nat) :
    v.slice rva min align = sliceFile v.img v.secs rva min align := by
  unfold View.slice
  rw [h]

theorem View.read_file {v : View} (h : v.kind = .file) (va min align : Nat) :
    v.read va min align = readFile v.img v.secs v.imageBase (sizeOfImage v.b) va min align := by
  unfold View.read
  rw [h]

theorem View.slice_view {v : View} (h : v.kind = .view) (rva min align : Nat) :
    v.slice rva min align = sliceSection v.img rva min align := by
  unfold View.slice
  rw [h]

theorem View.read_view {v : View} (h : v.kind = .view) (va min align : Nat) :
    v.read va min align = readSection v.img v.imageBase (sizeOfImage v.b) va min align := by
  unfold View.read
  rw [h]

end Pelite.Pe
