import PeliteModel.Model.Json
import PeliteModel.Spec.JsonText
import PeliteModel.Lemmas.Typed
/-!
For C19: the data-directory list and `Pe::base_relocs` of the header model; test vectors of `Json.parse`; the round trip
`parse (print j) = some j`; byte strings (`BytesOK`); the printed text against the RFC grammar (`Spec/JsonText.lean`).
-/
namespace Pelite.Pe

theorem headerJson_dataDirectory (v : View) :
    v.headerJson.dataDirectory = (List.range (numDataDirs v.fmt v.b)).map v.ddEntry := by
  show (List.range (numDataDirs v.fmt v.b)).filterMap v.dataDir = _
  rw [← List.filterMap_eq_map']
  exact filterMap_congr_mem _ fun i hi => dataDir_of_lt v (List.mem_range.1 hi)

theorem baseRelocsRef_eq (v : View) : v.baseRelocsRef =
    (Out.ofOption .null (v.dataDir 5)).bind fun p => (v.at (.rva p.1) p.2 4).bind fun s => .ok ⟨s.off, p.2, 4⟩ := by
  unfold View.baseRelocsRef
  cases v.dataDir 5 with
  | none => rfl
  | some p =>
    show _ = (v.slice p.1 p.2 4).bind _
    dsimp only
    cases v.slice p.1 p.2 4 <;> rfl

theorem baseRelocsRef_absent (v : View) :
    (v.dataDir 5 = none → v.baseRelocsRef = .err .null) ∧
    (∀ size, v.dataDir 5 = some (0, size) → v.baseRelocsRef = .err .null) := by
  refine ⟨fun h => ?_, fun size h => ?_⟩ <;> rw [baseRelocsRef_eq, h]
  · rfl
  · show (v.at (.rva 0) size 4).bind _ = _
    rw [at_zero_null v (.rva 0) rfl size 4]
    rfl

theorem baseRelocsRef_okOrErr (v : View) : OkOrErr v.baseRelocsRef := by
  rw [baseRelocsRef_eq]
  refine okOrErr_bind ?_ fun p => okOrErr_bind (slice_okOrErr v _ _ 4 (by decide)) fun _ => okOrErr_ok _
  cases v.dataDir 5
  · exact okOrErr_err _
  · exact okOrErr_ok _

theorem baseRelocsBytes_okOrErr (v : View) : OkOrErr v.baseRelocsBytes := by
  unfold View.baseRelocsBytes
  exact (baseRelocsRef_okOrErr v).elim (fun _ => okOrErr_ok _) (fun _ => okOrErr_err _)

end Pelite.Pe

/-! ## the round trip `Json.parse (Json.print j) = some j` -/
namespace Pelite.Json

/-! ### test vectors of the reader -/

-- {"a":[1,null,"x\n"],"":{}}
example : parse [123, 34, 97, 34, 58, 91, 49, 44, 110, 117, 108, 108, 44, 34, 120, 92, 110, 34, 93,
      44, 34, 34, 58, 123, 125, 125]
    = some (.obj [([97], .arr [.num 1, .null, .str [120, 10]]), ([], .obj [])]) := by rfl
-- [1,]
example : parse [91, 49, 44, 93] = none := by rfl
-- 01
example : parse [48, 49] = none := by rfl
-- "a
example : parse [34, 97] = none := by rfl
-- "a<LF>"
example : parse [34, 97, 10, 34] = none := by rfl
-- nul
example : parse [110, 117, 108] = none := by rfl
-- [] {} 0 [0,10] true false
example : parse [91, 93] = some (.arr []) := by rfl
example : parse [123, 125] = some (.obj []) := by rfl
example : parse [48] = some (.num 0) := by rfl
example : parse [91, 48, 44, 49, 48, 93] = some (.arr [.num 0, .num 10]) := by rfl
example : parse [116, 114, 117, 101] = some (.bool true) := by rfl
example : parse [102, 97, 108, 115, 101] = some (.bool false) := by rfl
-- "\u001F\u001f\/" : both hex cases, the solidus escape
example : parse [34, 92, 117, 48, 48, 49, 70, 92, 117, 48, 48, 49, 102, 92, 47, 34]
    = some (.str [31, 31, 47]) := by rfl
-- bytes 0x7F and >= 0x80 verbatim
example : parse [34, 127, 195, 169, 34] = some (.str [127, 195, 169]) := by rfl
-- duplicate keys kept in order: {"a":1,"a":2}
example : parse [123, 34, 97, 34, 58, 49, 44, 34, 97, 34, 58, 50, 125]
    = some (.obj [([97], .num 1), ([97], .num 2)]) := by rfl
-- rejected: "\u0080" (outside the subset), "\x", -1, 1.5, 1e3, " 1", "1 ", {"a":1,}, {"a"}, [1 2], 1 1, empty text
example : parse [34, 92, 117, 48, 48, 56, 48, 34] = none := by rfl
example : parse [34, 92, 120, 34] = none := by rfl
example : parse [45, 49] = none := by rfl
example : parse [49, 46, 53] = none := by rfl
example : parse [49, 101, 51] = none := by rfl
example : parse [32, 49] = none := by rfl
example : parse [49, 32] = none := by rfl
example : parse [123, 34, 97, 34, 58, 49, 44, 125] = none := by rfl
example : parse [123, 34, 97, 34, 125] = none := by rfl
example : parse [91, 49, 32, 50, 93] = none := by rfl
example : parse [91, 49, 93, 93] = none := by rfl
example : parse [] = none := by rfl
example : parse [91, 48, 48, 93] = none := by rfl

/-! ### numbers -/

theorem isDigit_iff (c : Nat) : isDigit c = true ↔ 48 ≤ c ∧ c ≤ 57 := by
  simp [isDigit]

def noDigitHead : List Nat → Bool
  | [] => true
  | c :: _ => !isDigit c

theorem digitsVal_decimal (n : Nat) : digitsVal (decimal n) = n := by
  fun_induction decimal n with
  | case1 n h => simp [digitsVal]
  | case2 n h ih =>
    unfold digitsVal at ih ⊢
    rw [List.foldl_append, ih]
    simp only [List.foldl_cons, List.foldl_nil]
    omega

theorem decimal_int (n : Nat) : Spec.JsonText.Int (decimal n) := by
  fun_induction decimal n with
  | case1 n h =>
    by_cases h0 : n = 0
    · subst h0; exact .zero
    · exact .pos _ [] ⟨by omega, by omega⟩ nofun
  | case2 n h ih =>
    have hv := digitsVal_decimal (n / 10)
    generalize decimal (n / 10) = l at ih hv
    cases ih with
    -- the digits in front are not "0": their value is `n / 10 ≥ 1`
    | zero => simp [digitsVal] at hv; omega
    | pos d ds hd hds =>
      refine .pos d _ hd fun c hc => ?_
      rcases List.mem_append.1 hc with hc | hc
      · exact hds c hc
      · cases List.mem_singleton.1 hc; exact ⟨by omega, by omega⟩

theorem int_head {t : List Nat} (h : Spec.JsonText.Int t) : ∃ x r, t = x :: r ∧ Spec.JsonText.IsDigit x := by
  cases h with
  | zero => exact ⟨_, _, rfl, ⟨by decide, by decide⟩⟩
  | pos d ds hd _ => exact ⟨d, ds, rfl, by have := hd.1; exact ⟨by omega, hd.2⟩⟩

theorem int_digits {l : List Nat} (h : Spec.JsonText.Int l) : ∀ c ∈ l, isDigit c = true := by
  intro c hc
  rw [isDigit_iff]
  cases h with
  | zero => cases List.mem_singleton.1 hc; omega
  | pos d ds hd hds =>
    rcases List.mem_cons.1 hc with rfl | hc
    · exact ⟨by have := hd.1; omega, hd.2⟩
    · exact hds c hc

theorem readNum_int {l : List Nat} (h : Spec.JsonText.Int l) (rest : List Nat) (hr : noDigitHead rest = true) :
    readNum (l ++ rest) = some (digitsVal l, rest) := by
  have hrest : rest.takeWhile isDigit = [] ∧ rest.dropWhile isDigit = rest := by cases rest <;> simp_all [noDigitHead]
  unfold readNum
  rw [List.takeWhile_append_of_pos (int_digits h), List.dropWhile_append_of_pos (int_digits h), hrest.1, hrest.2,
    List.append_nil]
  cases h with
  | zero => rfl
  | pos d ds hd _ =>
    have : (d == 48) = false := by have := hd.1; simp; omega
    cases ds <;> simp [leadingZero, this]

theorem readNum_decimal (n : Nat) (rest : List Nat) (hr : noDigitHead rest = true) :
    readNum (decimal n ++ rest) = some (n, rest) := by
  rw [readNum_int (decimal_int n) rest hr, digitsVal_decimal]

/-! ### strings -/

theorem hexVal_hexDigitL (n : Nat) (h : n < 16) : hexVal (hexDigitL n) = some n := by
  unfold hexDigitL hexVal
  by_cases h10 : n < 10
  · have : 48 ≤ 48 + n ∧ 48 + n ≤ 57 := by omega
    simp [h10, this]
  · have h1 : ¬ (48 ≤ 87 + n ∧ 87 + n ≤ 57) := by omega
    have h2 : 97 ≤ 87 + n ∧ 87 + n ≤ 102 := by omega
    simp [h10, h1, h2]

theorem escByte_shape (b : Nat) :
    (∃ e, escByte b = [92, e] ∧ Spec.JsonText.IsEscapeLetter e ∧ unescChar e = some b) ∨
    (b < 32 ∧ escByte b = [92, 117, 48, 48, hexDigitL (b / 16), hexDigitL (b % 16)]) ∨
    (32 ≤ b ∧ b ≠ 34 ∧ b ≠ 92 ∧ escByte b = [b]) := by
  by_cases h : b ∈ [34, 92, 8, 9, 10, 12, 13]
  · simp only [List.mem_cons, List.not_mem_nil, or_false] at h
    rcases h with rfl | rfl | rfl | rfl | rfl | rfl | rfl <;>
      exact .inl ⟨_, rfl, by simp [Spec.JsonText.IsEscapeLetter], rfl⟩
  · simp only [List.mem_cons, List.not_mem_nil, or_false, not_or] at h
    obtain ⟨h1, h2, h3, h4, h5, h6, h7⟩ := h
    unfold escByte
    rw [if_neg h1, if_neg h2, if_neg h3, if_neg h4, if_neg h5, if_neg h6, if_neg h7]
    split
    · exact .inr (.inl ⟨‹_›, rfl⟩)
    · exact .inr (.inr ⟨by omega, h1, h2, rfl⟩)

/- One step of `readStrBody` (below: of `parseVal`) on `c :: r` is `f.eq_def` and the reduction of its outer `match`; the
generated `f.eq_n` split along the nested matches. -/
theorem readStrBody_esc (b : Nat) (t : List Nat) :
    readStrBody (escByte b ++ t) = (readStrBody t).map (fun p => (b :: p.1, p.2)) := by
  rcases escByte_shape b with ⟨e, he, hl, hu⟩ | ⟨hlt, he⟩ | ⟨hge, h1, h2, he⟩ <;>
    rw [he, List.cons_append, readStrBody.eq_def]
  · have : e ≠ 117 := by unfold Spec.JsonText.IsEscapeLetter at hl; omega
    simp [this, hu]
  · have e3 : 16 * (b / 16) + b % 16 = b := by omega
    simp [hexVal_hexDigitL (b / 16) (by omega), hexVal_hexDigitL (b % 16) (by omega), e3, show b < 128 by omega]
  · simp [h1, h2, show ¬ b < 32 by omega]

theorem readStrBody_print (s rest : List Nat) :
    readStrBody (s.flatMap escByte ++ 34 :: rest) = some (s, rest) := by
  induction s with
  | nil => simp [readStrBody.eq_def]
  | cons b s ih =>
    rw [List.flatMap_cons, List.append_assoc, readStrBody_esc, ih]
    rfl

theorem readStr_print (s rest : List Nat) : readStr (printStr s ++ rest) = some (s, rest) := by
  unfold printStr
  simp only [List.append_assoc, List.cons_append, List.nil_append]
  simp only [readStr, if_true]
  exact readStrBody_print s rest

/-! ### the first byte of a printed value is never `]` = 93, by which `parseVal` recognises the empty array -/

theorem print_head (j : Json) (t : List Nat) : ∃ c r, print j ++ t = c :: r ∧ c ≠ 93 := by
  cases j with
  | num n =>
    obtain ⟨a, l, hd, ha⟩ := int_head (decimal_int n)
    exact ⟨a, l ++ t, by simp [print, hd], by have := ha.2; omega⟩
  | bool b => cases b <;> simp [print]
  | _ => simp [print, printStr]

theorem printElems_head (xs : List Json) (hx : xs ≠ []) (t : List Nat) :
    ∃ c r, printElems xs ++ t = c :: r ∧ c ≠ 93 := by
  match xs, hx with
  | [x], _ => simpa [printElems] using print_head x t
  | x :: y :: zs, _ =>
    simp only [printElems, List.append_assoc]
    exact print_head x _

theorem print_pos (j : Json) : 0 < (print j).length := by
  obtain ⟨c, r, h, _⟩ := print_head j []
  rw [List.append_nil] at h
  rw [h]; simp

/- Only a value needs `noDigitHead rest`: `readNum` is greedy, so a printed number must not be followed by a digit; the
lists are followed by `]`, `}` or `,`, which is how the recursive calls discharge it.  One unit of fuel goes into the
opening bracket, hence `≤` for a value and `<` for the lists inside it. -/
mutual
theorem parseVal_print : (j : Json) → (fuel : Nat) → (rest : List Nat) →
    (print j).length ≤ fuel → noDigitHead rest = true →
    parseVal fuel (print j ++ rest) = some (j, rest)
  | j, 0, _, h, _ => absurd (print_pos j) (by omega)
  | .null, f + 1, rest, _, _ => by simp [print, parseVal.eq_def, isDigit, expect]
  | .bool true, f + 1, rest, _, _ => by simp [print, parseVal.eq_def, isDigit, expect]
  | .bool false, f + 1, rest, _, _ => by simp [print, parseVal.eq_def, isDigit, expect]
  | .num n, f + 1, rest, _, hr => by
    obtain ⟨a, l, hd, ha⟩ := int_head (decimal_int n)
    rw [print, hd, List.cons_append, parseVal.eq_def]
    dsimp only
    rw [if_pos ((isDigit_iff a).2 ha), ← List.cons_append, ← hd, readNum_decimal n rest hr]
    rfl
  | .str s, f + 1, rest, _, _ => by
    simp only [print, printStr, List.append_assoc, List.cons_append, List.nil_append]
    rw [parseVal.eq_def]
    simp [isDigit, readStrBody_print]
  | .arr [], f + 1, rest, _, _ => by simp [print, printElems, parseVal.eq_def, isDigit]
  | .arr (x :: xs), f + 1, rest, h, _ => by
    have hlen : (printElems (x :: xs)).length < f := by simp [print] at h; omega
    obtain ⟨c, r, hc, hne⟩ := printElems_head (x :: xs) (by simp) (93 :: rest)
    have ih := parseElems_print (x :: xs) (by simp) f rest hlen
    simp only [print, List.append_assoc, List.cons_append, List.nil_append]
    rw [parseVal.eq_def]
    rw [hc] at ih ⊢
    simp [isDigit, hne, ih]
  | .obj [], f + 1, rest, _, _ => by simp [print, printMembers, parseVal.eq_def, isDigit]
  | .obj (kv :: kvs), f + 1, rest, h, _ => by
    have hlen : (printMembers (kv :: kvs)).length < f := by simp [print] at h; omega
    have ih := parseMembers_print (kv :: kvs) (by simp) f rest hlen
    obtain ⟨r, hc⟩ : ∃ r, printMembers (kv :: kvs) ++ 125 :: rest = 34 :: r := by
      obtain ⟨k, v⟩ := kv
      cases kvs <;> simp [printMembers, printStr]
    simp only [print, List.append_assoc, List.cons_append, List.nil_append]
    rw [parseVal.eq_def]
    rw [hc] at ih ⊢
    simp [isDigit, ih]
theorem parseElems_print : (xs : List Json) → xs ≠ [] → (fuel : Nat) → (rest : List Nat) →
    (printElems xs).length < fuel →
    parseElems fuel (printElems xs ++ 93 :: rest) = some (xs, rest)
  | [], hx, _, _, _ => absurd rfl hx
  | _, _, 0, _, h => by simp at h
  | [x], _, f + 1, rest, h => by
    have hv := parseVal_print x f (93 :: rest) (by simp [printElems] at h; omega) (by simp [noDigitHead, isDigit])
    simp only [printElems]
    rw [parseElems, hv]
    simp
  | x :: y :: zs, _, f + 1, rest, h => by
    simp only [printElems, List.length_append, List.length_cons, List.length_nil] at h
    have hv := parseVal_print x f (44 :: (printElems (y :: zs) ++ 93 :: rest)) (by omega)
      (by simp [noDigitHead, isDigit])
    have hl := parseElems_print (y :: zs) (by simp) f rest (by omega)
    simp only [printElems, List.append_assoc, List.cons_append, List.nil_append]
    rw [parseElems, hv]
    simp [hl]
theorem parseMembers_print : (kvs : List (List Nat × Json)) → kvs ≠ [] → (fuel : Nat) →
    (rest : List Nat) → (printMembers kvs).length < fuel →
    parseMembers fuel (printMembers kvs ++ 125 :: rest) = some (kvs, rest)
  | [], hx, _, _, _ => absurd rfl hx
  | _, _, 0, _, h => by simp at h
  | [(k, v)], _, f + 1, rest, h => by
    simp only [printMembers, List.length_append, List.length_cons, List.length_nil] at h
    have hv := parseVal_print v f (125 :: rest) (by omega) (by simp [noDigitHead, isDigit])
    simp only [printMembers, List.append_assoc, List.cons_append, List.nil_append]
    rw [parseMembers, readStr_print]
    simp [hv]
  | (k, v) :: m :: ms, _, f + 1, rest, h => by
    simp only [printMembers, List.length_append, List.length_cons, List.length_nil] at h
    have hv := parseVal_print v f (44 :: (printMembers (m :: ms) ++ 125 :: rest)) (by omega)
      (by simp [noDigitHead, isDigit])
    have hl := parseMembers_print (m :: ms) (by simp) f rest (by omega)
    simp only [printMembers, List.append_assoc, List.cons_append, List.nil_append]
    rw [parseMembers, readStr_print]
    simp [hv, hl]
end

theorem parse_print (j : Json) : parse (print j) = some j := by
  have h := parseVal_print j ((print j).length + 1) [] (by omega) rfl
  rw [List.append_nil] at h
  simp [parse, h]

theorem print_injective {a b : Json} (h : print a = print b) : a = b := by
  have ha := parse_print a
  rw [h, parse_print b] at ha
  exact (Option.some.inj ha).symm

/-! ### byte-string well-formedness (not needed for the round trip)

`parse_print` holds for every tree: the escaping only looks at the bytes `< 0x20`, `"` and `\`, every
other number is copied by the printer and by the reader alike.  `BytesOK` says that the strings and
keys are byte strings; it is what makes the printed text a byte string. -/

mutual
def BytesOK : Json → Prop
  | .null => True
  | .bool _ => True
  | .num _ => True
  | .str s => ∀ b ∈ s, b < 256
  | .arr xs => BytesOKElems xs
  | .obj kvs => BytesOKMembers kvs
def BytesOKElems : List Json → Prop
  | [] => True
  | x :: xs => BytesOK x ∧ BytesOKElems xs
def BytesOKMembers : List (List Nat × Json) → Prop
  | [] => True
  | (k, v) :: m => (∀ b ∈ k, b < 256) ∧ BytesOK v ∧ BytesOKMembers m
end

/-- the statement under the hypothesis asked for (a special case of `parse_print`) -/
theorem parse_print_of_bytesOK (j : Json) (_hb : j.BytesOK) : parse (print j) = some j :=
  parse_print j

theorem decimal_lt (n : Nat) : ∀ c ∈ decimal n, c < 256 := by
  intro c hc
  have := (isDigit_iff c).1 (int_digits (decimal_int n) c hc)
  omega

theorem escByte_lt (b : Nat) (h : b < 256) : ∀ c ∈ escByte b, c < 256 := by
  have hex (n : Nat) (hn : n < 16) : hexDigitL n < 256 := by unfold hexDigitL; split <;> omega
  rcases escByte_shape b with ⟨e, he, hl, _⟩ | ⟨_, he⟩ | ⟨_, _, _, he⟩ <;> rw [he]
  · unfold Spec.JsonText.IsEscapeLetter at hl; simp; omega
  · have := hex (b / 16) (by omega); have := hex (b % 16) (by omega); simp; omega
  · simpa using h

theorem printStr_lt (s : List Nat) (h : ∀ b ∈ s, b < 256) : ∀ c ∈ printStr s, c < 256 := by
  simp only [printStr, List.forall_mem_append, List.forall_mem_singleton, List.mem_flatMap]
  exact ⟨⟨by omega, fun c ⟨b, hb, hc⟩ => escByte_lt b (h b hb) c hc⟩, by omega⟩

mutual
theorem print_lt : (j : Json) → j.BytesOK → ∀ c ∈ print j, c < 256
  | .null, _ => by simp [print]
  | .bool true, _ => by simp [print]
  | .bool false, _ => by simp [print]
  | .num n, _ => by rw [print]; exact decimal_lt n
  | .str s, h => by rw [print]; exact printStr_lt s (by simpa [BytesOK] using h)
  | .arr xs, h => by
    simp only [print, List.forall_mem_append, List.forall_mem_singleton]
    exact ⟨⟨by omega, printElems_lt xs (by simpa [BytesOK] using h)⟩, by omega⟩
  | .obj kvs, h => by
    simp only [print, List.forall_mem_append, List.forall_mem_singleton]
    exact ⟨⟨by omega, printMembers_lt kvs (by simpa [BytesOK] using h)⟩, by omega⟩
theorem printElems_lt : (xs : List Json) → BytesOKElems xs → ∀ c ∈ printElems xs, c < 256
  | [], _ => by simp [printElems]
  | [x], h => by rw [printElems]; exact print_lt x h.1
  | x :: y :: zs, h => by
    simp only [printElems, List.forall_mem_append, List.forall_mem_singleton]
    exact ⟨⟨print_lt x h.1, by omega⟩, printElems_lt (y :: zs) h.2⟩
theorem printMembers_lt : (kvs : List (List Nat × Json)) → BytesOKMembers kvs →
    ∀ c ∈ printMembers kvs, c < 256
  | [], _ => by simp [printMembers]
  | [(k, v)], h => by
    simp only [printMembers, List.forall_mem_append, List.forall_mem_singleton]
    exact ⟨⟨printStr_lt k h.1, by omega⟩, print_lt v h.2.1⟩
  | (k, v) :: m :: ms, h => by
    simp only [printMembers, List.forall_mem_append, List.forall_mem_singleton]
    exact ⟨⟨⟨⟨printStr_lt k h.1, by omega⟩, print_lt v h.2.1⟩, by omega⟩, printMembers_lt (m :: ms) h.2.2⟩
end

end Pelite.Json

/-! ## the printed text against the grammar of RFC 8259 (`Spec/JsonText.lean`) -/
namespace Pelite.Json
open Pelite.Spec Pelite.Spec.JsonText

theorem decimal_number (n : Nat) : Number (decimal n) := by
  have := Number.mk [] (decimal n) [] [] OptMinus.none (decimal_int n) OptFrac.none OptExp.none
  simpa using this

theorem hexDigitL_isHex (n : Nat) (h : n < 16) : IsHex (hexDigitL n) := by
  unfold hexDigitL IsHex IsDigit
  split <;> omega

theorem escByte_chr (b : Nat) : Chr (escByte b) := by
  rcases escByte_shape b with ⟨e, he, hl, _⟩ | ⟨_, he⟩ | ⟨_, _, _, he⟩ <;> rw [he]
  · exact Chr.escape e hl
  · exact Chr.uescape 48 48 _ _ (.inl ⟨by omega, by omega⟩) (.inl ⟨by omega, by omega⟩)
      (hexDigitL_isHex _ (by omega)) (hexDigitL_isHex _ (by omega))
  · exact Chr.unescaped b (by unfold Unescaped; omega)

theorem flatMap_escByte_chars (s : List Nat) : Chars (s.flatMap escByte) := by
  induction s with
  | nil => exact Chars.nil
  | cons b r ih =>
    rw [List.flatMap_cons]
    exact Chars.cons _ _ (escByte_chr b) ih

theorem printStr_str (s : List Nat) : Str (printStr s) := Str.mk _ (flatMap_escByte_chars s)

/-! ### structural characters without white space (the compact formatter writes none) -/

theorem tok_bare (c : Nat) : Tok c [c] := Tok.mk [] [] nofun nofun

mutual
theorem print_value : (j : Json) → Value (print j)
  | .null => Value.null
  | .bool true => Value.true_
  | .bool false => Value.false_
  | .num n => Value.number _ (decimal_number n)
  | .str s => Value.string _ (printStr_str s)
  | .arr [] => Value.arrayEmpty _ _ (tok_bare 0x5B) (tok_bare 0x5D)
  | .arr (x :: xs) => Value.array _ _ _ (tok_bare 0x5B) (printElems_elements (x :: xs) (by simp)) (tok_bare 0x5D)
  | .obj [] => Value.objectEmpty _ _ (tok_bare 0x7B) (tok_bare 0x7D)
  | .obj (m :: ms) => Value.object _ _ _ (tok_bare 0x7B) (printMembers_members (m :: ms) (by simp)) (tok_bare 0x7D)
theorem printElems_elements : (xs : List Json) → xs ≠ [] → Elements (printElems xs)
  | [], h => absurd rfl h
  | [x], _ => Elements.one _ (print_value x)
  | x :: y :: zs, _ =>
    Elements.more _ _ _ (print_value x) (tok_bare 0x2C) (printElems_elements (y :: zs) (by simp))
theorem printMembers_members : (kvs : List (List Nat × Json)) → kvs ≠ [] → Members (printMembers kvs)
  | [], h => absurd rfl h
  | [(k, v)], _ => Members.one _ _ _ (printStr_str k) (tok_bare 0x3A) (print_value v)
  | (k, v) :: m :: ms, _ =>
    Members.more _ _ _ _ _ (printStr_str k) (tok_bare 0x3A) (print_value v) (tok_bare 0x2C)
      (printMembers_members (m :: ms) (by simp))
end

theorem value_jsonText {t : List Nat} (h : Value t) : JsonText t :=
  ⟨[], t, [], (by intro x hx; cases hx), h, (by intro x hx; cases hx), by simp⟩

/-! ### what the grammar refuses (it is not vacuous) -/

/-- first character of a value: white space (in front of `[` / `{`), a literal's first letter, `-`, a
digit, `"`, `[` or `{` -/
def ValueStart (c : Nat) : Prop :=
  IsWs c ∨ c = 0x66 ∨ c = 0x6E ∨ c = 0x74 ∨ c = 0x2D ∨ IsDigit c ∨ c = 0x22 ∨ c = 0x5B ∨ c = 0x7B

theorem tok_head {c : Nat} {t : List Nat} (h : Tok c t) : ∃ x r, t = x :: r ∧ (IsWs x ∨ x = c) := by
  cases h with
  | mk w1 w2 h1 h2 =>
    cases w1 with
    | nil => exact ⟨c, w2, by simp, Or.inr rfl⟩
    | cons a w => exact ⟨a, w ++ [c] ++ w2, by simp, Or.inl (h1 a (by simp))⟩

theorem value_head {t : List Nat} (h : Value t) : ∃ x r, t = x :: r ∧ ValueStart x := by
  cases h with
  | false_ | null | true_ => exact ⟨_, _, rfl, by unfold ValueStart; simp⟩
  | number _ hn =>
    cases hn with
    | mk m i f e hm hi _ _ =>
      obtain ⟨x, r, rfl, hdx⟩ := int_head hi
      cases hm with
      | none => exact ⟨x, _, rfl, by unfold ValueStart; simp [hdx]⟩
      | minus => exact ⟨0x2D, _, rfl, by unfold ValueStart; simp⟩
  | string _ hs =>
    cases hs with
    | mk cs _ => exact ⟨_, _, rfl, by unfold ValueStart; simp⟩
  | arrayEmpty b e hb _ | array b es e hb _ _ | objectEmpty b e hb _ | object b ms e hb _ _ =>
    obtain ⟨x, r, rfl, hc⟩ := tok_head hb
    exact ⟨x, _, rfl, by unfold ValueStart; rcases hc with hc | hc <;> simp [hc]⟩

theorem jsonText_head {t : List Nat} (h : JsonText t) : ∃ x r, t = x :: r ∧ ValueStart x := by
  obtain ⟨w1, v, w2, h1, hv, _, rfl⟩ := h
  obtain ⟨x, r, hx, hs⟩ := value_head hv
  cases w1 with
  | nil => exact ⟨x, r ++ w2, by simp [hx], hs⟩
  | cons a w => exact ⟨a, w ++ v ++ w2, by simp, Or.inl (h1 a (by simp))⟩

end Pelite.Json
