import PeliteModel.Model.Relocs
import PeliteModel.Lemmas.Window
/-! Helper lemmas for C14: the block iterator unfolded (`nextBlock_eq`, `blocksFrom_eq`, `blocksFrom_induct`); the output of `build` read back
block by block (`built_windows`, `built_spec`); the input on which the `u32` size field wraps (`huge_blocks`). -/
namespace Pelite.Relocs

/-- the block `peek` produces at `off` when at least 8 bytes remain -/
def blockAt (data : Bytes) (off : Nat) : Block :=
  { off := off, va := le32 data off, size := le32 data (off + 4),
    nwords := (min (le32 data (off + 4)) (data.size - off) - 8) / 2 }

theorem nextBlock_eq (data : Bytes) (off : Nat) :
    nextBlock data off =
      if off + 8 ≤ data.size then some (blockAt data off, off + step (le32 data (off + 4)) (data.size - off)) else none := by
  unfold nextBlock peek blockAt
  by_cases h : off + 8 ≤ data.size
  · simp only [if_pos h, if_pos (show data.size - off ≥ 8 by omega)]
  · simp only [if_neg h, if_neg (show ¬ data.size - off ≥ 8 by omega)]

theorem blocksFrom_eq (data : Bytes) (off : Nat) :
    blocksFrom data off = match nextBlock data off with
      | none => []
      | some (b, off') => b :: blocksFrom data off' := by
  rw [blocksFrom, nextBlock]
  split <;> simp [*]

theorem blocksFrom_of_next_some {data : Bytes} {off : Nat} {b : Block} {off' : Nat}
    (h : nextBlock data off = some (b, off')) : blocksFrom data off = b :: blocksFrom data off' := by
  rw [blocksFrom_eq, h]

theorem blocksFrom_of_next_none {data : Bytes} {off : Nat} (h : nextBlock data off = none) :
    blocksFrom data off = [] := by
  rw [blocksFrom_eq, h]

theorem next_none_of_blocksFrom_nil {data : Bytes} {off : Nat} (h : blocksFrom data off = []) :
    nextBlock data off = none := by
  rw [blocksFrom_eq] at h
  split at h
  · assumption
  · cases h

theorem blocksFrom_of_lt {data : Bytes} {off : Nat} (h : data.size < off + 8) : blocksFrom data off = [] := by
  rw [blocksFrom_eq, nextBlock_eq, if_neg (by omega)]

theorem blocksFrom_of_ge {data : Bytes} {off : Nat} (h : off + 8 ≤ data.size) :
    blocksFrom data off =
      blockAt data off :: blocksFrom data (off + step (le32 data (off + 4)) (data.size - off)) := by
  rw [blocksFrom_eq, nextBlock_eq, if_pos h]

theorem blocksFrom_cons_inv {data : Bytes} {off : Nat} {b : Block} {rest : List Block}
    (h : blocksFrom data off = b :: rest) :
    off + 8 ≤ data.size ∧ b = blockAt data off ∧
      rest = blocksFrom data (off + step (le32 data (off + 4)) (data.size - off)) := by
  by_cases hge : off + 8 ≤ data.size
  · rw [blocksFrom_of_ge hge] at h; cases h; exact ⟨hge, rfl, rfl⟩
  · rw [blocksFrom_of_lt (by omega)] at h; cases h

/-! ### `step`; induction along the block walk -/

/-- `step` without the 64-bit wrap-around, which a `u32` size cannot reach -/
theorem step_eq {size : Nat} (hs : size < 4294967296) (rem : Nat) :
    step size rem = min ((max size 8 + 3) / 4 * 4) rem := by
  unfold step alignTo64 wadd64
  rw [Nat.mod_eq_of_lt (by omega)]

theorem step_eq_size {size rem : Nat} (hs : size < 4294967296) (h4 : size % 4 = 0)
    (h8 : 8 ≤ size) (hle : size ≤ rem) : step size rem = size := by
  rw [step_eq hs, Nat.max_eq_left h8, show (size + 3) / 4 * 4 = size by omega, Nat.min_eq_left hle]

theorem blocksFrom_induct {data : Bytes} {P : Nat → List Block → Prop}
    (stop : ∀ off, data.size < off + 8 → P off [])
    (next : ∀ off, off + 8 ≤ data.size → ∀ off', off' = off + step (le32 data (off + 4)) (data.size - off) →
      off + 8 ≤ off' → off' ≤ data.size → P off' (blocksFrom data off') → P off (blockAt data off :: blocksFrom data off'))
    (off : Nat) : P off (blocksFrom data off) := by
  generalize hn : data.size - off = n
  induction n using Nat.strongRecOn generalizing off with
  | ind n ih =>
    by_cases hlt : data.size < off + 8
    · rw [blocksFrom_of_lt hlt]; exact stop off hlt
    · have hge : off + 8 ≤ data.size := by omega
      have h1 := step_pos (le32_lt data (off + 4)) (rem := data.size - off) (by omega)
      have h2 : step (le32 data (off + 4)) (data.size - off) ≤ data.size - off := Nat.min_le_right _ _
      rw [blocksFrom_of_ge hge]
      exact next off hge _ rfl (by omega) (by omega) (ih _ (by omega) _ rfl)

theorem blocksFrom_length_le (data : Bytes) (off : Nat) :
    (blocksFrom data off).length ≤ (data.size - off) / 8 := by
  induction off using blocksFrom_induct (data := data) with
  | stop off h => simp
  | next off h off' _ h1 h2 ih => simp only [List.length_cons]; omega

theorem mem_blocksFrom {data : Bytes} {off : Nat} {b : Block} (h4 : off % 4 = 0)
    (hmem : b ∈ blocksFrom data off) :
    ∃ o, off ≤ o ∧ o % 4 = 0 ∧ o + 8 ≤ data.size ∧ b = blockAt data o := by
  induction off using blocksFrom_induct (data := data) with
  | stop off h => cases hmem
  | next off h off' he h1 h2 ih =>
    rcases List.mem_cons.mp hmem with rfl | hmem
    · exact ⟨off, Nat.le_refl _, h4, h, rfl⟩
    · -- the step is a multiple of four unless it runs into the end of the directory
      have h := step_eq (le32_lt data (off + 4)) (data.size - off)
      by_cases h3 : off' % 4 = 0
      · obtain ⟨o, ho1, ho⟩ := ih h3 hmem
        exact ⟨o, by omega, ho⟩
      · rw [blocksFrom_of_lt (by omega)] at hmem
        cases hmem

@[simp] theorem length_u16le (w : Nat) : (u16le w).length = 2 := rfl

/-! ### type/offset words -/

theorem encodeTypeOffset_eq {start rva ty : Nat} (h1 : start ≤ rva) (h2 : rva ≤ start + 4095)
    (hty : ty ≤ 15) : encodeTypeOffset start rva ty = (rva - start) + ty * 4096 := by
  unfold encodeTypeOffset
  have hd : rva - start < 2 ^ 12 := by omega
  rw [Nat.or_comm, ← Nat.shiftLeft_add_eq_or_of_lt hd, Nat.shiftLeft_eq]
  omega

theorem encodeTypeOffset_lt (start rva ty : Nat) : encodeTypeOffset start rva ty < 65536 := by
  unfold encodeTypeOffset; omega

theorem typeOf_encode {start rva ty : Nat} (h1 : start ≤ rva) (h2 : rva ≤ start + 4095)
    (hty : ty ≤ 15) : typeOf (encodeTypeOffset start rva ty) = ty := by
  rw [encodeTypeOffset_eq h1 h2 hty]; unfold typeOf; omega

theorem rvaOf_encode {start rva ty : Nat} (h1 : start ≤ rva) (h2 : rva ≤ start + 4095)
    (hty : ty ≤ 15) (hr : rva < 4294967296) : rvaOf start (encodeTypeOffset start rva ty) = rva := by
  rw [encodeTypeOffset_eq h1 h2 hty]; unfold rvaOf wadd32; omega

/-! ### one built block -/

/-- the 16-bit words of one block of `build`, padding included -/
def blockWords (start : Nat) (ps : List (Nat × Nat)) : List Nat :=
  ps.map (fun p => encodeTypeOffset start p.1 p.2) ++ (if ps.length % 2 = 1 then [0] else [])

theorem buildBlock_eq (start : Nat) (ps : List (Nat × Nat)) :
    buildBlock start ps =
      Resources.le32b start ++
        (Resources.le32b (alignTo64 (8 + 2 * ps.length) 4) ++ Resources.encWords (blockWords start ps)) := by
  unfold buildBlock blockWords
  simp only [Resources.u16le_eq, Resources.u32le_eq, ← Resources.flatMap_le16b, List.flatMap_append, List.flatMap_map,
    List.append_assoc]
  split <;> simp

theorem blockWords_lt (start : Nat) (ps : List (Nat × Nat)) : ∀ w ∈ blockWords start ps, w < 65536 := by
  intro w hw
  unfold blockWords at hw
  rcases List.mem_append.mp hw with h | h
  · obtain ⟨p, -, rfl⟩ := List.mem_map.mp h
    exact encodeTypeOffset_lt _ _ _
  · split at h
    · simp at h; omega
    · cases h

theorem length_blockWords (start : Nat) (ps : List (Nat × Nat)) :
    (blockWords start ps).length = ps.length + ps.length % 2 := by
  unfold blockWords
  split <;> simp <;> omega

theorem alignTo64_block {n : Nat} (hfit : 2 * n + 11 < 4294967296) :
    alignTo64 (8 + 2 * n) 4 = 8 + 2 * (n + n % 2) := by
  unfold alignTo64 wadd64; omega

theorem length_buildBlock (start : Nat) (ps : List (Nat × Nat)) :
    (buildBlock start ps).length = 8 + 2 * (ps.length + ps.length % 2) := by
  rw [buildBlock_eq]
  simp only [← Resources.flatMap_le16b, List.length_append, Resources.le32b_length, List.length_flatMap,
    Resources.le16b_length, List.map_const', List.sum_replicate_nat, length_blockWords]
  omega

theorem built_windows (pre post : List UInt8) (start : Nat) (chunk : List (Nat × Nat)) :
    Resources.Window (pre ++ (buildBlock start chunk ++ post)).toArray pre.length (Resources.le32b start) ∧
    Resources.Window (pre ++ (buildBlock start chunk ++ post)).toArray (pre.length + 4)
      (Resources.le32b (alignTo64 (8 + 2 * chunk.length) 4)) ∧
    Resources.Window (pre ++ (buildBlock start chunk ++ post)).toArray (pre.length + 8)
      (Resources.encWords (blockWords start chunk)) := by
  have h : Resources.Window (pre ++ (buildBlock start chunk ++ post)).toArray pre.length (buildBlock start chunk) :=
    Resources.ReadAt.window ⟨pre, post, by simp, rfl⟩
  generalize (pre ++ (buildBlock start chunk ++ post)).toArray = data at *
  rw [buildBlock_eq] at h
  obtain ⟨h1, h2⟩ := Resources.Window.append.1 h
  obtain ⟨h2, h3⟩ := Resources.Window.append.1 h2
  exact ⟨h1, h2, h3⟩

theorem built_header_raw (pre post : List UInt8) (start : Nat) (chunk : List (Nat × Nat)) :
    le32 (pre ++ (buildBlock start chunk ++ post)).toArray pre.length = start % 4294967296 ∧
    le32 (pre ++ (buildBlock start chunk ++ post)).toArray (pre.length + 4) =
      alignTo64 (8 + 2 * chunk.length) 4 % 4294967296 :=
  have ⟨h1, h2, _⟩ := built_windows pre post start chunk
  ⟨h1.le32_mod, h2.le32_mod⟩

theorem built_header (pre post : List UInt8) (start : Nat) (chunk : List (Nat × Nat))
    (hstart : start < 4294967296) (hfit : 2 * chunk.length + 11 < 4294967296) :
    le32 (pre ++ (buildBlock start chunk ++ post)).toArray pre.length = start ∧
    le32 (pre ++ (buildBlock start chunk ++ post)).toArray (pre.length + 4) =
      (buildBlock start chunk).length := by
  obtain ⟨h1, h2⟩ := built_header_raw pre post start chunk
  rw [h1, h2, length_buildBlock, alignTo64_block hfit]
  omega

theorem blocksFrom_built (pre post : List UInt8) (start : Nat) (chunk : List (Nat × Nat))
    (hstart : start < 4294967296) (hfit : 2 * chunk.length + 11 < 4294967296) :
    blocksFrom (pre ++ (buildBlock start chunk ++ post)).toArray pre.length =
      ⟨pre.length, start, (buildBlock start chunk).length, (blockWords start chunk).length⟩ ::
        blocksFrom (pre ++ (buildBlock start chunk ++ post)).toArray
          (pre.length + (buildBlock start chunk).length) := by
  obtain ⟨hva, hsz⟩ := built_header pre post start chunk hstart hfit
  have hlen := length_buildBlock start chunk
  have hsize : (pre ++ (buildBlock start chunk ++ post)).toArray.size =
      pre.length + ((buildBlock start chunk).length + post.length) := by simp
  rw [blocksFrom_of_ge (by omega)]
  congr 1
  · simp only [blockAt, hva, hsz, hsize, length_blockWords]
    congr 1
    omega
  · rw [hsz, step_eq_size (by omega) (by omega) (by omega) (by omega)]

theorem words_built (pre post : List UInt8) (start : Nat) (chunk : List (Nat × Nat)) (va size : Nat) :
    Block.words (pre ++ (buildBlock start chunk ++ post)).toArray
      ⟨pre.length, va, size, (blockWords start chunk).length⟩ = blockWords start chunk :=
  (built_windows pre post start chunk).2.2.words (blockWords_lt start chunk)

theorem runLen_take_mem (start stop : Nat) (l : List (Nat × Nat)) :
    ∀ p ∈ l.take (runLen start stop l), start ≤ p.1 ∧ p.1 ≤ stop := by
  induction l with
  | nil => intro p hp; simp [runLen] at hp
  | cons q l ih =>
    intro p hp
    unfold runLen at hp
    split at hp
    · next hq =>
      rw [List.take_succ_cons] at hp
      rcases List.mem_cons.mp hp with rfl | hp
      · exact hq
      · exact ih p hp
    · simp at hp

theorem runLen_pos (p : Nat × Nat) (ps : List (Nat × Nat)) :
    1 ≤ runLen (p.1 / 4096 * 4096) (p.1 / 4096 * 4096 + 4095) (p :: ps) := by
  unfold runLen
  rw [if_pos (by omega)]
  omega

theorem flat_blockWords (start : Nat) (chunk : List (Nat × Nat))
    (h : ∀ p ∈ chunk, start ≤ p.1 ∧ p.1 ≤ start + 4095 ∧ p.1 < 4294967296 ∧ 1 ≤ p.2 ∧ p.2 ≤ 15) :
    (blockWords start chunk).filterMap
      (fun w => if typeOf w ≠ 0 then some (rvaOf start w, typeOf w) else none) = chunk := by
  unfold blockWords
  rw [List.filterMap_append]
  have hpad : (if chunk.length % 2 = 1 then [0] else []).filterMap
      (fun w => if typeOf w ≠ 0 then some (rvaOf start w, typeOf w) else none) = [] := by
    split <;> simp [typeOf]
  rw [hpad, List.append_nil]
  clear hpad
  induction chunk with
  | nil => rfl
  | cons p ps ih =>
    obtain ⟨h1, h2, h3, h4, h5⟩ := h p (by simp)
    rw [List.map_cons, List.filterMap_cons, typeOf_encode h1 h2 h5, rvaOf_encode h1 h2 h5 h3]
    have : ¬ p.2 = 0 := by omega
    simp only [ne_eq, this, not_false_eq_true, if_true]
    rw [ih (fun q hq => h q (by simp [hq]))]

theorem flatBlock_built (pre post : List UInt8) (start : Nat) (chunk : List (Nat × Nat)) (size : Nat)
    (h : ∀ p ∈ chunk, start ≤ p.1 ∧ p.1 ≤ start + 4095 ∧ p.1 < 4294967296 ∧ 1 ≤ p.2 ∧ p.2 ≤ 15) :
    flatBlock (pre ++ (buildBlock start chunk ++ post)).toArray
      ⟨pre.length, start, size, (blockWords start chunk).length⟩ = chunk := by
  unfold flatBlock
  rw [words_built]
  exact flat_blockWords start chunk h

/-! ### the whole output of `build` -/

/-- The `SizeOfBlock` field is a `u32`: a page with 2^31-5 or more entries cannot be represented
(the Rust code truncates with `as u32`).  Either bound below excludes that. -/
def Fits (ps : List (Nat × Nat)) : Prop :=
  ps.length < 2147483643 ∨ (buildList ps).length < 4294967296

theorem Fits.chunk {p : Nat × Nat} {ps : List (Nat × Nat)} (h : Fits (p :: ps)) :
    2 * ((p :: ps).take (runLen (p.1 / 4096 * 4096) (p.1 / 4096 * 4096 + 4095) (p :: ps))).length + 11
        < 4294967296 ∧
      Fits ((p :: ps).drop (runLen (p.1 / 4096 * 4096) (p.1 / 4096 * 4096 + 4095) (p :: ps))) := by
  have hle := runLen_le (p.1 / 4096 * 4096) (p.1 / 4096 * 4096 + 4095) (p :: ps)
  rcases h with h | h
  · refine ⟨?_, Or.inl ?_⟩
    · rw [List.length_take]; omega
    · rw [List.length_drop]; omega
  · rw [buildList, List.length_append, length_buildBlock, List.length_take] at h
    refine ⟨?_, Or.inr ?_⟩
    · rw [List.length_take]; omega
    · omega

theorem built_spec (ps : List (Nat × Nat)) (pre : List UInt8) (hfit : Fits ps)
    (hps : ∀ p ∈ ps, p.1 < 4294967296) :
    (∀ b ∈ blocksFrom (pre ++ buildList ps).toArray pre.length,
      b.va % 4096 = 0 ∧ b.size % 4 = 0 ∧ 12 ≤ b.size ∧
        b.off + b.size ≤ pre.length + (buildList ps).length) ∧
    ((∀ p ∈ ps, 1 ≤ p.2 ∧ p.2 ≤ 15) →
      (blocksFrom (pre ++ buildList ps).toArray pre.length).flatMap
        (flatBlock (pre ++ buildList ps).toArray) = ps) := by
  fun_induction buildList ps generalizing pre with
  | case1 =>
    rw [blocksFrom_of_lt (by simp)]
    exact ⟨nofun, fun _ => rfl⟩
  | case2 p ps start stop n ih =>
    simp only [n, stop, start] at ih ⊢
    obtain ⟨hc, hfit'⟩ := hfit.chunk
    have hpos := runLen_pos p ps
    have hle := runLen_le (p.1 / 4096 * 4096) (p.1 / 4096 * 4096 + 4095) (p :: ps)
    have hp := hps p (by simp)
    have hbl := length_buildBlock (p.1 / 4096 * 4096)
      ((p :: ps).take (runLen (p.1 / 4096 * 4096) (p.1 / 4096 * 4096 + 4095) (p :: ps)))
    rw [List.length_take] at hbl
    rw [blocksFrom_built pre _ _ _ (by omega) hc, ← List.append_assoc, ← List.length_append]
    obtain ⟨ih1, ih2⟩ := ih (pre ++ buildBlock _ _) hfit' (fun q hq => hps q (List.mem_of_mem_drop hq))
    refine ⟨fun b hb => ?_, fun hty => ?_⟩
    · rcases List.mem_cons.mp hb with rfl | hb
      · simp only [List.length_append]
        omega
      · have := ih1 b hb
        simp only [List.length_append] at this ⊢
        omega
    · rw [List.flatMap_cons, ih2 (fun q hq => hty q (List.mem_of_mem_drop hq)), List.append_assoc,
        flatBlock_built, List.take_append_drop]
      intro q hq
      have h1 := runLen_take_mem _ _ _ q hq
      have h2 := hps q (List.mem_of_mem_take hq)
      have h3 := hty q (List.mem_of_mem_take hq)
      omega

/-! ### the `SizeOfBlock` truncation -/

theorem runLen_replicate (k : Nat) : runLen 0 4095 (List.replicate k (0, 1)) = k := by
  induction k with
  | zero => rfl
  | succ k ih => rw [List.replicate_succ, runLen, if_pos (by simp), ih]

theorem buildList_replicate (k : Nat) :
    buildList (List.replicate (k + 1) (0, 1)) = buildBlock 0 (List.replicate (k + 1) (0, 1)) := by
  have h := buildList.eq_2 (0, 1) (List.replicate k (0, 1))
  rw [← List.replicate_succ] at h
  simp only [Nat.zero_div, Nat.zero_mul, Nat.zero_add] at h
  rw [runLen_replicate] at h
  rw [h]
  simp [buildList]

/-- The data `build` produces for 2147483644 entries on page 0: the first header says
`SizeOfBlock = 0` (2^32 truncated) and the iterator resynchronises 8 bytes later, inside the
entries: the block found at offset 8 reads two entry words `0x1000` as its `VirtualAddress`, 0x10001000 = 268439552, and the
first pair reported is that page with type 1.  (`k + 1` keeps the list symbolic: nothing may evaluate 2^31 entries.) -/
theorem huge_blocks (k : Nat) (hk : k + 1 = 2147483644) :
    ∃ tl, blocks (build (List.replicate (k + 1) (0, 1))) = ⟨0, 0, 0, 0⟩ :: tl ∧
      ∃ tl', flat (build (List.replicate (k + 1) (0, 1))) = (268439552, 1) :: tl' := by
  generalize hps : List.replicate (k + 1) ((0, 1) : Nat × Nat) = ps
  have hlen : ps.length = k + 1 := by rw [← hps, List.length_replicate]
  have hdata : build ps = (([] : List UInt8) ++ (buildBlock 0 ps ++ [])).toArray := by
    rw [build, ← hps, buildList_replicate]; simp
  generalize hd : build ps = data at *
  have hsize : data.size = 4294967296 := by
    rw [hdata]; simp [length_buildBlock, hlen]; omega
  obtain ⟨hva, hsz⟩ := built_header_raw [] [] 0 ps
  rw [← hdata] at hva hsz
  simp only [List.length_nil, Nat.zero_add, Nat.zero_mod] at hva hsz
  have hsz0 : le32 data 4 = 0 := by
    rw [hsz, hlen]; unfold alignTo64 wadd64; omega
  have hws : blockWords 0 ps = List.replicate (k + 1) 4096 := by
    unfold blockWords
    rw [if_neg (by omega), ← hps]
    simp [encodeTypeOffset]
  have hW := words_built [] [] 0 ps 0 0
  rw [← hdata, hws] at hW
  have hword : ∀ i, i < k + 1 → le16 data (8 + 2 * i) = 4096 := by
    intro i hi
    have := congrArg (fun l => l[i]?) hW
    simpa [Block.words, hi] using this
  have h8 : le32 data 8 = 268439552 := by
    rw [le32_eq_le16, show 8 = 8 + 2 * 0 from rfl, hword 0 (by omega),
      show 8 + 2 * 0 + 2 = 8 + 2 * 1 from rfl, hword 1 (by omega)]
  have h12 : le32 data 12 = 268439552 := by
    rw [le32_eq_le16, show 12 = 8 + 2 * 2 from rfl, hword 2 (by omega),
      show 8 + 2 * 2 + 2 = 8 + 2 * 3 from rfl, hword 3 (by omega)]
  have h16 : le16 data 16 = 4096 := by
    rw [show 16 = 8 + 2 * 4 from rfl, hword 4 (by omega)]
  have hb0 : blocksFrom data 0 = ⟨0, 0, 0, 0⟩ :: blocksFrom data 8 := by
    rw [blocksFrom_of_ge (by omega)]
    simp only [blockAt, Nat.zero_add, hva, hsz0, hsize]
    rfl
  have hb8 : blocksFrom data 8 = blockAt data 8 ::
      blocksFrom data (8 + step (le32 data (8 + 4)) (data.size - 8)) :=
    blocksFrom_of_ge (by omega)
  refine ⟨_, hb0, ?_⟩
  obtain ⟨m, hm⟩ : ∃ m, (blockAt data 8).nwords = m + 1 := by
    refine ⟨(blockAt data 8).nwords - 1, ?_⟩
    simp only [blockAt, h12, hsize]
    omega
  have hfb : ∃ t, flatBlock data (blockAt data 8) = (268439552, 1) :: t := by
    unfold flatBlock Block.words
    rw [hm, List.range_succ_eq_map, List.map_cons, List.filterMap_cons]
    simp only [blockAt, Nat.mul_zero, Nat.add_zero, h16, h8]
    exact ⟨_, rfl⟩
  obtain ⟨t, ht⟩ := hfb
  unfold flat blocks
  rw [hb0, hb8, List.flatMap_cons, List.flatMap_cons, ht]
  exact ⟨_, rfl⟩

theorem huge_not_wellformed (k : Nat) (hk : k + 1 = 2147483644) :
    ∃ b ∈ blocks (build (List.replicate (k + 1) (0, 1))), b.size = 0 := by
  obtain ⟨tl, h, -⟩ := huge_blocks k hk
  exact ⟨⟨0, 0, 0, 0⟩, by rw [h]; exact List.mem_cons_self, rfl⟩

theorem huge_not_roundtrip (k : Nat) (hk : k + 1 = 2147483644) :
    flat (build (List.replicate (k + 1) (0, 1))) ≠ List.replicate (k + 1) (0, 1) := by
  obtain ⟨-, -, tl', h⟩ := huge_blocks k hk
  rw [h, List.replicate_succ]
  intro hc
  injection hc with h1 _
  injection h1 with h1 _
  omega

theorem huge_input_ok (k : Nat) :
    ∀ p ∈ List.replicate (k + 1) ((0, 1) : Nat × Nat), p.1 < 4294967296 ∧ 1 ≤ p.2 ∧ p.2 ≤ 15 := by
  intro p hp
  rw [List.eq_of_mem_replicate hp]
  omega

end Pelite.Relocs
