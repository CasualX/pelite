import PeliteModel.Lemmas.PatternSem
/-!
Lemmas for C11 (semantic half): the continuation semantics `semI` / `denoteImpl` (`Spec/PatternSemImpl.lean`) —
unfolding equations of `semI`, `dropTrailing`, `scopeOK`, and the slot facts.
-/
namespace Pelite.PatSem
open Pelite.Pattern Pelite.Exec

theorem semI_plain (S : ScanI) (k : Nat) {it : Item} (r : List Item) (c : Nat) (κ : Kont) (h : plain it = true) :
    semI S k (it :: r) c κ = bindK (semItem S k it c) (fun c1 => semI S (slotsItem k it) r c1 κ) :=
  semI.eq_5 S k c κ it r (plain_ne h).1 (plain_ne h).2.1 (plain_ne h).2.2

theorem bindK_nil (c : Nat) (κ : Kont) : bindK (some (c, [])) κ = κ c := addCaps_nil _

theorem bindK_done (res : Option (Nat × Caps)) : bindK res Kont.done = res := by
  cases res with
  | none => rfl
  | some x => obtain ⟨c, w⟩ := x; simp [bindK, Kont.done, addCaps]

theorem bindK_assoc (x : Option (Nat × Caps)) (f : Nat → Option (Nat × Caps)) (κ : Kont) :
    bindK x (fun c1 => bindK (f c1) κ) =
      bindK (match x with
             | none => none
             | some (c1, w1) => addCaps w1 (f c1)) κ := by
  cases x with
  | none => rfl
  | some x =>
    obtain ⟨c1, w1⟩ := x
    simp only [bindK]
    cases f c1 with
    | none => rfl
    | some y =>
      obtain ⟨c2, w2⟩ := y
      simp only [addCaps]
      cases κ c2 with
      | none => rfl
      | some z => obtain ⟨c3, w3⟩ := z; simp [List.append_assoc]

/-- the meaning of `j { body }` as a part of a sequence: the body is a frame of its own -/
def groupRes (S : ScanI) (k : Nat) (j : Jump) (body : List Item) (c : Nat) : Option (Nat × Caps) :=
  match j.target S c with
  | none => none
  | some t =>
    match semI S k body t Kont.done with
    | none => none
    | some (_, w) => some (addRva c (j.width S), w)

theorem semI_group_eq (S : ScanI) (k : Nat) (j : Jump) (gap : List UInt8) (body r : List Item) (c : Nat) (κ : Kont) :
    semI S k (.group j gap body :: r) c κ =
      bindK (groupRes S k j body c) (fun c1 => semI S (slotsItems k body) r c1 κ) := by
  rw [semI]
  unfold groupRes bindK
  cases j.target S c with
  | none => rfl
  | some t =>
    simp only
    cases semI S k body t Kont.done <;> rfl

theorem dropTrailing_plain (e : Bool) {it : Item} (r : List Item) (h : plain it = true) :
    dropTrailing e (it :: r) = it :: dropTrailing e r :=
  dropTrailing.eq_5 e it r (plain_ne h).1 (plain_ne h).2.1 (plain_ne h).2.2

theorem dropTrailingAlts_cons_ne (e : Bool) (b : List Item) {bs : List (List Item)} (h : bs ≠ []) :
    dropTrailingAlts e (b :: bs) = dropTrailing false b :: dropTrailingAlts e bs :=
  dropTrailingAlts.eq_3 e b bs h

theorem dropTrailingAlts_cons2 (e : Bool) (b b' : List Item) (bs : List (List Item)) :
    dropTrailingAlts e (b :: b' :: bs) = dropTrailing false b :: dropTrailingAlts e (b' :: bs) :=
  dropTrailingAlts_cons_ne e b (List.cons_ne_nil _ _)

theorem dropTrailingAlts_ne (e : Bool) : ∀ bodies : List (List Item), bodies ≠ [] → dropTrailingAlts e bodies ≠ []
  | [], h => absurd rfl h
  | [b], _ => by simp [dropTrailingAlts]
  | b :: b' :: bs, _ => by rw [dropTrailingAlts_cons2]; simp

theorem semAltsI_cons_ne (S : ScanI) (k : Nat) (b : List Item) {bs : List (List Item)} (h : bs ≠ []) (c : Nat) (κ : Kont) :
    semAltsI S k (b :: bs) c κ =
      match semI S k b c Kont.done with
      | some (c1, w1) => addCaps w1 (κ c1)
      | none => semAltsI S k bs c κ :=
  semAltsI.eq_3 S k c κ b bs h

theorem semAltsI_cons2 (S : ScanI) (k : Nat) (b b' : List Item) (bs : List (List Item)) (c : Nat) (κ : Kont) :
    semAltsI S k (b :: b' :: bs) c κ =
      match semI S k b c Kont.done with
      | some (c1, w1) => addCaps w1 (κ c1)
      | none => semAltsI S k (b' :: bs) c κ :=
  semAltsI_cons_ne S k b (List.cons_ne_nil _ _) c κ

theorem dropTrailing_false_both : (∀ items : List Item, dropTrailing false items = items) ∧
    (∀ bodies : List (List Item), dropTrailingAlts false bodies = bodies) := by
  apply seqAltsInd (P := fun items => dropTrailing false items = items)
    (Q := fun bodies => dropTrailingAlts false bodies = bodies)
  · rw [dropTrailing]
  · intro it r h ih; rw [dropTrailing_plain _ _ h, ih]
  · intro a b r ih; rw [dropTrailing, ih]; rfl
  · intro j gap body r ihb ih; rw [dropTrailing, ih, Bool.false_and, ihb]
  · intro bodies r ihb ih; rw [dropTrailing, ih, Bool.false_and, ihb]
  · rw [dropTrailingAlts]
  · intro b bs hb hbs
    cases bs with
    | nil => simp only [dropTrailingAlts, hb]
    | cons b' bs => rw [dropTrailingAlts_cons2, hb, hbs]

theorem dropTrailing_false : ∀ items : List Item, dropTrailing false items = items := dropTrailing_false_both.1

theorem scopeOK_plain (t : Bool) {it : Item} (r : List Item) (h : plain it = true) : scopeOK t (it :: r) = scopeOK t r :=
  scopeOK.eq_5 t it r (plain_ne h).1 (plain_ne h).2.1 (plain_ne h).2.2

theorem scopeOK_tail {t : Bool} {it : Item} {r : List Item} (h : scopeOK t (it :: r) = true) : scopeOK t r = true := by
  cases it <;> simp only [scopeOK, Bool.and_eq_true] at h <;> first | exact h | exact h.2

theorem scopeOKAlts_cons2 (tl : Bool) (b b' : List Item) (bs : List (List Item)) :
    scopeOKAlts tl (b :: b' :: bs) = (scopeOK true b && scopeOKAlts tl (b' :: bs)) :=
  scopeOKAlts.eq_3 tl b (b' :: bs) (List.cons_ne_nil _ _)

theorem slots_dropTrailing_both :
    (∀ (items : List Item) (k : Nat) (e : Bool), slotsItems k (dropTrailing e items) = slotsItems k items) ∧
    (∀ (bodies : List (List Item)) (k : Nat) (e : Bool), slotsAlts k (dropTrailingAlts e bodies) = slotsAlts k bodies) := by
  refine items_induction ?_ ?_ ?_ ?_
  · intro k e; rw [dropTrailing]
  · intro it r hg ha ih k e
    cases it with
    | range a b =>
      rw [dropTrailing, slotsItems, slotsItems, ih]
      cases e && r.all trailingItem <;> rfl
    | group j gap body =>
      rw [dropTrailing]; simp only [slotsItems, slotsItem]; rw [hg _ _ _ rfl, ih]
    | alt bodies =>
      rw [dropTrailing]; simp only [slotsItems, slotsItem]; rw [ha _ rfl, ih]
    | _ => rw [dropTrailing_plain _ _ rfl]; simp only [slotsItems]; exact ih _ _
  · intro k e; rw [dropTrailingAlts]
  · intro b bs hb hbs k e
    cases bs with
    | nil => simp only [dropTrailingAlts, slotsAlts, hb]
    | cons b' bs => rw [dropTrailingAlts_cons2, slotsAlts, slotsAlts, hb, hbs]

theorem slots_dropTrailing (items : List Item) (k : Nat) (e : Bool) :
    slotsItems k (dropTrailing e items) = slotsItems k items := slots_dropTrailing_both.1 items k e

theorem slots_dropTrailingAlts (bodies : List (List Item)) (k : Nat) (e : Bool) :
    slotsAlts k (dropTrailingAlts e bodies) = slotsAlts k bodies := slots_dropTrailing_both.2 bodies k e

theorem semI_slots (S : ScanI) : ∀ (items : List Item) (lo k hi c : Nat) (κ : Kont),
    (∀ c1, CapsIn lo hi (κ c1)) → lo ≤ k → slotsItems k items ≤ hi → CapsIn lo hi (semI S k items c κ) := by
  apply seqInd
    (P := fun items => ∀ (lo k hi c : Nat) (κ : Kont),
      (∀ c1, CapsIn lo hi (κ c1)) → lo ≤ k → slotsItems k items ≤ hi → CapsIn lo hi (semI S k items c κ))
    (Q := fun bodies => ∀ (lo k hi c : Nat) (κ : Kont),
      (∀ c1, CapsIn lo hi (κ c1)) → lo ≤ k → slotsAlts k bodies ≤ hi → CapsIn lo hi (semAltsI S k bodies c κ))
  · intro lo k hi c κ hκ _ _
    rw [semI]; exact hκ c
  · intro it r hp ih lo k hi c κ hκ hlo hle
    rw [semI_plain S k r c κ hp]
    rw [slotsItems] at hle
    exact CapsIn.bindK (CapsIn.mono (semItem_slots S k it c) hlo (Nat.le_trans (slotsItems_le _ r) hle))
      (fun c1 => ih lo _ hi c1 κ hκ (Nat.le_trans hlo (slotsItem_le k it)) hle)
  · intro a b r ih lo k hi c κ hκ hlo hle
    rw [semI]
    split
    · exact CapsIn.none
    · exact CapsIn.firstSome (fun i => ih lo k hi _ κ hκ hlo hle) _ _
  · intro j gap body r ihb ih lo k hi c κ hκ hlo hle
    rw [semI_group_eq]
    rw [slotsItems, slotsItem] at hle
    have hb := fun t => ihb k k (slotsItems k body) t Kont.done CapsIn.done (Nat.le_refl _) (Nat.le_refl _)
    exact CapsIn.bindK (CapsIn.mono (CapsIn.group hb j c) hlo (Nat.le_trans (slotsItems_le _ r) hle))
      (fun c1 => ih lo _ hi c1 κ hκ (Nat.le_trans hlo (slotsItems_le k body)) hle)
  · intro bodies r ihb ih lo k hi c κ hκ hlo hle
    rw [semI]
    rw [slotsItems, slotsItem] at hle
    exact ihb lo k hi c _ (fun c1 => ih lo _ hi c1 κ hκ (Nat.le_trans hlo (slotsAlts_le k bodies)) hle) hlo
      (Nat.le_trans (slotsItems_le _ r) hle)
  · intro lo k hi c κ _ _ _
    rw [semAltsI]; exact CapsIn.none
  · intro b bs hb hbs lo k hi c κ hκ hlo hle
    rw [slotsAlts] at hle
    cases bs with
    | nil =>
      simp only [semAltsI]
      exact hb lo k hi c κ hκ hlo (Nat.le_trans (Nat.le_max_left _ _) hle)
    | cons b' bs =>
      rw [semAltsI_cons2]
      have h1 := hb k k (slotsItems k b) c Kont.done CapsIn.done (Nat.le_refl _) (Nat.le_refl _)
      -- a committed alternative is `bindK` of its own frame
      show CapsIn lo hi (match semI S k b c Kont.done with
        | some (c1, w1) => addCaps w1 (κ c1)
        | none => semAltsI S k (b' :: bs) c κ)
      split
      · next c1 w1 h =>
        have := CapsIn.bindK (f := κ) (CapsIn.mono h1 hlo (Nat.le_trans (Nat.le_max_left _ _) hle)) hκ
        rwa [h] at this
      · exact hbs lo k hi c κ hκ hlo (Nat.le_trans (Nat.le_max_right _ _) hle)

theorem semI_done_slots (S : ScanI) (k : Nat) (items : List Item) (c c' : Nat) (w : Caps)
    (h : semI S k items c Kont.done = some (c', w)) : SlotsIn w k (slotsItems k items) :=
  semI_slots S items k k _ c Kont.done CapsIn.done (Nat.le_refl _) (Nat.le_refl _) c' w h

theorem denoteImpl_some {S : ScanI} {p : Pat} {c c' : Nat} {w : Caps} (h : denoteImpl S p c = some (c', w)) :
    ∃ w1, semI S 1 (dropTrailing true p) c Kont.done = some (c', w1) ∧ w = w1 ++ [(0, c)] := by
  obtain ⟨⟨c1, w1⟩, hs, he⟩ := Option.map_eq_some_iff.1 h
  cases he
  exact ⟨w1, hs, rfl⟩

end Pelite.PatSem
