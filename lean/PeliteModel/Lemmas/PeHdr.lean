import PeliteModel.Spec.Pe
import PeliteModel.Spec.PeFormat
/-! For C07: `validate` as an if-chain, `fromBytes` / `wrapFromBytes` in terms of `Accept`, `OkOrErr`, section
table, lookups, and the hand-built images `twoSecPe32`, `onePe64`. -/
namespace Pelite.Pe

theorem Fmt.sizes (f : Fmt) : f.ntSize = f.optSize + 24 ∧ f.optSize % 4 = 0 ∧ 96 ≤ f.optSize ∧
    (f.magic = 0x10b ∨ f.magic = 0x20b) := by
  cases f <;> decide

theorem validate_ok_iff (f : Fmt) (img : Img) (n : Nat) :
    validate f img = .ok n ↔ Accept f img ∧ n = sizeOfImage img.bytes := by
  have := f.sizes
  unfold validate Accept
  dsimp only
  iterate 15 rw [ite_err_eq_ok]
  rw [Out.ok.injEq]
  simp only [ntEnd, secTable, numDataDirs, optOff]
  omega

/-- an outcome that is a value or a typed error: no panic, no UB, no divergence -/
def OkOrErr {α} (o : Out α) : Prop := (∃ n, o = .ok n) ∨ (∃ e, o = .err e)

/-- `Out.Clean` (Prim/Basic) is this proposition under the name the C01–C03 statements use; a proof passes from one name
to the other here -/
theorem clean_iff_okOrErr {α} {o : Out α} : o.Clean ↔ OkOrErr o := Iff.rfl

theorem okOrErr_ok {α} (a : α) : OkOrErr (Out.ok a) := .inl ⟨a, rfl⟩
theorem okOrErr_err {α} (e : Err) : OkOrErr (Out.err e : Out α) := .inr ⟨e, rfl⟩

theorem okOrErr_ofOption {α} (e : Err) (o : Option α) : OkOrErr (Out.ofOption e o) := by
  cases o
  · exact okOrErr_err _
  · exact okOrErr_ok _

theorem okOrErr_bind {α β} {x : Out α} {f : α → Out β} (hx : OkOrErr x) (hf : ∀ a, OkOrErr (f a)) :
    OkOrErr (x.bind f) := by
  rcases hx with ⟨a, rfl⟩ | ⟨e, rfl⟩
  · exact hf a
  · exact okOrErr_err e

theorem okOrErr_if {α} {c : Prop} [Decidable c] {x y : Out α} (hx : OkOrErr x) (hy : OkOrErr y) :
    OkOrErr (if c then x else y) := by
  split <;> assumption

@[elab_as_elim]
theorem OkOrErr.elim {α} {P : Out α → Prop} {x : Out α} (h : OkOrErr x) (ok : ∀ a, P (.ok a)) (err : ∀ e, P (.err e)) :
    P x := by
  rcases h with ⟨a, rfl⟩ | ⟨e, rfl⟩
  · exact ok a
  · exact err e

theorem validate_okOrErr (f : Fmt) (img : Img) : OkOrErr (validate f img) := by
  unfold validate
  dsimp only
  iterate 15 apply okOrErr_if (okOrErr_err _)
  exact okOrErr_ok _

theorem validate_other_format (f g : Fmt) (hfg : f ≠ g) (img : Img) (h : Accept g img) :
    validate f img = .err .peMagic := by
  obtain ⟨h1, h2, h3, h4, h5, h6, h7, h8, -⟩ := h
  have := g.sizes
  have hne : g.magic ≠ f.magic := by revert hfg; cases f <;> cases g <;> decide
  unfold validate
  dsimp only
  rw [if_neg (by omega), if_neg (by omega), if_neg (by omega), if_neg (by omega), if_neg (by omega),
    if_neg (by omega), if_neg (by omega), if_pos (by omega)]

theorem fromBytes_ok_iff (f : Fmt) (k : Kind) (img : Img) (v : View) :
    fromBytes f k img = .ok v ↔ Accept f img ∧ v = ⟨img, f, k, imageBaseField f img.bytes⟩ := by
  unfold fromBytes
  constructor
  · intro h
    split at h <;> try cases h
    rename_i n hn
    exact ⟨((validate_ok_iff f img n).1 hn).1, rfl⟩
  · rintro ⟨ha, rfl⟩
    have := (validate_ok_iff f img _).2 ⟨ha, rfl⟩
    rw [this]

theorem fromBytes_ok_of {f : Fmt} {k : Kind} {img : Img} {ib : Nat} (ha : Accept f img)
    (hb : imageBaseField f img.bytes = ib) : fromBytes f k img = .ok ⟨img, f, k, ib⟩ :=
  hb ▸ (fromBytes_ok_iff ..).2 ⟨ha, rfl⟩

theorem fromBytes_isOk {f : Fmt} {k : Kind} {img : Img} (ha : Accept f img) : (fromBytes f k img).isOk = true :=
  congrArg Out.isOk (fromBytes_ok_of ha rfl)

/-- the same with further facts `P` about the image riding along, so that one evaluation of the
conjunction serves them all -/
theorem fromBytes_ok_and {f : Fmt} {k : Kind} {img : Img} {ib : Nat} {P : Prop}
    (h : Accept f img ∧ imageBaseField f img.bytes = ib ∧ P) : fromBytes f k img = .ok ⟨img, f, k, ib⟩ ∧ P :=
  ⟨fromBytes_ok_of h.1 h.2.1, h.2.2⟩

theorem fromBytes_err_of_validate {f : Fmt} {k : Kind} {img : Img} {e : Err} (h : validate f img = .err e) :
    fromBytes f k img = .err e := by
  unfold fromBytes; rw [h]

theorem fromBytes_err_imp {f : Fmt} {k : Kind} {img : Img} {e : Err} (h : fromBytes f k img = .err e) :
    validate f img = .err e := by
  unfold fromBytes at h
  split at h <;> first | cases h | skip
  assumption

theorem wrap_ok_imp (k : Kind) (img : Img) (v : View) (h : wrapFromBytes k img = .ok v) :
    fromBytes v.fmt k img = .ok v := by
  unfold wrapFromBytes at h
  split at h
  · rename_i w hw
    cases h
    have := ((fromBytes_ok_iff _ _ _ _).1 hw).2
    have hf : v.fmt = .pe64 := by rw [this]
    rw [hf]; exact hw
  · have := ((fromBytes_ok_iff _ _ _ _).1 h).2
    have hf : v.fmt = .pe32 := by rw [this]
    rw [hf]; exact h
  · rename_i o h1 h2
    exact absurd h (h1 v)

theorem wrap_complete (f : Fmt) (k : Kind) (img : Img) (v : View) (h : fromBytes f k img = .ok v) :
    wrapFromBytes k img = .ok v := by
  cases f
  · have ha := ((fromBytes_ok_iff _ _ _ _).1 h).1
    have := fromBytes_err_of_validate (k := k) (validate_other_format .pe64 .pe32 (by decide) img ha)
    unfold wrapFromBytes
    rw [this]; exact h
  · unfold wrapFromBytes
    rw [h]

theorem sections_in_range (b : Bytes) : ∀ s ∈ sections b, s.InRange := by
  intro s hs
  simp only [sections, List.mem_map] at hs
  obtain ⟨i, -, rfl⟩ := hs
  exact ⟨le32_lt _ _, le32_lt _ _, le32_lt _ _, le32_lt _ _⟩

/-- The header accessors as digits of `b.toNat` (Prim/Basic, reads as digits of one number), one conjunction used as a simp set:
`simp only [Accept, View.secs, sections, secAt, hdr_toNat, le16_toNat, le32_toNat]; decide +kernel` is how acceptance, the image base, the
section table and the header numbers of a hand-built image are evaluated. -/
theorem hdr_toNat (b : Bytes) :
    eLfanew b = b.toNat / 256 ^ 60 % 4294967296 ∧ optOff b = eLfanew b + 24 ∧
    numberOfSections b = b.toNat / 256 ^ (eLfanew b + 6) % 65536 ∧
    sizeOfOptionalHeader b = b.toNat / 256 ^ (eLfanew b + 20) % 65536 ∧
    optMagic b = b.toNat / 256 ^ optOff b % 65536 ∧
    sizeOfImage b = b.toNat / 256 ^ (optOff b + 56) % 4294967296 ∧
    sizeOfHeaders b = b.toNat / 256 ^ (optOff b + 60) % 4294967296 ∧
    (∀ f, numberOfRvaAndSizes f b = b.toNat / 256 ^ (optOff b + f.offNumRva) % 4294967296) ∧
    imageBaseField .pe32 b = b.toNat / 256 ^ (optOff b + 28) % 4294967296 ∧
    imageBaseField .pe64 b = b.toNat / 256 ^ (optOff b + 24) % 18446744073709551616 ∧
    secTable b = optOff b + sizeOfOptionalHeader b ∧ (∀ f, ntEnd f b = eLfanew b + f.ntSize) ∧
    ∀ f, numDataDirs f b = min (numberOfRvaAndSizes f b) 16 := by
  simp only [eLfanew, optOff, numberOfSections, sizeOfOptionalHeader, optMagic, sizeOfImage, sizeOfHeaders, numberOfRvaAndSizes,
    imageBaseField, secTable, ntEnd, numDataDirs, le16_toNat, le32_toNat, le64_toNat, implies_true, and_self]

/-- a directory entry as two digits of `b.toNat` (an equation, not the unfolding of the `if`-headed definition) -/
theorem View.dataDir_toNat (v : View) (i : Nat) : v.dataDir i =
    if i < numDataDirs v.fmt v.b then
      some (v.b.toNat / 256 ^ (ntEnd v.fmt v.b + 8 * i) % 4294967296, v.b.toNat / 256 ^ (ntEnd v.fmt v.b + 8 * i + 4) % 4294967296)
    else none := by
  rw [View.dataDir, le32_toNat, le32_toNat]

theorem dataDir_lt {v : View} {i rva size : Nat} (h : v.dataDir i = some (rva, size)) :
    rva < 4294967296 ∧ size < 4294967296 := by
  unfold View.dataDir at h
  split at h <;> cases h
  exact ⟨le32_lt _ _, le32_lt _ _⟩

/-- the directory entry as a total function of the index -/
def View.ddEntry (v : View) (i : Nat) : Nat × Nat :=
  (le32 v.b (ntEnd v.fmt v.b + 8 * i), le32 v.b (ntEnd v.fmt v.b + 8 * i + 4))

theorem dataDir_of_lt (v : View) {i : Nat} (h : i < numDataDirs v.fmt v.b) : v.dataDir i = some (v.ddEntry i) := by
  unfold View.dataDir View.ddEntry
  rw [if_pos h]

/-! ### `by_name` -/

theorem byName_eq_findIdx (secs : List Sec) (lo hi : Nat) :
    byName secs lo hi = secs.findIdx? (fun s => decide (s.nameLo = lo ∧ s.nameHi = hi)) := by
  induction secs with
  | nil => rfl
  | cons s rest ih =>
    simp only [byName, List.findIdx?_cons, ih]
    split <;> simp_all

theorem nameBuf_aux (n : Bytes) : ∀ k, k ≤ 8 →
    ((List.range k).foldl (fun buf i => buf.setIfInBounds i (n.getD i 0)) (Array.replicate 8 (0:UInt8))).size = 8 ∧
    ∀ j, ((List.range k).foldl (fun buf i => buf.setIfInBounds i (n.getD i 0)) (Array.replicate 8 (0:UInt8))).getD j 0 =
      if j < k then n.getD j 0 else 0 := by
  intro k
  induction k with
  | zero =>
    intro _
    refine ⟨by simp, fun j => ?_⟩
    simp [Array.getD_eq_getD_getElem?, Array.getElem?_replicate]
    split <;> rfl
  | succ k ih =>
    intro hk
    obtain ⟨h1, h2⟩ := ih (by omega)
    rw [List.range_succ, List.foldl_append, List.foldl_cons, List.foldl_nil]
    refine ⟨by rw [Array.size_setIfInBounds]; exact h1, fun j => ?_⟩
    rw [Array.getD_eq_getD_getElem?, Array.getElem?_setIfInBounds]
    by_cases hj : k = j
    · subst hj
      rw [if_pos rfl, if_pos (by omega), if_pos (by omega)]
      rfl
    · rw [if_neg hj, ← Array.getD_eq_getD_getElem?, h2 j]
      by_cases hjk : j < k
      · rw [if_pos hjk, if_pos (by omega)]
      · rw [if_neg hjk, if_neg (by omega)]

theorem byteAt_nameBuf (n : Bytes) (h : n.size ≤ 8) (j : Nat) :
    byteAt (nameBuf n) j = if j < n.size then byteAt n j else 0 := by
  unfold byteAt nameBuf
  rw [(nameBuf_aux n n.size h).2 j]
  split <;> rfl


theorem forall_lt_8 (P : Nat → Prop) :
    (∀ j, j < 8 → P j) ↔ P 0 ∧ P 1 ∧ P 2 ∧ P 3 ∧ P 4 ∧ P 5 ∧ P 6 ∧ P 7 := by
  simp only [Nat.forall_lt_succ_right, Nat.not_lt_zero, false_imp_iff, implies_true, true_and, and_assoc]

theorem findIdx?_congr' {α} (l : List α) (p q : α → Bool) (h : ∀ a ∈ l, p a = q a) :
    l.findIdx? p = l.findIdx? q := by
  induction l with
  | nil => rfl
  | cons a rest ih =>
    rw [List.findIdx?_cons, List.findIdx?_cons, h a List.mem_cons_self,
      ih (fun b hb => h b (List.mem_cons_of_mem _ hb))]

theorem le32_eq_iff_bytes (x : Nat) (hx : x < 4294967296) (b : Bytes) (o : Nat) :
    x = le32 b o ↔ x % 256 = byteAt b o ∧ x / 256 % 256 = byteAt b (o + 1) ∧
      x / 65536 % 256 = byteAt b (o + 2) ∧ x / 16777216 % 256 = byteAt b (o + 3) := by
  have := byteAt_lt b o; have := byteAt_lt b (o+1); have := byteAt_lt b (o+2); have := byteAt_lt b (o+3)
  unfold le32
  omega

theorem name_match_iff (s : Sec) (hlo : s.nameLo < 4294967296) (hhi : s.nameHi < 4294967296)
    (n : Bytes) (hn : n.size ≤ 8) :
    (s.nameLo = le32 (nameBuf n) 0 ∧ s.nameHi = le32 (nameBuf n) 4) ↔
      ∀ j, j < 8 → s.nameByte j = paddedName n j := by
  rw [forall_lt_8, le32_eq_iff_bytes _ hlo, le32_eq_iff_bytes _ hhi]
  simp only [Sec.nameByte, paddedName, byteAt_nameBuf n hn, Nat.zero_add, and_assoc]

theorem byNameBytes_eq (secs : List Sec) (hs : ∀ s ∈ secs, s.nameLo < 4294967296 ∧ s.nameHi < 4294967296)
    (n : Bytes) :
    byNameBytes secs n =
      if n.size > 8 then none
      else secs.findIdx? (fun s : Sec => decide (∀ j : Nat, j < 8 → s.nameByte j = paddedName n j)) := by
  unfold byNameBytes
  by_cases hn : n.size > 8
  · rw [if_pos hn, if_pos hn]
  · rw [if_neg hn, if_neg hn]
    dsimp only
    rw [byName_eq_findIdx]
    apply findIdx?_congr'
    intro s hm
    obtain ⟨h1, h2⟩ := hs s hm
    have := name_match_iff s h1 h2 n (by omega)
    simp only [this]

theorem sections_name_lt (b : Bytes) : ∀ s ∈ sections b, s.nameLo < 4294967296 ∧ s.nameHi < 4294967296 := by
  intro s hs
  simp only [sections, List.mem_map] at hs
  obtain ⟨i, -, rfl⟩ := hs
  exact ⟨le32_lt _ _, le32_lt _ _⟩

theorem le32_four_bytes (b : Bytes) (o : Nat) :
    le32 b o % 256 = byteAt b o ∧ le32 b o / 256 % 256 = byteAt b (o + 1) ∧
    le32 b o / 65536 % 256 = byteAt b (o + 2) ∧ le32 b o / 16777216 % 256 = byteAt b (o + 3) :=
  (le32_eq_iff_bytes _ (le32_lt b o) b o).1 rfl

theorem secAt_nameByte (b : Bytes) (o j : Nat) (hj : j < 8) : (secAt b o).nameByte j = byteAt b (o + j) := by
  have : j = 0 ∨ j = 1 ∨ j = 2 ∨ j = 3 ∨ j = 4 ∨ j = 5 ∨ j = 6 ∨ j = 7 := by omega
  obtain ⟨a0, a1, a2, a3⟩ := le32_four_bytes b o
  obtain ⟨c0, c1, c2, c3⟩ := le32_four_bytes b (o + 4)
  rcases this with rfl | rfl | rfl | rfl | rfl | rfl | rfl | rfl
  · exact a0
  · exact a1
  · exact a2
  · exact a3
  · exact c0
  · exact c1
  · exact c2
  · exact c3

/-! ### two small hand-built images -/

/-- A 288-byte PE32 file: e_lfanew = 64, two data directory entries, two sections, SizeOfHeaders = 280,
SizeOfImage = 296.  Section ".a" is stored and mapped at the same place (280, 4 bytes); section
".bss" has 4 stored bytes at file offset 284 mapped at 288 and 4 more virtual-only bytes. -/
def twoSecPe32 : Bytes := #[
    -- 0: "MZ" … e_lfanew = 64
    77, 90, 0, 0, 0, 0, 0, 0, 0, 0, 0, 0, 0, 0, 0, 0, 0, 0, 0, 0, 0, 0, 0, 0, 0, 0, 0, 0, 0, 0, 0, 0, 0, 0,
    0, 0, 0, 0, 0, 0, 0, 0, 0, 0, 0, 0, 0, 0, 0, 0, 0, 0, 0, 0, 0, 0, 0, 0, 0, 0, 64, 0, 0, 0,
    -- 64: "PE\0\0"
    80, 69, 0, 0,
    -- 68: file header: NumberOfSections = 2, SizeOfOptionalHeader = 112
    0, 0, 2, 0, 0, 0, 0, 0, 0, 0, 0, 0, 0, 0, 0, 0, 112, 0, 0, 0,
    -- 88: optional header: Magic = 0x10b, ImageBase = 0x400000
    11, 1, 0, 0, 0, 0, 0, 0, 0, 0, 0, 0, 0, 0, 0, 0, 0, 0, 0, 0, 0, 0, 0, 0, 0, 0, 0, 0, 0, 0, 64, 0, 0, 0,
    0, 0, 0, 0, 0, 0, 0, 0, 0, 0, 0, 0, 0, 0, 0, 0, 0, 0, 0, 0, 0, 0,
    -- 144: SizeOfImage = 296, SizeOfHeaders = 280, CheckSum = 0 … NumberOfRvaAndSizes = 2
    40, 1, 0, 0, 24, 1, 0, 0, 0, 0, 0, 0, 0, 0, 0, 0, 0, 0, 0, 0, 0, 0, 0, 0, 0, 0, 0, 0, 0, 0, 0, 0, 0, 0,
    0, 0, 2, 0, 0, 0,
    -- 184: data directory: (288, 4), (0, 0)
    32, 1, 0, 0, 4, 0, 0, 0, 0, 0, 0, 0, 0, 0, 0, 0,
    -- 200: ".a": VirtualSize 4, VirtualAddress 280, SizeOfRawData 4, PointerToRawData 280
    46, 97, 0, 0, 0, 0, 0, 0, 4, 0, 0, 0, 24, 1, 0, 0, 4, 0, 0, 0, 24, 1, 0, 0, 0, 0, 0, 0, 0, 0, 0, 0, 0, 0,
    0, 0, 0, 0, 0, 0,
    -- 240: ".bss": VirtualSize 8, VirtualAddress 288, SizeOfRawData 4, PointerToRawData 284
    46, 98, 115, 115, 0, 0, 0, 0, 8, 0, 0, 0, 32, 1, 0, 0, 4, 0, 0, 0, 28, 1, 0, 0, 0, 0, 0, 0, 0, 0, 0, 0,
    0, 0, 0, 0, 0, 0, 0, 0,
    -- 280: raw data of ".a": "ab\0", 1
    97, 98, 0, 1,
    -- 284: raw data of ".bss": the u16 table 5, 0xffff (mapped at 288; 292..296 is zero fill)
    5, 0, 255, 255]

/-- A 252-byte PE32+ file: e_lfanew = 64, one data directory entry, one section (4 stored bytes at 248,
VirtualSize 8), SizeOfHeaders = 248, SizeOfImage = 256. -/
def onePe64 : Bytes := #[
    -- 0: "MZ" … e_lfanew = 64
    77, 90, 0, 0, 0, 0, 0, 0, 0, 0, 0, 0, 0, 0, 0, 0, 0, 0, 0, 0, 0, 0, 0, 0, 0, 0, 0, 0, 0, 0, 0, 0, 0, 0,
    0, 0, 0, 0, 0, 0, 0, 0, 0, 0, 0, 0, 0, 0, 0, 0, 0, 0, 0, 0, 0, 0, 0, 0, 0, 0, 64, 0, 0, 0,
    -- 64: "PE\0\0"
    80, 69, 0, 0,
    -- 68: file header: Machine = 0x8664, NumberOfSections = 1, SizeOfOptionalHeader = 120
    100, 134, 1, 0, 0, 0, 0, 0, 0, 0, 0, 0, 0, 0, 0, 0, 120, 0, 0, 0,
    -- 88: optional header: Magic = 0x20b, ImageBase = 0x1_4000_0000 (u64 at +24)
    11, 2, 0, 0, 0, 0, 0, 0, 0, 0, 0, 0, 0, 0, 0, 0, 0, 0, 0, 0, 0, 0, 0, 0, 0, 0, 0, 64, 1, 0, 0, 0, 0, 0,
    0, 0, 0, 0, 0, 0, 0, 0, 0, 0, 0, 0, 0, 0, 0, 0, 0, 0, 0, 0, 0, 0,
    -- 144: SizeOfImage = 256, SizeOfHeaders = 248 … NumberOfRvaAndSizes = 1 (at +108)
    0, 1, 0, 0, 248, 0, 0, 0, 0, 0, 0, 0, 0, 0, 0, 0, 0, 0, 0, 0, 0, 0, 0, 0, 0, 0, 0, 0, 0, 0, 0, 0, 0, 0,
    0, 0, 0, 0, 0, 0, 0, 0, 0, 0, 0, 0, 0, 0, 0, 0, 0, 0, 1, 0, 0, 0,
    -- 200: data directory: (248, 4)
    248, 0, 0, 0, 4, 0, 0, 0,
    -- 208: ".t": VirtualSize 8, VirtualAddress 248, SizeOfRawData 4, PointerToRawData 248
    46, 116, 0, 0, 0, 0, 0, 0, 8, 0, 0, 0, 248, 0, 0, 0, 4, 0, 0, 0, 248, 0, 0, 0, 0, 0, 0, 0, 0, 0, 0, 0, 0,
    0, 0, 0, 0, 0, 0, 0,
    -- 248: raw data
    1, 2, 3, 4]

/-- The evaluated header facts of a view over a hand-built image, under one name per image: acceptance, the section table, then
SizeOfHeaders, SizeOfImage, the buffer length, the start and number of the section headers, the end of the NT headers and the
number of data directories — what loadability and the address operations read. -/
structure HdrIs (v : View) (secs : List Sec) (soh soi size st ns ne nd : Nat) : Prop where
  accept : Accept v.fmt v.img
  secs : v.secs = secs
  soh : sizeOfHeaders v.b = soh
  soi : sizeOfImage v.b = soi
  size : v.b.size = size
  secTable : secTable v.b = st
  nSecs : numberOfSections v.b = ns
  ntEnd : ntEnd v.fmt v.b = ne
  nDirs : numDataDirs v.fmt v.b = nd

/-- filled from ONE evaluated conjunction
(`simp only [Accept, View.secs, sections, secAt, hdr_toNat, le16_toNat, le32_toNat]; decide +kernel`) -/
theorem HdrIs.of_and {v : View} {secs : List Sec} {soh soi size st ns ne nd : Nat}
    (h : Accept v.fmt v.img ∧ v.secs = secs ∧ sizeOfHeaders v.b = soh ∧ sizeOfImage v.b = soi ∧ v.b.size = size ∧
      Pe.secTable v.b = st ∧ numberOfSections v.b = ns ∧ Pe.ntEnd v.fmt v.b = ne ∧ numDataDirs v.fmt v.b = nd) :
    HdrIs v secs soh soi size st ns ne nd :=
  ⟨h.1, h.2.1, h.2.2.1, h.2.2.2.1, h.2.2.2.2.1, h.2.2.2.2.2.1, h.2.2.2.2.2.2.1, h.2.2.2.2.2.2.2.1, h.2.2.2.2.2.2.2.2⟩

/-- the eight equations as ONE simp set -/
theorem HdrIs.eqs {v : View} {secs : List Sec} {soh soi size st ns ne nd : Nat} (h : HdrIs v secs soh soi size st ns ne nd) :
    v.secs = secs ∧ sizeOfHeaders v.b = soh ∧ sizeOfImage v.b = soi ∧ v.b.size = size ∧ Pe.secTable v.b = st ∧
    numberOfSections v.b = ns ∧ Pe.ntEnd v.fmt v.b = ne ∧ numDataDirs v.fmt v.b = nd :=
  ⟨h.secs, h.soh, h.soi, h.size, h.secTable, h.nSecs, h.ntEnd, h.nDirs⟩

/-- the facts do not depend on kind and image base of the view -/
theorem HdrIs.of_eq {v w : View} {secs : List Sec} {soh soi size st ns ne nd : Nat} (h : HdrIs v secs soh soi size st ns ne nd)
    (hf : w.fmt = v.fmt) (hi : w.img = v.img) : HdrIs w secs soh soi size st ns ne nd := by
  obtain ⟨_, _, _, _⟩ := v
  obtain ⟨_, _, _, _⟩ := w
  cases hf; cases hi
  exact ⟨h.accept, h.secs, h.soh, h.soi, h.size, h.secTable, h.nSecs, h.ntEnd, h.nDirs⟩

theorem twoSecPe32_hdr : HdrIs ⟨⟨twoSecPe32, 0⟩, .pe32, .file, 0⟩
    [⟨0x612e, 0, 4, 280, 4, 280, 0⟩, ⟨0x7373622e, 0, 8, 288, 4, 284, 0⟩] 280 296 288 200 2 184 2 := .of_and <| by
  simp only [Accept, View.secs, sections, secAt, hdr_toNat, le16_toNat, le32_toNat]
  decide +kernel

theorem onePe64_accept : Accept .pe64 ⟨onePe64, 0⟩ := by
  simp only [Accept, hdr_toNat, le16_toNat, le32_toNat]
  decide +kernel

theorem onePe64_sections : sections onePe64 = [⟨0x742e, 0, 8, 248, 4, 248, 0⟩] := by
  simp only [sections, secAt, hdr_toNat, le32_toNat]
  decide +kernel

end Pelite.Pe
