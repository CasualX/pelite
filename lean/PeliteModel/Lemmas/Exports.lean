import PeliteModel.Spec.Exports
import PeliteModel.Lemmas.Typed
/-! C08.  The lookups of `By` see the image through four things only: what an address-table entry is, what a name-table
entry reads as, the ordinal table and the base.  `decOf y` holds them as four lists, `Dec.f` is each lookup as a function of
the lists, and `By.f y = mapOut Prod.fst (Dec.f (decOf y))` (`f_dec`) is where the model is unfolded; everything else is proved
about `Dec`.  On a concrete image `decOf` is evaluated once.

To add a lookup `f` that answers an `Export`: `Dec.f`; `f_dec`; `Dec.f_via` (it ends in an entry or an error of its own);
`f_lookup := ⟨f_dec, f_via⟩`.  Then `(f_lookup ..).okOrErr`, `.sound hw`, `.abs (spec_f_dec ..)` are totality, references in
bounds and agreement with `Spec/Exports.lean`.  `nameLookup`, `checkSorted` answer other types: plain `_dec` equations. -/
namespace Pelite.Exports
open Pelite.Pe

theorem okOrErr_cases {α} {x : Out α} (h : OkOrErr x) : (∃ a, x = .ok a) ∨ (∃ e, x = .err e) := h

theorem discard_eq {α β} {x : Out α} (hx : OkOrErr x) (k : Out β) : discard x k = k := by
  rcases hx with ⟨a, rfl⟩ | ⟨e, rfl⟩ <;> rfl

theorem okOrErr_mapOut {α β} {x : Out α} (f : α → β) (hx : OkOrErr x) : OkOrErr (mapOut f x) := by
  rcases hx with ⟨a, rfl⟩ | ⟨e, rfl⟩
  · exact okOrErr_ok _
  · exact okOrErr_err _

theorem mapOut_ok_iff {α β} {x : Out α} {f : α → β} {b : β} :
    mapOut f x = .ok b ↔ ∃ a, x = .ok a ∧ f a = b := by
  cases x <;> simp [mapOut]

theorem isOk_mapOut {α β} (f : α → β) (x : Out α) : (mapOut f x).isOk = x.isOk := by cases x <;> rfl

theorem getElem?_map_range {α} (f : Nat → α) (n i : Nat) :
    ((List.range n).map f)[i]? = if i < n then some (f i) else none := by
  by_cases h : i < n
  · simp [h]
  · simp [h]

theorem map_range_min_guard {α} (a b : Nat) (f g : Nat → α) :
    (List.range (min a b)).map (fun h => if h < b then f h else g h) = (List.range (min a b)).map f :=
  List.map_congr_left fun h hh => if_pos (by have := List.mem_range.1 hh; omega)

/-! ### the decoded directory -/

/-- entries as `By::index` answers them, each with what it denotes (the second component is what `IsLookup.abs` compares
with `Spec`); names as `name_of_hint` answers them, each with its bytes -/
structure Dec where
  base : Nat
  ents : List (Out (Export × Spec.Sym))
  names : List (Out (Ref × List Nat))
  idx : List Nat
  deriving DecidableEq

/-- Over `fnAt` / `nameAt` / `idxAt`, not over `By.index`: unfolded on a concrete image the reads are visible and become
digits of the image's number (`le32_toNat`, Prim/Basic). -/
def decOf (y : By) : Dec where
  base := y.exp.base
  ents := (List.range y.fns.cnt).map fun i =>
    if y.fnAt i = 0 then .err .null
    else if y.exp.ddVA ≤ y.fnAt i ∧ y.fnAt i < y.exp.ddVA + y.exp.ddSize then
      mapOut (fun c => (.forward c, .forward (cstrBytes y.b c))) (y.exp.v.dervaCStr (.rva (y.fnAt i)))
    else .ok (.symbol ⟨y.fns.off + 4 * i, 4, 4⟩, .symbol (y.fnAt i))
  names := (List.range y.names.cnt).map fun h =>
    mapOut (fun c => (c, cstrBytes y.b c)) (y.exp.v.dervaCStr (.rva (y.nameAt h)))
  idx := (List.range y.idx.cnt).map fun h => y.idxAt h

namespace Dec
variable (D : Dec)

def index (i : Nat) : Out (Export × Spec.Sym) :=
  match D.ents[i]? with
  | some r => r
  | none => .err .bounds

def ordinal (o : Nat) : Out (Export × Spec.Sym) := if o < D.base then .err .bounds else D.index (o - D.base)

def hint (h : Nat) : Out (Export × Spec.Sym) :=
  match D.idx[h]? with
  | some i => D.index i
  | none => .err .bounds

def nameEntry (h : Nat) : Out (Ref × List Nat) :=
  match D.names[h]? with
  | some r => r
  | none => .err .bounds

def nameStr (h : Nat) : Out (List Nat) := mapOut Prod.snd (D.nameEntry h)

def nameLinear (q : List Nat) : Out (Export × Spec.Sym) :=
  match (List.range D.names.length).find? fun h => D.nameStr h = .ok q with
  | some h => D.hint h
  | none => .err .null

/-- the loop of `By::name_` without its two panic sites (unreachable below `names.len()`) -/
def search (q : List Nat) (lower upper : Nat) : Out (Export × Spec.Sym) :=
  if lower < upper then
    let i := lower + (upper - lower) / 2
    (D.nameStr i).bind fun s =>
      if q < s then search q lower i
      else if s < q then search q (i + 1) upper
      else D.hint i
  else .err .null
termination_by upper - lower
decreasing_by all_goals omega

def name (q : List Nat) : Out (Export × Spec.Sym) := D.search q 0 D.names.length

def hintName (h : Nat) (q : List Nat) : Out (Export × Spec.Sym) :=
  if (D.hint h).isOk = true ∧ D.nameStr h = .ok q then D.hint h else D.name q

def «import» : ImportQ → Out (Export × Spec.Sym)
  | .byName h q => D.hintName h q
  | .byOrdinal o => D.ordinal o

def sortedFrom : Nat → Nat → List Nat → Out Bool
  | 0, _, _ => .ok true
  | n + 1, h, last => (D.nameStr h).bind fun s => if s < last then .ok false else sortedFrom n (h + 1) s

def checkSorted : Out Bool := D.sortedFrom D.names.length 0 []

def nameLookup (i : Nat) : Out Import :=
  match D.idx.findIdx? (fun x => x = i) with
  | some h => mapOut (fun p => .byName h p.1) (D.nameEntry h)
  | none => .ok (.byOrdinal ((i % 4294967296 + D.base) % 4294967296 % 65536))

def query : Query → Out (Export × Spec.Sym)
  | .name n => D.name n
  | .ordinal o => D.ordinal o
  | .import i => D.import i

end Dec

/-! ### `By.f y = mapOut Prod.fst (Dec.f (decOf y))` -/

theorem isForwarded_iff (y : By) (rva : Nat) :
    y.exp.isForwarded rva = true ↔ (y.exp.ddVA ≤ rva ∧ rva < y.exp.ddVA + y.exp.ddSize) := by
  unfold Exports.isForwarded
  simp only [decide_eq_true_eq]
  omega

theorem index_eq (y : By) (i : Nat) : y.index i =
    if i < y.fns.cnt then
      if y.fnAt i = 0 then .err .null
      else if y.exp.ddVA ≤ y.fnAt i ∧ y.fnAt i < y.exp.ddVA + y.exp.ddSize then
        (y.exp.v.dervaCStr (.rva (y.fnAt i))).bind fun c => .ok (.forward c)
      else .ok (.symbol ⟨y.fns.off + 4 * i, 4, 4⟩)
    else .err .bounds := by
  unfold By.index Exports.symbolFromRva
  show (if _ then (if y.fnAt i = 0 then _ else if y.exp.isForwarded (y.fnAt i) = true then _ else _) else _) = _
  simp only [isForwarded_iff]
  rfl

theorem decOf_names_length (y : By) : (decOf y).names.length = y.names.cnt := by simp [decOf]

/-- the four cases of an address-table entry, once: what `By::index` answers and what the decoded directory holds -/
theorem index_split (y : By) (i : Nat) {P : Out Export → Out (Export × Spec.Sym) → Prop}
    (bounds : y.fns.cnt ≤ i → P (.err .bounds) (.err .bounds))
    (null : i < y.fns.cnt → y.fnAt i = 0 → P (.err .null) (.err .null))
    (fwd : i < y.fns.cnt → y.fnAt i ≠ 0 → y.exp.ddVA ≤ y.fnAt i ∧ y.fnAt i < y.exp.ddVA + y.exp.ddSize →
      ∀ o, y.exp.v.dervaCStr (.rva (y.fnAt i)) = o →
        P (o.bind fun c => .ok (.forward c)) (mapOut (fun c => (.forward c, .forward (cstrBytes y.b c))) o))
    (sym : i < y.fns.cnt → y.fnAt i ≠ 0 → ¬ (y.exp.ddVA ≤ y.fnAt i ∧ y.fnAt i < y.exp.ddVA + y.exp.ddSize) →
      P (.ok (.symbol ⟨y.fns.off + 4 * i, 4, 4⟩)) (.ok (.symbol ⟨y.fns.off + 4 * i, 4, 4⟩, .symbol (y.fnAt i)))) :
    P (y.index i) ((decOf y).index i) := by
  rw [index_eq]
  unfold Dec.index decOf
  rw [getElem?_map_range]
  by_cases hi : i < y.fns.cnt
  · rw [if_pos hi, if_pos hi]
    dsimp only
    by_cases h0 : y.fnAt i = 0
    · rw [if_pos h0, if_pos h0]; exact null hi h0
    · rw [if_neg h0, if_neg h0]
      by_cases hin : y.exp.ddVA ≤ y.fnAt i ∧ y.fnAt i < y.exp.ddVA + y.exp.ddSize
      · rw [if_pos hin, if_pos hin]; exact fwd hi h0 hin _ rfl
      · rw [if_neg hin, if_neg hin]; exact sym hi h0 hin
  · rw [if_neg hi, if_neg hi]; exact bounds (by omega)

theorem index_dec (y : By) (i : Nat) : y.index i = mapOut Prod.fst ((decOf y).index i) :=
  index_split y i (P := fun r p => r = mapOut Prod.fst p)
    (fun _ => rfl) (fun _ _ => rfl) (fun _ _ _ o _ => by cases o <;> rfl) (fun _ _ _ => rfl)

theorem index_okOrErr (y : By) (i : Nat) : OkOrErr (y.index i) :=
  index_split y i (P := fun r _ => OkOrErr r) (fun _ => okOrErr_err _) (fun _ _ => okOrErr_err _)
    (fun _ _ _ _ ho => okOrErr_bind (ho ▸ dervaCStr_okOrErr _ _) fun _ => okOrErr_ok _) (fun _ _ _ => okOrErr_ok _)

theorem ordinal_dec (y : By) (o : Nat) : y.ordinal o = mapOut Prod.fst ((decOf y).ordinal o) := by
  unfold By.ordinal Dec.ordinal
  show (if o < y.exp.base then _ else _) = mapOut _ (if o < y.exp.base then _ else _)
  split
  · rfl
  · exact index_dec y _

theorem hint_dec (y : By) (h : Nat) : y.hint h = mapOut Prod.fst ((decOf y).hint h) := by
  unfold By.hint Dec.hint
  show _ = mapOut _ (match ((List.range y.idx.cnt).map y.idxAt)[h]? with | some i => _ | none => _)
  rw [getElem?_map_range]
  split
  · exact index_dec y _
  · rfl

theorem hint_okOrErr (y : By) (h : Nat) : OkOrErr (y.hint h) := okOrErr_if (index_okOrErr _ _) (okOrErr_err _)

theorem decOf_nameEntry (y : By) (h : Nat) :
    (decOf y).nameEntry h = mapOut (fun c => (c, cstrBytes y.b c)) (y.nameOfHint h) := by
  unfold Dec.nameEntry decOf By.nameOfHint
  rw [getElem?_map_range]
  by_cases hl : h < y.names.cnt
  · rw [if_pos hl, if_pos hl]
  · rw [if_neg hl, if_neg hl]
    rfl

theorem nameOfHint_dec (y : By) (h : Nat) : y.nameOfHint h = mapOut Prod.fst ((decOf y).nameEntry h) := by
  rw [decOf_nameEntry]
  cases y.nameOfHint h <;> rfl

def By.nameStr (y : By) (h : Nat) : Out (List Nat) := mapOut (cstrBytes y.b) (y.nameOfHint h)

theorem nameStr_dec (y : By) (h : Nat) : y.nameStr h = (decOf y).nameStr h := by
  unfold By.nameStr Dec.nameStr
  rw [decOf_nameEntry]
  cases y.nameOfHint h <;> rfl

theorem nameOfHint_okOrErr (y : By) (h : Nat) : OkOrErr (y.nameOfHint h) :=
  okOrErr_if (dervaCStr_okOrErr _ _) (okOrErr_err _)

theorem decOf_nameStr_okOrErr (y : By) (h : Nat) : OkOrErr ((decOf y).nameStr h) :=
  nameStr_dec y h ▸ okOrErr_mapOut _ (nameOfHint_okOrErr y h)

theorem nameLinearLoop_dec (y : By) (q : List Nat) : ∀ n h0,
    y.nameLinearLoop q n h0 =
      mapOut Prod.fst (match (List.range' h0 n).find? fun h => (decOf y).nameStr h = .ok q with
        | some h => (decOf y).hint h
        | none => .err .null)
  | 0, _ => rfl
  | n + 1, h0 => by
    rw [By.nameLinearLoop, List.range'_succ, List.find?_cons, ← nameStr_dec]
    unfold By.nameStr
    rcases nameOfHint_okOrErr y h0 with ⟨c, hc⟩ | ⟨e, hc⟩ <;> rw [hc]
    · by_cases hq : cstrBytes y.b c = q
      · simp only [mapOut, hq, decide_true, ↓reduceIte]; exact hint_dec y h0
      · simp only [mapOut, Out.ok.injEq, hq, decide_false, ↓reduceIte]; exact nameLinearLoop_dec y q n _
    · simp only [mapOut, reduceCtorEq, decide_false]; exact nameLinearLoop_dec y q n _

theorem nameLinear_dec (y : By) (q : List Nat) : y.nameLinear q = mapOut Prod.fst ((decOf y).nameLinear q) := by
  unfold By.nameLinear Dec.nameLinear
  rw [nameLinearLoop_dec, decOf_names_length, List.range_eq_range']

/-- one turn of the loop of `By::name_` inside the name table, where neither panic site is reached; the midpoint is a
variable `i` with its equation because that is how the functional induction of `Dec.search` hands it over -/
theorem nameLoop_eq (y : By) (q : List Nat) {lower upper i : Nat} (h1 : lower ≤ upper) (h2 : upper ≤ y.names.cnt)
    (hi : i = lower + (upper - lower) / 2) :
    y.nameLoop q lower upper =
      if lower < upper then
        (y.nameStr i).bind fun s =>
          if q < s then y.nameLoop q lower i else if s < q then y.nameLoop q (i + 1) upper else y.hint i
      else .err .null := by
  subst hi
  rw [By.nameLoop]
  by_cases he : lower = upper
  · rw [if_pos he, if_neg (by omega)]
  · have hi : lower + (upper - lower) / 2 < y.names.cnt := by omega
    rw [if_neg he, if_neg (by omega), if_pos hi, By.nameStr, By.nameOfHint, if_pos hi, if_pos (show lower < upper by omega)]
    cases y.exp.v.dervaCStr (.rva (y.nameAt (lower + (upper - lower) / 2))) <;> rfl

theorem nameLoop_dec (y : By) (q : List Nat) (lower upper : Nat) (h1 : lower ≤ upper) (h2 : upper ≤ y.names.cnt) :
    y.nameLoop q lower upper = mapOut Prod.fst ((decOf y).search q lower upper) := by
  fun_induction Dec.search (decOf y) q lower upper with
  | case1 lower upper hlt i ih1 ih2 =>
    rw [nameLoop_eq y q h1 h2 rfl, if_pos hlt, nameStr_dec]
    cases (decOf y).nameStr i with
    | ok s =>
      simp only [Out.bind]
      split
      · exact ih1 (by omega) (by omega)
      · split
        · exact ih2 (by omega) h2
        · exact hint_dec y i
    | _ => rfl
  | case2 lower upper hlt => rw [nameLoop_eq y q h1 h2 rfl, if_neg hlt]; rfl

theorem name_dec (y : By) (q : List Nat) : y.name q = mapOut Prod.fst ((decOf y).name q) := by
  unfold By.name Dec.name
  rw [decOf_names_length]
  exact nameLoop_dec y q 0 _ (Nat.zero_le _) (Nat.le_refl _)

theorem hintName_eq (y : By) (h : Nat) (q : List Nat) :
    y.hintName h q =
      if (y.hint h).isOk = true ∧ y.nameStr h = .ok q then y.hint h else y.name q := by
  unfold By.hintName By.nameStr
  rcases hint_okOrErr y h with ⟨e, he⟩ | ⟨e, he⟩ <;>
    rcases nameOfHint_okOrErr y h with ⟨c, hc⟩ | ⟨e', hc⟩ <;> simp [he, hc, mapOut, Out.isOk]

theorem hintName_dec (y : By) (h : Nat) (q : List Nat) : y.hintName h q = mapOut Prod.fst ((decOf y).hintName h q) := by
  rw [hintName_eq, hint_dec, nameStr_dec, name_dec, isOk_mapOut]
  unfold Dec.hintName
  split <;> rfl

theorem import_dec (y : By) (i : ImportQ) : y.import i = mapOut Prod.fst ((decOf y).import i) := by
  cases i with
  | byName h q => exact hintName_dec y h q
  | byOrdinal o => exact ordinal_dec y o

/-- the lookup a `Query` selects (`get_export` runs it on the `By` of the view) -/
def By.query (y : By) : Query → Out Export
  | .name n => y.name n
  | .ordinal o => y.ordinal o
  | .import i => y.import i

theorem query_dec (y : By) (q : Query) : y.query q = mapOut Prod.fst ((decOf y).query q) := by
  cases q with
  | name n => exact name_dec y n
  | ordinal o => exact ordinal_dec y o
  | «import» i => exact import_dec y i

theorem checkSortedLoop_dec (y : By) : ∀ n h last, y.checkSortedLoop n h last = (decOf y).sortedFrom n h last
  | 0, _, _ => rfl
  | n + 1, h, last => by
    rw [By.checkSortedLoop, discard_eq (nameOfHint_okOrErr y h), discard_eq (hint_okOrErr y h), Dec.sortedFrom,
      ← nameStr_dec]
    unfold By.nameStr
    cases y.nameOfHint h with
    | ok c =>
      show (if cstrBytes y.b c < last then _ else _) = if cstrBytes y.b c < last then _ else _
      rw [checkSortedLoop_dec y n]
    | _ => rfl

theorem checkSorted_dec (y : By) : y.checkSorted = (decOf y).checkSorted := by
  unfold By.checkSorted Dec.checkSorted
  rw [decOf_names_length]
  exact checkSortedLoop_dec y _ _ _

theorem position_eq (y : By) (index : Nat) : ∀ n h0,
    y.position index n h0 = (((List.range' h0 n).map y.idxAt).findIdx? (fun x => x = index)).map (· + h0) := by
  intro n
  induction n with
  | zero => intro h0; rfl
  | succ n ih =>
    intro h0
    rw [By.position, List.range'_succ, List.map_cons, List.findIdx?_cons]
    by_cases he : y.idxAt h0 = index
    · simp [he]
    · rw [if_neg he, ih]
      simp only [he, decide_false, Bool.false_eq_true, if_false, Option.map_map]
      congr 1
      funext x
      simp only [Function.comp]
      omega

theorem nameLookup_dec (y : By) (i : Nat) : y.nameLookup i = (decOf y).nameLookup i := by
  unfold By.nameLookup Dec.nameLookup
  rw [position_eq, ← List.range_eq_range', show (decOf y).idx = (List.range y.idx.cnt).map y.idxAt from rfl]
  cases ((List.range y.idx.cnt).map y.idxAt).findIdx? (fun x => x = i) with
  | none => rfl
  | some h =>
    show (if h < y.names.cnt then _ else _) = mapOut _ ((decOf y).nameEntry h)
    rw [decOf_nameEntry]
    unfold By.nameOfHint
    split
    · cases y.exp.v.dervaCStr (.rva (y.nameAt h)) <;> rfl
    · rfl

/-! ### the two searches -/

namespace Dec
variable (D : Dec)

theorem nameStr_ok_lt {h : Nat} {s : List Nat} (hs : D.nameStr h = .ok s) : h < D.names.length := by
  unfold nameStr nameEntry at hs
  cases hn : D.names[h]? with
  | none => rw [hn] at hs; cases hs
  | some r => obtain ⟨hl, _⟩ := List.getElem?_eq_some_iff.1 hn; exact hl

theorem nameLinear_none {q : List Nat} (hne : ∀ h, D.nameStr h ≠ .ok q) : D.nameLinear q = .err .null := by
  rw [nameLinear, List.find?_eq_none.2 fun h _ => by simpa using hne h]

theorem nameLinear_first {q : List Nat} {h : Nat} (hq : D.nameStr h = .ok q)
    (hfirst : ∀ h', h' < h → D.nameStr h' ≠ .ok q) : D.nameLinear q = D.hint h := by
  rw [nameLinear, List.find?_range_eq_some.2
    ⟨by simpa using hq, List.mem_range.2 (D.nameStr_ok_lt hq), fun j hj => by simpa using hfirst j hj⟩]

theorem search_answer (hn : ∀ h, OkOrErr (D.nameStr h)) (q : List Nat) (lower upper : Nat) (h2 : upper ≤ D.names.length) :
    D.search q lower upper = .err .null ∨
    (∃ h, h < D.names.length ∧ D.nameStr h = .ok q ∧ D.search q lower upper = D.hint h) ∨
    (∃ h e, h < D.names.length ∧ D.nameStr h = .err e ∧ D.search q lower upper = .err e) := by
  fun_induction search D q lower upper with
  | case1 lower upper hlt i ih1 ih2 =>
    have hi : i < D.names.length := by omega
    rcases hn i with ⟨s, hs⟩ | ⟨e, hs⟩
    · rw [hs]
      simp only [Out.bind]
      split
      · exact ih1 (by omega)
      · split
        · exact ih2 h2
        next hqs hsq =>
          exact .inr (.inl ⟨i, hi, by rw [hs, List.le_antisymm (List.not_lt.1 hsq) (List.not_lt.1 hqs)], rfl⟩)
    · exact .inr (.inr ⟨i, e, hi, hs, by rw [hs]; rfl⟩)
  | case2 lower upper hlt => exact .inl rfl

theorem search_sorted (q : List Nat) (nm : Nat → List Nat)
    (hr : ∀ h, h < D.names.length → D.nameStr h = .ok (nm h))
    (hm : ∀ i j, i ≤ j → j < D.names.length → nm i ≤ nm j)
    (lower upper : Nat) (h2 : upper ≤ D.names.length)
    (hlo : ∀ h, h < lower → nm h < q) (hup : ∀ h, upper ≤ h → h < D.names.length → q < nm h) :
    ((∀ h, h < D.names.length → nm h ≠ q) ∧ D.search q lower upper = .err .null) ∨
    (∃ h, h < D.names.length ∧ nm h = q ∧ D.search q lower upper = D.hint h) := by
  fun_induction search D q lower upper with
  | case1 lower upper hlt i ih1 ih2 =>
    have hi : i < D.names.length := by omega
    rw [hr i hi]
    simp only [Out.bind]
    split
    next hqs => exact ih1 (by omega) hlo fun h hih hh => Std.lt_of_lt_of_le hqs (hm i h hih hh)
    next hqs =>
      split
      next hsq => exact ih2 h2 (fun h hh => List.lt_of_le_of_lt (hm h i (by omega) hi) hsq) hup
      next hsq => exact .inr ⟨i, hi, List.le_antisymm (List.not_lt.1 hqs) (List.not_lt.1 hsq), rfl⟩
  | case2 lower upper hlt =>
    refine .inl ⟨fun h hh he => ?_, rfl⟩
    by_cases hl : h < lower
    · exact List.lt_irrefl _ (he ▸ hlo h hl)
    · exact List.lt_irrefl _ (he ▸ hup h (by omega) hh)

/-- the shape of `Spec.sorted` and `Spec.nameDetermined` -/
def Chain (R : List Nat → List Nat → Prop) : Prop :=
  ∀ h, h < D.names.length → ∃ s, D.nameStr h = .ok s ∧ (h = 0 ∨ ∃ p, D.nameStr (h - 1) = .ok p ∧ R s p)

def nm (h : Nat) : List Nat :=
  match D.nameStr h with
  | .ok s => s
  | _ => []

variable {D}

theorem nm_of_ok {h : Nat} {s : List Nat} (hs : D.nameStr h = .ok s) : D.nm h = s := by
  unfold nm; rw [hs]

theorem rel_of_consecutive {r : List Nat → List Nat → Prop} (tr : ∀ a b c, r a b → r b c → r a c)
    (nm : Nat → List Nat) (n : Nat) (hc : ∀ h, 0 < h → h < n → r (nm (h - 1)) (nm h)) :
    ∀ j i, i < j → j < n → r (nm i) (nm j)
  | 0, i, hi, _ => by omega
  | j + 1, i, hi, hj => by
    have h2 : r (nm j) (nm (j + 1)) := hc (j + 1) (by omega) hj
    by_cases he : i = j
    · subst he; exact h2
    · exact tr _ _ _ (rel_of_consecutive tr nm n hc j i (by omega) (by omega)) h2

theorem Chain.nm_spec {R : List Nat → List Nat → Prop} (H : D.Chain R) :
    (∀ h, h < D.names.length → D.nameStr h = .ok (D.nm h)) ∧
    ∀ h, 0 < h → h < D.names.length → R (D.nm h) (D.nm (h - 1)) := by
  refine ⟨fun h hh => ?_, fun h h0 hh => ?_⟩
  · obtain ⟨s, hs, _⟩ := H h hh
    rw [nm_of_ok hs, hs]
  · obtain ⟨s, hs, h0' | ⟨p, hp, hR⟩⟩ := H h hh
    · omega
    · rwa [nm_of_ok hs, nm_of_ok hp]

theorem Chain.mono {R R' : List Nat → List Nat → Prop} (hR : ∀ s p, R s p → R' s p) (H : D.Chain R) : D.Chain R' :=
  fun h hh => let ⟨s, hs, hp⟩ := H h hh; ⟨s, hs, hp.imp id fun ⟨p, hp, h⟩ => ⟨p, hp, hR _ _ h⟩⟩

theorem name_answer (hn : ∀ h, OkOrErr (D.nameStr h)) (q : List Nat) :
    D.name q = .err .null ∨ (∃ h, h < D.names.length ∧ D.nameStr h = .ok q ∧ D.name q = D.hint h) ∨
    (∃ h e, h < D.names.length ∧ D.nameStr h = .err e ∧ D.name q = .err e) :=
  search_answer D hn q 0 _ (Nat.le_refl _)

theorem name_sorted (hs : D.Chain fun s p => ¬ s < p) (q : List Nat) :
    ((∀ h, D.nameStr h ≠ .ok q) ∧ D.name q = .err .null) ∨
    (∃ h, h < D.names.length ∧ D.nameStr h = .ok q ∧ D.name q = D.hint h) := by
  obtain ⟨hr, hc⟩ := hs.nm_spec
  have hm : ∀ i j, i ≤ j → j < D.names.length → D.nm i ≤ D.nm j := fun i j hij hj => by
    rcases Nat.eq_or_lt_of_le hij with rfl | hlt
    · exact List.le_refl _
    · exact rel_of_consecutive (r := (· ≤ ·)) (fun _ _ _ => List.le_trans) D.nm _
        (fun h h0 hh => List.not_lt.1 (hc h h0 hh)) j i hlt hj
  rcases search_sorted D q D.nm hr hm 0 _ (Nat.le_refl _) (fun h hh => by omega) (fun h h1 h2 => by omega)
    with ⟨hne, hnull⟩ | ⟨h, hh, he, hres⟩
  · exact .inl ⟨fun h hq => hne h (D.nameStr_ok_lt hq) (nm_of_ok hq), hnull⟩
  · exact .inr ⟨h, hh, by rw [hr h hh, he], hres⟩

theorem name_eq_nameLinear (hd : D.Chain fun s p => p < s) (q : List Nat) : D.name q = D.nameLinear q := by
  rcases name_sorted (hd.mono fun _ _ => List.lt_asymm) q with ⟨hne, hnull⟩ | ⟨h, hh, he, hres⟩
  · rw [hnull, D.nameLinear_none hne]
  · rw [hres, D.nameLinear_first he]
    intro h' hlt hq
    have := rel_of_consecutive (r := (· < ·)) (fun _ _ _ => List.lt_trans) D.nm _ hd.nm_spec.2 h h' hlt hh
    rw [nm_of_ok he, nm_of_ok hq] at this
    exact List.lt_irrefl _ this

theorem sortedFrom_true (D : Dec) : ∀ n h last, h + n = D.names.length →
    (h = 0 ∧ last = [] ∨ 0 < h ∧ D.nameStr (h - 1) = .ok last) →
    (D.sortedFrom n h last = .ok true ↔
      ∀ h', h ≤ h' → h' < D.names.length → ∃ s, D.nameStr h' = .ok s ∧
        (h' = 0 ∨ ∃ p, D.nameStr (h' - 1) = .ok p ∧ ¬ s < p))
  | 0, h, last, hn, _ => ⟨fun _ h' h1 h2 => by omega, fun _ => rfl⟩
  | n + 1, h, last, hn, hl => by
    rw [Dec.sortedFrom]
    cases hs : D.nameStr h with
    | ok s =>
      show (if s < last then Out.ok false else D.sortedFrom n (h + 1) s) = Out.ok true ↔ _
      -- the condition on hint `h` itself: its predecessor's name is `last`
      have hh : (∃ s', D.nameStr h = .ok s' ∧ (h = 0 ∨ ∃ p, D.nameStr (h - 1) = .ok p ∧ ¬ s' < p)) ↔
          ¬ s < last := by
        rcases hl with ⟨rfl, rfl⟩ | ⟨h0, hp⟩
        · simp [hs]
        · simp [hs, hp, Nat.ne_of_gt h0]
      split
      next hlt => exact ⟨fun hc => (by cases hc), fun H => absurd hlt (hh.1 (H h (Nat.le_refl _) (by omega)))⟩
      next hlt =>
        rw [sortedFrom_true D n (h + 1) s (by omega) (.inr ⟨by omega, hs⟩)]
        refine ⟨fun H h' h1 h2 => ?_, fun H h' h1 h2 => H h' (by omega) h2⟩
        rcases Nat.eq_or_lt_of_le h1 with rfl | h1'
        · exact hh.2 hlt
        · exact H h' h1' h2
    | _ =>
      refine ⟨fun hc => (by cases hc), fun H => ?_⟩
      obtain ⟨_, hs', _⟩ := H h (Nat.le_refl _) (by omega)
      rw [hs] at hs'; cases hs'

theorem checkSorted_true_iff (D : Dec) : D.checkSorted = .ok true ↔ D.Chain fun s p => ¬ s < p :=
  (D.sortedFrom_true _ 0 [] (by omega) (.inl ⟨rfl, rfl⟩)).trans
    ⟨fun H h hh => H h (Nat.zero_le _) hh, fun H h _ hh => H h hh⟩

end Dec

/-! ### every lookup ends in `self.index(..)` or in an error of its own -/

namespace Dec
variable {D : Dec}

/-- what the answer of a lookup is: everything true of every `Dec.index i` and of every error is true of it -/
def Via (D : Dec) (r : Out (Export × Spec.Sym)) : Prop := (∃ e, r = .err e) ∨ ∃ i, r = D.index i

theorem Via.ite {c : Prop} [Decidable c] {a b : Out (Export × Spec.Sym)} (ha : D.Via a) (hb : D.Via b) :
    D.Via (if c then a else b) := by split <;> assumption

theorem ordinal_via (D : Dec) (o : Nat) : D.Via (D.ordinal o) := .ite (.inl ⟨_, rfl⟩) (.inr ⟨_, rfl⟩)

theorem hint_via (D : Dec) (h : Nat) : D.Via (D.hint h) := by
  unfold hint
  split
  · exact .inr ⟨_, rfl⟩
  · exact .inl ⟨_, rfl⟩

theorem nameLinear_via (D : Dec) (q : List Nat) : D.Via (D.nameLinear q) := by
  unfold nameLinear
  split
  · exact hint_via D _
  · exact .inl ⟨_, rfl⟩

theorem name_via (hn : ∀ h, OkOrErr (D.nameStr h)) (q : List Nat) : D.Via (D.name q) := by
  rcases name_answer hn q with h | ⟨h, _, _, hres⟩ | ⟨_, e, _, _, hres⟩
  · exact .inl ⟨_, h⟩
  · exact hres ▸ hint_via D h
  · exact .inl ⟨e, hres⟩

theorem hintName_via (hn : ∀ h, OkOrErr (D.nameStr h)) (h : Nat) (q : List Nat) : D.Via (D.hintName h q) :=
  .ite (hint_via D h) (name_via hn q)

theorem import_via (hn : ∀ h, OkOrErr (D.nameStr h)) : ∀ i, D.Via (D.import i)
  | .byName h q => hintName_via hn h q
  | .byOrdinal o => ordinal_via D o

theorem query_via (hn : ∀ h, OkOrErr (D.nameStr h)) : ∀ q, D.Via (D.query q)
  | .name n => name_via hn n
  | .ordinal o => ordinal_via D o
  | .import i => import_via hn i

end Dec

theorem index_sound {y : By} (hw : y.WF) {i : Nat} {x : Export} (h : y.index i = .ok x) :
    RefOK y.exp.v.img x.ref := by
  revert h
  refine index_split y i (P := fun r _ => r = .ok x → _) nofun nofun (fun _ _ _ o ho h => ?_) (fun hi _ _ h => ?_)
  · obtain ⟨c, rfl, h⟩ := Out.bind_eq_ok h
    cases h
    exact (dervaCStr_sound _ ho).1
  · cases h
    rcases hw.fns with ⟨_, h0⟩ | ⟨_, h1, h2⟩
    · omega
    · have h1 : y.fns.off + 4 * y.fns.cnt ≤ y.exp.v.img.bytes.size := h1
      have h2 : (y.exp.v.img.base + y.fns.off) % 4 = 0 := h2
      exact ⟨by show y.fns.off + 4 * i + 4 ≤ _; omega,
        by show (y.exp.v.img.base + (y.fns.off + 4 * i)) % 4 = 0; omega⟩

theorem index_coh (y : By) (i : Nat) :
    mapOut (Export.abs y.b) (mapOut Prod.fst ((decOf y).index i)) = mapOut Prod.snd ((decOf y).index i) :=
  index_split y i (P := fun _ p => mapOut (Export.abs y.b) (mapOut Prod.fst p) = mapOut Prod.snd p)
    (fun _ => rfl) (fun _ _ => rfl) (fun _ _ _ o _ => by cases o <;> rfl) (fun _ _ _ => rfl)

theorem index_err (y : By) (i : Nat) (er : Err) (h : y.index i = .err er) :
    er = .bounds ∨ er = .null ∨ (i < y.fns.cnt ∧ y.exp.v.dervaCStr (.rva (y.fnAt i)) = .err er) := by
  revert h
  refine index_split y i (P := fun r _ => r = .err er → _) (fun _ h => ?_) (fun _ _ h => ?_) (fun hi _ _ o ho h => ?_) nofun
  · cases h; exact .inl rfl
  · cases h; exact .inr (.inl rfl)
  · cases o <;> cases h
    exact .inr (.inr ⟨hi, ho⟩)

structure IsLookup (y : By) (r : Out Export) (p : Out (Export × Spec.Sym)) : Prop where
  eq : r = mapOut Prod.fst p
  via : (decOf y).Via p

namespace IsLookup
variable {y : By} {r : Out Export} {p : Out (Export × Spec.Sym)} (h : IsLookup y r p)
include h

theorem okOrErr : OkOrErr r := by
  obtain ⟨hr, ⟨e, rfl⟩ | ⟨i, rfl⟩⟩ := h
  · exact hr ▸ okOrErr_err _
  · exact hr ▸ index_dec y i ▸ index_okOrErr y i

theorem sound (hw : y.WF) {x : Export} (hx : r = .ok x) : RefOK y.exp.v.img x.ref := by
  obtain ⟨hr, ⟨e, rfl⟩ | ⟨i, rfl⟩⟩ := h
  · cases hr.symm.trans hx
  · exact index_sound hw ((index_dec y i).trans (hr.symm.trans hx))

theorem abs {s : Out Spec.Sym} (hs : s = mapOut Prod.snd p) : mapOut (Export.abs y.b) r = s := by
  obtain ⟨hr, ⟨e, rfl⟩ | ⟨i, rfl⟩⟩ := h
  · rw [hr, hs]; rfl
  · rw [hr, hs]; exact index_coh y i

end IsLookup

theorem index_lookup (y : By) (i : Nat) : IsLookup y (y.index i) ((decOf y).index i) := ⟨index_dec y i, .inr ⟨i, rfl⟩⟩
theorem ordinal_lookup (y : By) (o : Nat) : IsLookup y (y.ordinal o) ((decOf y).ordinal o) :=
  ⟨ordinal_dec y o, Dec.ordinal_via _ o⟩
theorem hint_lookup (y : By) (h : Nat) : IsLookup y (y.hint h) ((decOf y).hint h) := ⟨hint_dec y h, Dec.hint_via _ h⟩
theorem nameLinear_lookup (y : By) (q : List Nat) : IsLookup y (y.nameLinear q) ((decOf y).nameLinear q) :=
  ⟨nameLinear_dec y q, Dec.nameLinear_via _ q⟩
theorem name_lookup (y : By) (q : List Nat) : IsLookup y (y.name q) ((decOf y).name q) :=
  ⟨name_dec y q, Dec.name_via (decOf_nameStr_okOrErr y) q⟩
theorem hintName_lookup (y : By) (h : Nat) (q : List Nat) : IsLookup y (y.hintName h q) ((decOf y).hintName h q) :=
  ⟨hintName_dec y h q, Dec.hintName_via (decOf_nameStr_okOrErr y) h q⟩
theorem import_lookup (y : By) (i : ImportQ) : IsLookup y (y.import i) ((decOf y).import i) :=
  ⟨import_dec y i, Dec.import_via (decOf_nameStr_okOrErr y) i⟩
theorem query_lookup (y : By) (q : Query) : IsLookup y (y.query q) ((decOf y).query q) :=
  ⟨query_dec y q, Dec.query_via (decOf_nameStr_okOrErr y) q⟩

theorem checkSorted_okOrErr (y : By) : OkOrErr y.checkSorted := by
  rw [checkSorted_dec]
  unfold Dec.checkSorted
  generalize (decOf y).names.length = n, 0 = h, ([] : List Nat) = last
  induction n generalizing h last with
  | zero => exact okOrErr_ok _
  | succ n ih =>
    exact okOrErr_bind (decOf_nameStr_okOrErr y h) fun _ => okOrErr_if (okOrErr_ok _) (ih _ _)

theorem nameLookup_okOrErr (y : By) (i : Nat) : OkOrErr (y.nameLookup i) := by
  rw [nameLookup_dec]
  unfold Dec.nameLookup
  split
  · rw [decOf_nameEntry]
    exact okOrErr_mapOut _ (okOrErr_mapOut _ (nameOfHint_okOrErr y _))
  · exact okOrErr_ok _

/-! ### references of names, the iterators -/

theorem nameOfHint_sound {y : By} {hn : Nat} {c : Ref} (h : y.nameOfHint hn = .ok c) :
    RefOK y.exp.v.img c ∧ hn < y.names.cnt := by
  unfold By.nameOfHint at h
  split at h
  next hi => exact ⟨(dervaCStr_sound _ h).1, hi⟩
  · cases h

theorem nameStr_ok_lt {y : By} {h : Nat} {s : List Nat} (hs : y.nameStr h = .ok s) : h < y.names.cnt :=
  decOf_names_length y ▸ (decOf y).nameStr_ok_lt (nameStr_dec y h ▸ hs)

theorem iter_eq (y : By) : y.iter = (List.range y.fns.cnt).map y.index :=
  List.map_congr_left fun _ hi => (if_pos (List.mem_range.1 hi)).symm

theorem iter_sound {y : By} (hw : y.WF) {x : Export} (h : .ok x ∈ y.iter) : RefOK y.exp.v.img x.ref := by
  rw [iter_eq] at h
  obtain ⟨i, _, he⟩ := List.mem_map.1 h
  exact index_sound hw he

theorem iterNames_sound {y : By} (hw : y.WF) {n : Out Ref} {x : Export} (h : (n, .ok x) ∈ y.iterNames) :
    RefOK y.exp.v.img x.ref := by
  obtain ⟨i, _, he⟩ := List.mem_map.1 h
  exact (hint_lookup y i).sound hw (congrArg Prod.snd he)

theorem iterNameIndices_eq (y : By) :
    y.iterNameIndices = (List.range (min y.names.cnt y.idx.cnt)).map fun h => .ok (y.nameOfHint h, y.idxAt h) :=
  map_range_min_guard ..

theorem iterNameIndices_ok (y : By) : ∀ x ∈ y.iterNameIndices,
    ∃ h, h < y.names.cnt ∧ h < y.idx.cnt ∧ x = .ok (y.nameOfHint h, y.idxAt h) := by
  intro x hx
  rw [iterNameIndices_eq] at hx
  obtain ⟨h, hh, rfl⟩ := List.mem_map.1 hx
  have := List.mem_range.1 hh
  exact ⟨h, by omega, by omega, rfl⟩

/-! ### the specification's functions on the decoded directory -/

theorem tablesOf_names_length (y : By) : (tablesOf y).names.length = (decOf y).names.length := by
  simp [tablesOf, decOf]

theorem spec_index_dec (y : By) (i : Nat) :
    Spec.index (tablesOf y) (cstrOf y.exp.v) i = mapOut Prod.snd ((decOf y).index i) := by
  unfold Spec.index
  rw [show (tablesOf y).fns[i]? = _ from getElem?_map_range _ _ _]
  refine index_split y i (P := fun _ p => _ = mapOut Prod.snd p) (fun hi => ?_) (fun hi h0 => ?_) (fun hi h0 hin o ho => ?_)
    (fun hi h0 hin => ?_)
  · rw [if_neg (by omega)]; rfl
  · rw [if_pos hi]; exact if_pos h0
  · rw [if_pos hi]
    refine (if_neg h0).trans ((if_pos hin).trans ?_)
    show mapOut _ (mapOut _ (y.exp.v.dervaCStr _)) = _
    rw [ho]; cases o <;> rfl
  · rw [if_pos hi]; exact (if_neg h0).trans (if_neg hin)

theorem spec_ordinal_dec (y : By) (o : Nat) :
    Spec.ordinal (tablesOf y) (cstrOf y.exp.v) o = mapOut Prod.snd ((decOf y).ordinal o) := by
  unfold Spec.ordinal Dec.ordinal
  show (if o < y.exp.base then _ else _) = mapOut _ (if o < y.exp.base then _ else _)
  split
  · rfl
  · exact spec_index_dec y _

theorem spec_hint_dec (y : By) (h : Nat) :
    Spec.hint (tablesOf y) (cstrOf y.exp.v) h = mapOut Prod.snd ((decOf y).hint h) := by
  unfold Spec.hint Dec.hint
  rw [show (decOf y).idx = (tablesOf y).idx from rfl]
  cases (tablesOf y).idx[h]? with
  | none => rfl
  | some i => exact spec_index_dec y i

theorem spec_nameOfHint_dec (y : By) (h : Nat) :
    Spec.nameOfHint (tablesOf y) (cstrOf y.exp.v) h = (decOf y).nameStr h := by
  rw [← nameStr_dec]
  unfold By.nameStr By.nameOfHint Spec.nameOfHint
  rw [show (tablesOf y).names[h]? = _ from getElem?_map_range _ _ _]
  by_cases hl : h < y.names.cnt
  · rw [if_pos hl, if_pos hl]; rfl
  · rw [if_neg hl, if_neg hl]; rfl

theorem nameStr_eq_spec (y : By) (h : Nat) :
    y.nameStr h = Spec.nameOfHint (tablesOf y) (cstrOf y.exp.v) h :=
  (nameStr_dec y h).trans (spec_nameOfHint_dec y h).symm

theorem spec_nameLinear_dec (y : By) (q : List Nat) :
    Spec.nameLinear (tablesOf y) (cstrOf y.exp.v) q = mapOut Prod.snd ((decOf y).nameLinear q) := by
  unfold Spec.nameLinear Spec.hintsOf Dec.nameLinear
  rw [List.head?_filter, tablesOf_names_length, funext (spec_nameOfHint_dec y)]
  cases (List.range (decOf y).names.length).find? _ with
  | none => rfl
  | some h => exact spec_hint_dec y h

theorem chain_all_iff (n : Nat) (f : Nat → Out (List Nat)) (r : List Nat → List Nat → Bool) :
    ((List.range n).all fun h =>
        match f h with
        | .ok s => h == 0 || (match f (h - 1) with | .ok p => r s p | _ => false)
        | _ => false) = true ↔
      ∀ h, h < n → ∃ s, f h = .ok s ∧ (h = 0 ∨ ∃ p, f (h - 1) = .ok p ∧ r s p = true) := by
  simp only [List.all_eq_true, List.mem_range]
  refine forall_congr' fun h => imp_congr_right fun _ => ?_
  cases f h with
  | ok s => cases f (h - 1) <;> simp
  | _ => simp

theorem sorted_chain (y : By) :
    Spec.sorted (tablesOf y) (cstrOf y.exp.v) = true ↔ (decOf y).Chain fun s p => ¬ s < p := by
  refine (chain_all_iff _ _ fun s p => !decide (s < p)).trans ?_
  rw [tablesOf_names_length]
  simp only [spec_nameOfHint_dec, Bool.not_eq_eq_eq_not, Bool.not_true, decide_eq_false_iff_not]
  rfl

theorem determined_chain (y : By) :
    Spec.nameDetermined (tablesOf y) (cstrOf y.exp.v) = true ↔ (decOf y).Chain fun s p => p < s := by
  refine (chain_all_iff _ _ fun s p => decide (p < s)).trans ?_
  rw [tablesOf_names_length]
  simp only [spec_nameOfHint_dec, decide_eq_true_eq]
  rfl

theorem spec_hintName_dec (y : By) (h : Nat) (q : List Nat) (hd : (decOf y).Chain fun s p => p < s) :
    Spec.hintName (tablesOf y) (cstrOf y.exp.v) h q = mapOut Prod.snd ((decOf y).hintName h q) := by
  unfold Spec.hintName Spec.name Dec.hintName
  rw [spec_hint_dec, spec_nameOfHint_dec, spec_nameLinear_dec, ← Dec.name_eq_nameLinear hd]
  cases (decOf y).hint h with
  | ok e =>
    cases (decOf y).nameStr h with
    | ok s =>
      show (if s = q then _ else _) = mapOut _ (if _ ∧ Out.ok s = Out.ok q then _ else _)
      by_cases hq : s = q
      · rw [if_pos hq, if_pos ⟨rfl, congrArg _ hq⟩]; rfl
      · rw [if_neg hq, if_neg fun hc => hq (Out.ok.inj hc.2)]
    | _ => simp [mapOut]
  | _ => simp [mapOut, Out.isOk]

theorem nameLookup_abs (y : By) (i : Nat) :
    mapOut (Import.abs y.b) (y.nameLookup i) = Spec.nameLookup (tablesOf y) (cstrOf y.exp.v) i := by
  rw [nameLookup_dec]
  unfold Dec.nameLookup Spec.nameLookup
  rw [show (decOf y).idx = (tablesOf y).idx from rfl]
  cases (tablesOf y).idx.findIdx? (fun x => x = i) with
  | none =>
    show Out.ok (Spec.Imp.byOrdinal _) = Out.ok (Spec.Imp.byOrdinal _)
    congr 2
    show (i % 4294967296 + y.exp.base) % 4294967296 % 65536 = (i + y.exp.base) % 65536
    omega
  | some h =>
    -- the specification's arm is `Spec.nameOfHint` under `byName h`
    dsimp only
    refine Eq.trans (b := mapOut (Spec.Imp.byName h) (Spec.nameOfHint (tablesOf y) (cstrOf y.exp.v) h)) ?_ ?_
    · rw [spec_nameOfHint_dec, Dec.nameStr, decOf_nameEntry]
      cases y.nameOfHint h <;> rfl
    · unfold Spec.nameOfHint
      cases (tablesOf y).names[h]? <;> rfl

/-- `(f_lookup ..).abs rfl` for the three lookups by name, as equations: `simp only` lists and `rw` want them named -/
theorem nameLinear_abs_dec (y : By) (q : List Nat) :
    mapOut (Export.abs y.b) (y.nameLinear q) = mapOut Prod.snd ((decOf y).nameLinear q) := (nameLinear_lookup y q).abs rfl

theorem name_abs_dec (y : By) (q : List Nat) :
    mapOut (Export.abs y.b) (y.name q) = mapOut Prod.snd ((decOf y).name q) := (name_lookup y q).abs rfl

theorem hintName_abs_dec (y : By) (h : Nat) (q : List Nat) :
    mapOut (Export.abs y.b) (y.hintName h q) = mapOut Prod.snd ((decOf y).hintName h q) :=
  (hintName_lookup y h q).abs rfl

/-- equations of FUNCTIONS: the specification maps its two accessors unapplied -/
theorem spec_dec (y : By) :
    Spec.nameOfHint (tablesOf y) (cstrOf y.exp.v) = (decOf y).nameStr ∧
    Spec.hint (tablesOf y) (cstrOf y.exp.v) = fun h => mapOut Prod.snd ((decOf y).hint h) :=
  ⟨funext (spec_nameOfHint_dec y), funext (spec_hint_dec y)⟩

theorem name_sorted (y : By) (q : List Nat) (hs : Spec.sorted (tablesOf y) (cstrOf y.exp.v) = true) :
    ((∀ h, y.nameStr h ≠ .ok q) ∧ y.name q = .err .null) ∨
    (∃ h, h < y.names.cnt ∧ y.nameStr h = .ok q ∧ y.name q = y.hint h) := by
  simp only [name_dec, nameStr_dec, hint_dec, ← decOf_names_length]
  rcases Dec.name_sorted ((sorted_chain y).1 hs) q with ⟨a, b⟩ | ⟨h, a, b, c⟩
  · exact .inl ⟨a, by rw [b]; rfl⟩
  · exact .inr ⟨h, a, b, by rw [c]⟩

theorem mem_acceptName {T : Spec.Tables} {cs : Nat → Out (List Nat)} {q : List Nat} {x : Out Spec.Sym} :
    x ∈ Spec.acceptName T cs q ↔
      x ∈ Spec.namedEntries T cs q ∨
      (x = .err .null ∧ (Spec.namedEntries T cs q = [] ∨ Spec.sorted T cs = false)) ∨
      (Spec.sorted T cs = false ∧ x ∈ Spec.nameReadFailures T cs) := by
  unfold Spec.acceptName
  cases Spec.sorted T cs <;> simp [List.mem_append, List.isEmpty_iff, and_comm]

theorem hint_mem_namedEntries (y : By) (q : List Nat) (h : Nat) (hq : (decOf y).nameStr h = .ok q) :
    mapOut Prod.snd ((decOf y).hint h) ∈ Spec.namedEntries (tablesOf y) (cstrOf y.exp.v) q := by
  unfold Spec.namedEntries
  rw [← spec_hint_dec]
  refine List.mem_map.2 ⟨h, ?_, rfl⟩
  unfold Spec.hintsOf
  refine List.mem_filter.2 ⟨List.mem_range.2 (tablesOf_names_length y ▸ (decOf y).nameStr_ok_lt hq), ?_⟩
  rw [spec_nameOfHint_dec, hq]
  exact decide_eq_true rfl

theorem namedEntries_eq_nil (y : By) (q : List Nat) (hne : ∀ h, (decOf y).nameStr h ≠ .ok q) :
    Spec.namedEntries (tablesOf y) (cstrOf y.exp.v) q = [] := by
  unfold Spec.namedEntries Spec.hintsOf
  rw [List.map_eq_nil_iff, List.filter_eq_nil_iff]
  intro h _ hq
  rw [spec_nameOfHint_dec] at hq
  exact hne h (of_decide_eq_true hq)

/-! ### the directory and its three tables, `get_export` -/

theorem tryFrom_okOrErr (v : View) : OkOrErr (tryFrom v) := by
  unfold tryFrom
  split
  · exact okOrErr_err _
  · exact okOrErr_bind (derva_okOrErr _ _ _ _ (by decide)) fun _ => okOrErr_ok _

theorem mkTab_okOrErr {r : Out Ref} (hr : OkOrErr r) (cnt : Nat) : OkOrErr (mkTab r cnt) := by
  rcases hr with ⟨a, rfl⟩ | ⟨e, rfl⟩
  · exact okOrErr_ok _
  · cases e <;> first | exact okOrErr_ok _ | exact okOrErr_err _

theorem functions_okOrErr (e : Exports) : OkOrErr e.functions := dervaSlice_okOrErr _ _ _ _ _ (by decide)
theorem names_okOrErr (e : Exports) : OkOrErr e.names := dervaSlice_okOrErr _ _ _ _ _ (by decide)
theorem nameIndices_okOrErr (e : Exports) : OkOrErr e.nameIndices := dervaSlice_okOrErr _ _ _ _ _ (by decide)
theorem dllName_okOrErr (e : Exports) : OkOrErr e.dllName := dervaCStr_okOrErr _ _

theorem by_okOrErr (e : Exports) : OkOrErr e.by :=
  okOrErr_bind (mkTab_okOrErr (functions_okOrErr e) _) fun _ =>
  okOrErr_bind (mkTab_okOrErr (names_okOrErr e) _) fun _ =>
  okOrErr_bind (mkTab_okOrErr (nameIndices_okOrErr e) _) fun _ => okOrErr_ok _

theorem getExport_okOrErr (v : View) (q : Query) : OkOrErr (getExport v q) :=
  okOrErr_bind (tryFrom_okOrErr v) fun e => okOrErr_bind (by_okOrErr e) fun y => (query_lookup y q).okOrErr

theorem rvaToVa_okOrErr (v : View) (r : Nat) : OkOrErr (v.rvaToVa r) :=
  okOrErr_if (okOrErr_err _) (okOrErr_if (okOrErr_if (okOrErr_ok _) (okOrErr_err _)) (okOrErr_err _))

theorem rvaToVa_eq_ok {v : View} {r va : Nat} : v.rvaToVa r = .ok va ↔
    r ≠ 0 ∧ r < sizeOfImage v.b ∧ v.imageBase + r < v.fmt.vaLimit ∧ va = v.imageBase + r := by
  unfold View.rvaToVa
  rw [ite_err_eq_ok]
  by_cases h1 : r < sizeOfImage v.b <;> by_cases h2 : v.imageBase + r < v.fmt.vaLimit <;> simp [h1, h2, eq_comm]

theorem getProcAddress_okOrErr (v : View) (q : Query) : OkOrErr (getProcAddress v q) :=
  okOrErr_bind (getExport_okOrErr v q) fun e =>
    match e with
    | .symbol _ => rvaToVa_okOrErr _ _
    | .forward _ => okOrErr_err _

theorem mkTab_dervaSlice_ok {v : View} {r size cnt : Nat} {t : Tab}
    (h : mkTab (v.dervaSlice (.rva r) size size cnt) cnt = .ok t) : Tab.OK v.img t size := by
  unfold mkTab at h
  split at h
  next ref hr =>
    cases h
    obtain ⟨hok, hl, ha⟩ := dervaSlice_sound v hr
    exact .inr ⟨rfl, refOK_prefix hok (Nat.le_of_eq hl.symm) ha⟩
  next => cases h; exact .inl ⟨rfl, rfl⟩
  all_goals cases h

theorem by_tables {e : Exports} {y : By} (h : e.by = .ok y) :
    y.exp = e ∧ mkTab e.functions e.nFns = .ok y.fns ∧ mkTab e.names e.nNames = .ok y.names ∧
    mkTab e.nameIndices e.nNames = .ok y.idx := by
  unfold Exports.by at h
  obtain ⟨f, hf, h⟩ := Out.bind_eq_ok h
  obtain ⟨n, hn, h⟩ := Out.bind_eq_ok h
  obtain ⟨i, hi, h⟩ := Out.bind_eq_ok h
  cases h
  exact ⟨rfl, hf, hn, hi⟩

theorem by_ok {e : Exports} {y : By} (h : e.by = .ok y) : y.exp = e ∧ y.WF := by
  obtain ⟨rfl, hf, hn, hi⟩ := by_tables h
  exact ⟨rfl, mkTab_dervaSlice_ok hf, mkTab_dervaSlice_ok hn, mkTab_dervaSlice_ok hi⟩

theorem tryFrom_ok {v : View} {e : Exports} (h : tryFrom v = .ok e) :
    e.v = v ∧ RefOK v.img e.image ∧ v.dataDir 0 = some (e.ddVA, e.ddSize) := by
  unfold tryFrom at h
  split at h
  · cases h
  next va size hd =>
    obtain ⟨r, hs, h⟩ := Out.bind_eq_ok h
    cases h
    obtain ⟨hok, hl, ha⟩ := derva_sound v hs
    exact ⟨rfl, refOK_prefix hok (Nat.le_of_eq hl.symm) ha, hd⟩

theorem mkTab_cnt_le {r : Out Ref} {cnt : Nat} {t : Tab} (h : mkTab r cnt = .ok t) : t.cnt ≤ cnt := by
  unfold mkTab at h
  split at h <;> cases h <;> simp

theorem by_cnt_lt {e : Exports} {y : By} (h : e.by = .ok y) :
    y.fns.cnt < 4294967296 ∧ y.names.cnt < 4294967296 ∧ y.idx.cnt < 4294967296 := by
  obtain ⟨_, hf, hn, hi⟩ := by_tables h
  have b1 := le32_lt e.b (e.off + 20)
  have b2 := le32_lt e.b (e.off + 24)
  have f := mkTab_cnt_le hf
  have n := mkTab_cnt_le hn
  have i := mkTab_cnt_le hi
  unfold Exports.nFns at f
  unfold Exports.nNames at n i
  omega

theorem dervaSlice_null (v : View) (size a len : Nat) : v.dervaSlice (.rva 0) size a len = .err .null := rfl

theorem mkTab_null (cnt : Nat) : mkTab (.err .null) cnt = .ok ⟨0, 0, true⟩ := rfl

theorem by_of_view {v : View} {e : Exports} {y : By} (h1 : tryFrom v = .ok e) (h2 : e.by = .ok y) : y.exp.v = v ∧ y.WF :=
  ⟨(by_ok h2).1 ▸ (tryFrom_ok h1).1, (by_ok h2).2⟩

theorem getExport_eq {v : View} {e : Exports} {y : By} (h1 : tryFrom v = .ok e) (h2 : e.by = .ok y) (q : Query) :
    getExport v q = y.query q := by
  unfold getExport
  rw [h1]; show e.by.bind _ = _; rw [h2]; rfl

/-! ### on a concrete image -/

/-- `Exports` and `By` carry the image and have no `DecidableEq`: what an evaluation can compare is the tuple of their fields -/
theorem by_of_fields {v : View} {e0 : Exports} {y0 : By} (hv : e0.v = v) (he : y0.exp = e0)
    (h : (tryFrom v).bind (fun e => e.by.bind fun y => .ok (e.ddVA, e.ddSize, e.off, y.fns, y.names, y.idx)) =
      .ok (e0.ddVA, e0.ddSize, e0.off, y0.fns, y0.names, y0.idx)) : tryFrom v = .ok e0 ∧ e0.by = .ok y0 := by
  obtain ⟨e, h1, h⟩ := Out.bind_eq_ok h
  obtain ⟨y, h2, h⟩ := Out.bind_eq_ok h
  have hev := (tryFrom_ok h1).1
  have hye := (by_ok h2).1
  obtain ⟨ev, e1, e2, e3⟩ := e
  obtain ⟨ye, y1, y2, y3⟩ := y
  obtain ⟨e0v, e01, e02, e03⟩ := e0
  obtain ⟨y0e, y01, y02, y03⟩ := y0
  simp only [Out.ok.injEq, Prod.mk.injEq] at h
  obtain ⟨rfl, rfl, rfl, rfl, rfl, rfl⟩ := h
  subst hv he hye
  cases hev
  exact ⟨h1, h2⟩

/-- with the `Exports` spelled out its fields are visible to `f` (and to `simp`) -/
theorem tryFrom_bind {β} (v : View) (f : Exports → Out β) : (tryFrom v).bind f =
    (Out.ofOption .null (v.dataDir 0)).bind fun p => (v.derva (.rva p.1) 40 4).bind fun r => f ⟨v, p.1, p.2, r.off⟩ := by
  unfold tryFrom
  cases v.dataDir 0 with
  | none => rfl
  | some p => dsimp only [Out.ofOption, Out.bind]; cases v.derva (.rva p.1) 40 4 <;> rfl

theorem fields_of_by {v : View} {e : Exports} {y : By} (h1 : tryFrom v = .ok e) (h2 : e.by = .ok y) :
    (tryFrom v).bind (fun e => e.by.bind fun y => .ok (e.ddVA, e.ddSize, e.off, y.fns, y.names, y.idx)) =
      .ok (e.ddVA, e.ddSize, e.off, y.fns, y.names, y.idx) := by
  rw [h1]; show e.by.bind _ = _; rw [h2]; rfl

theorem getExport_of_by {v : View} {e : Exports} {y : By} (h1 : tryFrom v = .ok e) (h2 : e.by = .ok y) (q : Query) :
    getExport v q = mapOut Prod.fst ((decOf y).query q) :=
  (getExport_eq h1 h2 q).trans (query_dec y q)

end Pelite.Exports
