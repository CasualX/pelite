import PeliteModel.Lemmas.VersionMisc
/-!
C13: the queries of the model against the answers the specification derives from the abstract content
(`Spec.stringsOf`, `valueOf`, `stringMapsOf`): UTF-16 on both sides, the parse tree without its offsets as values of
the specification (`PTable.abs`, `PInfo.abs`, `PRoot.Reads`, `ReadsAs`), and each query on a block that reads as `v`.
-/
set_option linter.unusedSimpArgs false
set_option linter.unnecessarySimpa false

namespace Pelite.Version
open Spec

def Dec.unit : Dec → Unit16
  | .ok c => .scalar c
  | .bad u => .unpaired u

theorem isSurrogate_eq (u : Nat) : isSurrogate u = (isHigh u || isLow u) := by
  unfold isSurrogate isHigh isLow
  by_cases h1 : 0xD800 ≤ u <;> by_cases h2 : u ≤ 0xDFFF <;> by_cases h3 : u ≤ 0xDBFF <;> by_cases h4 : 0xDC00 ≤ u <;>
    simp [h1, h2, h3, h4] <;> omega

theorem read16_eq (ws : List Nat) : read16 ws = (decode16 ws).map Dec.unit := by
  fun_induction decode16 ws with
  | case1 => rfl
  | case2 u h =>  -- a lone unit, not a surrogate
    have : (isHigh u || isLow u) = false := by rw [← isSurrogate_eq]; simpa using h
    simp [read16, this, Dec.unit]
  | case3 u h =>  -- a lone surrogate
    have : (isHigh u || isLow u) = true := by rw [← isSurrogate_eq]; simpa using h
    simp [read16, this, Dec.unit]
  | case4 u u2 rest h ih =>  -- not a surrogate, more follows
    have hs : (isHigh u || isLow u) = false := by rw [← isSurrogate_eq]; simpa using h
    simp only [Bool.or_eq_false_iff] at hs
    simp [read16, hs.1, hs.2, ih, Dec.unit]
  | case5 u u2 rest h h2 ih =>  -- a low surrogate first
    have hs : (isHigh u || isLow u) = true := by rw [← isSurrogate_eq]; simpa using h
    have hh : isHigh u = false := by
      simp only [isHigh, Bool.and_eq_false_iff, decide_eq_false_iff_not]; omega
    have hl : isLow u = true := by rw [hh] at hs; simpa using hs
    simp [read16, hh, hl, ih, Dec.unit]
  | case6 u u2 rest h h2 h3 ih =>  -- a high surrogate, no low one after it
    have hs : (isHigh u || isLow u) = true := by rw [← isSurrogate_eq]; simpa using h
    have hl : isLow u2 = false := by
      simp only [Bool.or_eq_true, decide_eq_true_eq] at h3
      simp only [isLow, Bool.and_eq_false_iff, decide_eq_false_iff_not]; omega
    simp [read16, hs, hl, ih, Dec.unit]
  | case7 u u2 rest h h2 h3 ih =>  -- a pair
    simp only [isSurrogate, Bool.not_eq_true', Bool.not_eq_false, Bool.and_eq_true, decide_eq_true_eq] at h
    simp only [Bool.or_eq_true, decide_eq_true_eq, not_or, Nat.not_lt, Nat.not_le] at h3
    have hh : isHigh u = true := by simp only [isHigh, Bool.and_eq_true, decide_eq_true_eq]; omega
    have hl : isLow u2 = true := by simp only [isLow, Bool.and_eq_true, decide_eq_true_eq]; omega
    simp only [read16, hh, hl, Bool.and_self, if_true, List.map_cons, ih, Dec.unit, List.cons.injEq, and_true,
      Unit16.scalar.injEq]
    omega

theorem text_eq_read16 (ws : List Nat) :
    text ws = (read16 ws).map (fun | .scalar c => c | .unpaired _ => 0xFFFD) := by
  fun_induction read16 ws with
  | case1 => rfl
  | case2 u => simp only [text, List.map_cons, List.map_nil]; split <;> rfl
  | case3 u u2 rest h ih => simp only [text, h, if_true, List.map_cons, ih]
  | case4 u u2 rest h ih =>
    simp only [text, h, if_false, List.map_cons, ih, Bool.false_eq_true]
    split <;> rfl

theorem wellFormed16_eq_read16 (ws : List Nat) :
    wellFormed16 ws = (read16 ws).all (fun | .scalar _ => true | .unpaired _ => false) := by
  fun_induction read16 ws with
  | case1 => rfl
  | case2 u => simp only [wellFormed16, List.all_cons, List.all_nil, Bool.and_true]; cases (isHigh u || isLow u) <;> rfl
  | case3 u u2 rest h ih => simp only [wellFormed16, h, if_true, List.all_cons, ih, Bool.true_and]
  | case4 u u2 rest h ih =>
    simp only [wellFormed16, h, if_false, List.all_cons, ih, Bool.false_eq_true]
    cases (isHigh u || isLow u) <;> rfl

theorem lossy_eq_text (ws : List Nat) : lossy ws = text ws := by
  rw [text_eq_read16, read16_eq, List.map_map]
  exact List.map_congr_left fun d _ => by cases d <;> rfl

theorem validUtf16_eq (ws : List Nat) : validUtf16 ws = wellFormed16 ws := by
  rw [wellFormed16_eq_read16, read16_eq, List.all_map]
  unfold validUtf16
  congr 1; funext d; cases d <;> rfl

theorem decode16_bad_surrogate (ws : List Nat) : ∀ u, Dec.bad u ∈ decode16 ws → isSurrogate u = true := by
  fun_induction decode16 ws <;> simp_all

def Tlv.str (x : Tlv) : VStr := ⟨x.key.ws, x.value.ws⟩

def PTable.abs (t : PTable) : VTable := ⟨t.node.key.ws, t.strings.map Tlv.str⟩

def Tlv.var (x : Tlv) : VVar := ⟨x.key.ws, x.value.ws⟩

def PInfo.abs (i : PInfo) : Option VBlock :=
  match i.kind with
  | .tables ts => some (.stringInfo (ts.map PTable.abs))
  | .vars vs => some (.varInfo (vs.map Tlv.var))
  | .other => none

def PRoot.Reads (r : PRoot) (v : VInfo) : Prop :=
  r.node.key.ws = v.key ∧ r.node.value.ws = v.value ∧ r.infos.map PInfo.abs = v.blocks.map some

/-- Only the first root counts (`visit` returns after the first version info a visitor accepts, so `rs` is free), and the
equation on `r.infos` also says that no child of the root is of kind `.other`. -/
def ReadsAs (w : Sl) (v : VInfo) : Prop := ∃ r rs, pRoots w = r :: rs ∧ r.Reads v

theorem flatMap_eq_of_map_eq {α β γ δ : Type} {f : α → γ} {g : β → γ} (F : α → List δ) (G : β → List δ) {l : List α}
    {l' : List β} (h : l.map f = l'.map g) (hFG : ∀ a ∈ l, ∀ b, f a = g b → F a = G b) : l.flatMap F = l'.flatMap G := by
  induction l generalizing l' with
  | nil => cases l' with
    | nil => rfl
    | cons _ _ => cases h
  | cons a l ih =>
    cases l' with
    | nil => cases h
    | cons b l' =>
      simp only [List.map_cons, List.cons.injEq] at h
      rw [List.flatMap_cons, List.flatMap_cons, hFG a List.mem_cons_self b h.1,
        ih h.2 fun a ha => hFG a (List.mem_cons_of_mem _ ha)]

theorem tables_abs (r : PRoot) (v : VInfo) (h : r.Reads v) : r.tables.map PTable.abs = v.tables := by
  unfold PRoot.tables VInfo.tables
  rw [List.map_flatMap]
  refine flatMap_eq_of_map_eq _ _ h.2.2 fun i _ b hib => ?_
  unfold PInfo.abs at hib
  unfold PInfo.tables
  cases hk : i.kind <;> rw [hk] at hib <;> cases hib <;> rfl

theorem fixedSl_reads {r : PRoot} {v : VInfo} (h : r.Reads v) : (fixedSl r.node.value).map (·.ws) = v.fixed := by
  simp only [fixedSl, VInfo.fixed, Sl.len, h.2.1]
  split <;> simp [h.2.1]

theorem langs_reads {r : PRoot} {v : VInfo} (h : r.Reads v) :
    (match lastTranslation r.vars none with
     | some sl => (langsOf sl.ws).map (fun l => (l.langId, l.charsetId))
     | none => []) = v.translations := by
  have hv : (r.vars.filter fun x => x.key.ws = strTranslation).map (·.value.ws) = v.translationVars := by
    unfold PRoot.vars VInfo.translationVars
    rw [List.filter_flatMap, List.map_flatMap]
    refine flatMap_eq_of_map_eq _ _ h.2.2 fun i _ b hib => ?_
    unfold PInfo.abs at hib
    unfold PInfo.vars
    cases hk : i.kind <;> rw [hk] at hib <;> cases hib
    · rfl
    · simp only [VBlock.translationVars, List.filter_map, List.map_map, kTranslation_eq]; rfl
  simp only [VInfo.translations, ← hv, lastTranslation_eq, List.getLast?_map]
  cases (List.filter (fun x => decide (x.key.ws = strTranslation)) r.vars).getLast? with
  | none => rfl
  | some x => exact langsOf_pairs x.value.ws

theorem fixed_of_reads (w : Sl) (hw : w.Al) (v : VInfo) (h : ReadsAs w v) :
    ∃ f, fixed w = .ok f ∧ f.map (·.ws) = v.fixed := by
  obtain ⟨r, rs, hr, hrv⟩ := h
  exact ⟨_, fixed_eq _ hw, by rw [hr]; exact fixedSl_reads hrv⟩

theorem translation_of_reads (w : Sl) (hw : w.Al) (v : VInfo) (h : ReadsAs w v) :
    ∃ t, translation w = .ok t ∧
      (match t with
       | some sl => (langsOf sl.ws).map (fun l => (l.langId, l.charsetId))
       | none => []) = v.translations := by
  obtain ⟨r, rs, hr, hrv⟩ := h
  exact ⟨_, translation_eq _ hw, by rw [hr]; exact langs_reads hrv⟩

theorem flatTable_abs (t : PTable) : (flatTable t).map Event.erase = t.abs.events := by
  simp only [flatTable, flatStrings, VTable.events, PTable.abs, Tlv.str, List.map_append, List.map_cons, List.map_nil,
    List.map_map, Function.comp_def, Event.erase, stripNul_ws]

theorem flatInfo_abs (fi : Tlv) (b : VBlock) (h : (pInfo fi).abs = some b) :
    (flatInfo (pInfo fi)).map Event.erase = b.events := by
  rcases pInfo_spec fi with ⟨hk, hi⟩ | ⟨hk, hi⟩ | ⟨-, -, hi⟩ <;> rw [hi] at h ⊢ <;> cases h
  · simp only [flatInfo, flatKind, VBlock.events, List.map_append, List.map_cons, List.map_nil, Event.erase, hk,
      kStringFileInfo_eq, List.map_flatMap, List.flatMap_map, flatTable_abs]
  · simp only [flatInfo, flatKind, VBlock.events, List.map_append, List.map_cons, List.map_nil, Event.erase, hk,
      kVarFileInfo_eq, List.map_map, Function.comp_def, Tlv.var]

theorem flatRoot_abs (vi : Tlv) (v : VInfo) (h : (pRoot vi).Reads v) : (flatRoot (pRoot vi)).map Event.erase = v.events := by
  have hfix := fixedSl_reads h
  obtain ⟨h1, h2, h3⟩ := h
  have : ((pRoot vi).infos.flatMap flatInfo).map Event.erase = v.blocks.flatMap VBlock.events := by
    rw [List.map_flatMap]
    refine flatMap_eq_of_map_eq _ _ h3 fun i hi b hib => ?_
    obtain ⟨fi, -, rfl⟩ := List.mem_map.mp hi
    exact flatInfo_abs fi b hib
  simp only [flatRoot, VInfo.events, List.map_append, List.map_cons, List.map_nil, Event.erase, h1, hfix, this,
    List.cons_append, List.nil_append]

theorem flat_reads (w : Sl) (v : VInfo) (h : ReadsAs w v) : (flatRoots (pRoots w)).map Event.erase = v.events := by
  obtain ⟨r, rs, hr, hrv⟩ := h
  rw [hr]
  obtain ⟨vi, -, -, rfl, -⟩ := List.map_eq_cons_iff.mp hr
  exact flatRoot_abs vi v hrv

theorem events_of_reads (w : Sl) (hw : w.Al) (v : VInfo) (h : ReadsAs w v) :
    ∃ es, events w = .ok es ∧ es.map Event.erase = v.events :=
  ⟨_, events_eq_flat w hw, flat_reads w v h⟩

/-- `Spec.stringsOf` with the language of a table read as `Language::parse` reads it -/
def entriesOf (ts : List VTable) (lang : Language) : List (Str × Str) :=
  (ts.filter fun t => Language.parse t.lang = some lang).flatMap VTable.entries

theorem kvs_abs (t : PTable) : t.kvs.map (fun kv => (lossy kv.1.ws, lossy kv.2.ws)) = t.abs.entries := by
  simp only [PTable.kvs, PTable.abs, Tlv.str, VTable.entries, List.map_map, Function.comp_def, stripNul_ws, lossy_eq_text]

theorem kvsOf_abs (r : PRoot) (lang : Language) :
    (r.kvsOf lang).map (fun kv => (lossy kv.1.ws, lossy kv.2.ws)) = entriesOf (r.tables.map PTable.abs) lang := by
  unfold PRoot.kvsOf entriesOf
  rw [List.map_flatMap, List.filter_map, List.flatMap_map]
  simp only [kvs_abs]
  rfl

theorem parse_eq_iff {k : List Nat} (hk : (langOfKey k).isSome = true) (l c : Nat) :
    Language.parse k = some ⟨l, c⟩ ↔ langOfKey k = some (l, c) := by
  cases h : langOfKey k with
  | none => rw [h] at hk; cases hk
  | some p =>
    obtain ⟨l', c'⟩ := p
    rw [parse_hex_key h]
    simp only [Option.some.injEq, Language.mk.injEq, Prod.mk.injEq]

theorem mem_tables_langOk {v : VInfo} (h : v.langKeysOk = true) {t : VTable} (ht : t ∈ v.tables) :
    (langOfKey t.lang).isSome = true := by
  simp only [VInfo.langKeysOk, List.all_eq_true] at h
  exact h t ht

theorem entriesOf_spec (v : VInfo) (hl : v.langKeysOk = true) (l c : Nat) :
    entriesOf v.tables ⟨l, c⟩ = stringsOf v (l, c) := by
  unfold entriesOf stringsOf
  congr 1
  apply List.filter_congr
  intro t ht
  exact decide_eq_decide.mpr (parse_eq_iff (mem_tables_langOk hl ht) l c)

theorem strings_of_reads (w : Sl) (hw : w.Al) (v : VInfo) (ht : ReadsAs w v) (hl : v.langKeysOk = true) (l c : Nat) :
    strings w ⟨l, c⟩ = .ok (stringsOf v (l, c)) := by
  rw [strings_eq _ hw]
  obtain ⟨r, rs, hr, hrv⟩ := ht
  have hc := tables_abs r v hrv
  rw [hr]
  simp only [kvsOf_abs, hc, entriesOf_spec v hl]

theorem stringKeys_abs (r : PRoot) :
    stringKeys (flatRoot r) = (r.tables.map PTable.abs).flatMap fun t => t.strings.map (·.key) := by
  simp only [stringKeys_flatRoot, List.flatMap_map, PTable.kvs, PTable.abs, Tlv.str, List.map_map, Function.comp_def]

theorem value_of_reads (w : Sl) (hw : w.Al) (v : VInfo) (ht : ReadsAs w v) (hl : v.langKeysOk = true)
    (hk : v.keysValid = true) (l c : Nat) (key : Str) :
    value w ⟨l, c⟩ key = .ok (valueOf v (l, c) key) := by
  rw [value_eq _ hw]
  obtain ⟨r, rs, hr, hrv⟩ := ht
  have hc := tables_abs r v hrv
  rw [hr]
  simp only
  rw [value_strings_agree_tree r ⟨l, c⟩ key ?_, kvsOf_abs, hc, entriesOf_spec v hl]
  · rfl
  · intro k hkm
    rw [stringKeys_abs, hc] at hkm
    obtain ⟨t, ht, hkm⟩ := List.mem_flatMap.mp hkm
    obtain ⟨s, hs, rfl⟩ := List.mem_map.mp hkm
    simp only [VInfo.keysValid, List.all_eq_true] at hk
    rw [validUtf16_eq]
    exact hk t ht s hs

theorem distinct_nodup {α : Type} [DecidableEq α] (l : List α) (h : distinct l = true) : l.Nodup := by
  induction l with
  | nil => exact List.Pairwise.nil
  | cons a l ih =>
    simp only [distinct, Bool.and_eq_true, Bool.not_eq_true', ← Bool.not_eq_true, List.contains_iff_mem] at h
    exact List.nodup_cons.mpr ⟨h.1, ih h.2⟩

/-- what `file_info().strings` holds when nothing is replaced, as a function of the tables -/
def mapsOf (ts : List VTable) : List (Language × List (Str × Str)) :=
  ts.filterMap fun t => (Language.parse t.lang).map fun l => (l, t.entries)

theorem entries_abs (t : PTable) (h : (t.abs.entries.map (·.1)).Nodup) : t.entries = t.abs.entries := by
  rw [← kvs_abs] at h ⊢
  exact amInsertAll_fresh _ [] h

theorem stringsMap_abs (ts : List PTable)
    (hl : ((ts.map PTable.abs).filterMap fun t => Language.parse t.lang).Nodup)
    (hk : ∀ t ∈ ts.map PTable.abs, (t.entries.map (·.1)).Nodup) :
    stringsMap ts [] = mapsOf (ts.map PTable.abs) := by
  unfold stringsMap mapsOf
  rw [amInsertAll_fresh _ [] (by simpa [List.filterMap_map, List.map_filterMap, Function.comp_def, PTable.lang, PTable.abs] using hl),
    List.nil_append, List.filterMap_map]
  apply filterMap_congr_mem
  intro t ht
  simp only [Function.comp, PTable.lang]
  rw [entries_abs t (hk _ (List.mem_map.mpr ⟨t, ht, rfl⟩))]
  rfl

theorem nodup_parse (ts : List VTable) (hok : ∀ t ∈ ts, (langOfKey t.lang).isSome = true)
    (hd : (ts.map fun t => langOfKey t.lang).Nodup) : (ts.filterMap fun t => Language.parse t.lang).Nodup := by
  rw [List.Nodup, List.pairwise_filterMap]
  refine (List.pairwise_map.1 hd).imp_of_mem fun {t t'} ht ht' hne => ?_
  rintro ⟨l, c⟩ hb _ hb' rfl
  exact hne (((parse_eq_iff (hok t ht) l c).1 hb).trans ((parse_eq_iff (hok t' ht') l c).1 hb').symm)

theorem mapsOf_spec (v : VInfo) (hl : v.langKeysOk = true) :
    (mapsOf v.tables).map (fun e => ((e.1.langId, e.1.charsetId), e.2)) = stringMapsOf v := by
  unfold mapsOf stringMapsOf
  rw [List.map_filterMap]
  apply filterMap_congr_mem
  intro t ht
  have hok := mem_tables_langOk hl ht
  cases h : langOfKey t.lang with
  | none => rw [h] at hok; cases hok
  | some p => simp only [parse_hex_key h, Option.map_some]

theorem fileInfo_of_reads (w : Sl) (hw : w.Al) (v : VInfo) (ht : ReadsAs w v) (hl : v.langKeysOk = true)
    (hd : v.langsDistinct = true) (hk : v.keysDistinct = true) :
    ∃ fi, fileInfo w = .ok fi ∧
      fi.fixed.map (·.ws) = v.fixed ∧
      (match fi.langs with
       | some sl => (langsOf sl.ws).map (fun l => (l.langId, l.charsetId))
       | none => []) = v.translations ∧
      fi.strings.map (fun e => ((e.1.langId, e.1.charsetId), e.2)) = stringMapsOf v := by
  obtain ⟨fi, hfi, hfi2⟩ := fileInfo_eq w hw
  obtain ⟨r, rs, hr, hrv⟩ := ht
  have hc := tables_abs r v hrv
  rw [hr] at hfi2
  refine ⟨fi, hfi, hfi2.1 ▸ fixedSl_reads hrv, hfi2.2.2 ▸ langs_reads hrv, ?_⟩
  rw [hfi2.2.1, stringsMap_abs, hc, mapsOf_spec v hl]
  · rw [hc]
    exact nodup_parse v.tables (fun t ht => mem_tables_langOk hl ht) (distinct_nodup _ hd)
  · rw [hc]
    intro t ht
    simp only [VInfo.keysDistinct, List.all_eq_true] at hk
    simpa only [VTable.entries, List.map_map, Function.comp_def] using distinct_nodup _ (hk t ht)

end Pelite.Version
