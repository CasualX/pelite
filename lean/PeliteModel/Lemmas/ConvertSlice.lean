import PeliteModel.Thm.C06
import PeliteModel.Thm.C05
/-! Helper lemmas for the slice-level statements of C06: strings and integers read from two buffers that agree on the
bytes read; what a successful `slice` on a file view says about the converted buffer. -/
namespace Pelite.Pe

theorem cstr_bounds {b : Bytes} {off len : Nat} {c : Ref} (h : cstrFromBytes b off len = some c) :
    c.off = off ∧ 1 ≤ c.len ∧ c.len ≤ len := by
  obtain ⟨n, rfl, h2, -⟩ := cstrFromBytes_eq_some.1 h
  exact ⟨rfl, by simp, h2⟩

theorem cstr_transfer {b b' : Bytes} {off off' len : Nat} {c : Ref}
    (h : cstrFromBytes b off len = some c)
    (hb : ∀ i, i < c.len → byteAt b' (off' + i) = byteAt b (off + i)) :
    cstrFromBytes b' off' c.len = some ⟨off', c.len, 1⟩ := by
  obtain ⟨n, rfl, -, h3, h4⟩ := cstrFromBytes_eq_some.1 h
  exact cstrFromBytes_eq_some.2 ⟨n, rfl, Nat.le_refl _, by rw [hb n (by simp)]; exact h3,
    fun j hj => by rw [hb j (by simp; omega)]; exact h4 j hj⟩

theorem leValue_same_bytes {b b' : Bytes} : ∀ {size o o' : Nat},
    (∀ i, i < size → byteAt b' (o' + i) = byteAt b (o + i)) → leValue b' o' size = leValue b o size
  | 0, _, _, _ => rfl
  | n + 1, o, o', h => by
    have ih := leValue_same_bytes (b := b) (b' := b') (size := n) (o := o + 1) (o' := o' + 1) fun i hi => by
      rw [Nat.add_assoc, Nat.add_assoc, Nat.add_comm 1 i]; exact h (i + 1) (Nat.succ_lt_succ hi)
    rw [leValue, leValue, ih, show byteAt b' o' = byteAt b o from h 0 (Nat.succ_pos n)]

theorem leN_same_bytes {b b' : Bytes} {o o' size : Nat}
    (h : ∀ i, i < size → byteAt b' (o' + i) = byteAt b (o + i)) : leN b' o' size = leN b o size := by
  by_cases hs : size = 1 ∨ size = 2 ∨ size = 4 ∨ size = 8
  · rw [leN_eq_leValue _ _ _ hs, leN_eq_leValue _ _ _ hs, leValue_same_bytes h]
  · rw [leN_other _ _ _ hs, leN_other _ _ _ hs]

theorem leN_elems_same {b b' : Bytes} {off off' size m : Nat}
    (hb : ∀ i, i < m * size → byteAt b' (off' + i) = byteAt b (off + i)) (j : Nat) (hj : j < m) :
    leN b' (off' + j * size) size = leN b (off + j * size) size := by
  apply leN_same_bytes
  intro i hi
  have hm : (j + 1) * size ≤ m * size := Nat.mul_le_mul_right _ hj
  rw [Nat.succ_mul] at hm
  have := hb (j * size + i) (by omega)
  rw [← Nat.add_assoc, ← Nat.add_assoc] at this
  exact this

/-- `slice` on the file names the first section containing `rva` and returns its raw data from the mapped
offset on; `C06_to_view_section` puts the mapped part of it (`k` bytes) at its rva in `w`'s buffer. -/
theorem file_slice_window {f : Fmt} {img : Img} {v : View} (hv : fromBytes f .file img = .ok v)
    (hl : Loadable v) {base : Nat} {w : View} (hw : fromBytes f .view ⟨v.toView, base⟩ = .ok w)
    {rva m a : Nat} (hr : rva < 4294967296) {r : Ref} (hslice : v.slice rva m a = .ok r)
    (ha : (base + rva) % a = 0) {k : Nat} (hk : k ≤ r.len)
    (hmapped : ∀ s, firstV v.secs rva = some s → rva - s.va + k ≤ s.vs) :
    (∀ n, n ≤ k → w.slice rva n a = .ok ⟨rva, w.img.bytes.size - rva, a⟩) ∧
    rva + k ≤ w.img.bytes.size ∧ w.img.base = base ∧
    ∀ i, i < k → byteAt w.b (rva + i) = byteAt v.b (r.off + i) := by
  have hk' : v.kind = .file := by rw [((fromBytes_ok_iff _ _ _ _).1 hv).2]
  have hsl : sliceFile v.img v.secs rva m a = .ok r := by
    unfold View.slice at hslice
    rw [hk'] at hslice
    exact hslice
  obtain ⟨h0, hp, _, s, hf, _, _, h3, h4, _, rfl⟩ :=
    (C04_slice_file_ok_iff v.img v.secs (sections_in_range v.b) rva m a hr r).1 hsl
  obtain ⟨hmem, hc⟩ := firstV_some hf
  have hva := (containsRva_nowrap (sections_in_range v.b s hmem) hc).1
  have hm := hmapped s hf
  have hsoi := (hl.1 s hmem).2.2.1
  -- `w` is kept abstract: unifying against the structure literal unfolds `toView`
  have hwe := ((fromBytes_ok_iff _ _ _ _).1 hw).2
  have hwk : w.kind = .view := by rw [hwe]
  have hwbase : w.img.base = base := by rw [hwe]
  have hwb : w.img.bytes = v.toView := by rw [hwe]
  have hsize : w.img.bytes.size = sizeOfImage v.b := by
    rw [hwb]
    exact C06_to_view_size f img v hv
  simp only at hk
  refine ⟨fun n hn => (C05_view_slice_iff w hwk rva n a _).2
    ⟨h0, hp, by rw [hwbase]; exact ha, by omega, by omega, rfl⟩, by omega, hwbase, ?_⟩
  intro i hi
  have := C06_to_view_section f img v hv hl s hmem (rva - s.va + i) (by omega)
  show byteAt w.img.bytes _ = _
  rw [hwb, show rva + i = s.va + (rva - s.va + i) by omega, this]
  exact congrArg (byteAt v.b) (Nat.add_assoc _ _ _).symm

end Pelite.Pe
