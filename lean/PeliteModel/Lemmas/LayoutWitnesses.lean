import PeliteModel.Model.Pe
import PeliteModel.Model.ResFind
import PeliteModel.Model.Version
/-!
Hand-built PE32+ images for the witnesses of `Thm/Witnesses64.lean`: every property whose theorems quantify over formats
and kinds gets a PE32+ instance and a file-view instance.  The three byte arrays were laid out with the generators' PE
builder (`vlib/pe.py`); the real library and the model driver give identical answers on them for the
`imports`/`iat`/`exports`/`export`/`scan`/`pat_exec`/`res`/`ver` operations.

* `view64Bytes` — 448-byte PE32+ image without sections, taken as a MAPPED view (`view64`, ImageBase 0x140000000):
  import directory at 328 (one descriptor {OriginalFirstThunk 368, Name 422 "k.dll", FirstThunk 392} and the
  terminator), at 368 the name table of two 8-BYTE thunks {416 = by name, 0x8000000000000007 = ordinal 7 with bit 63,
  0}, at 392 the address table (same three values), at 416 hint 5 "Fn"; data directory 1 = (328, 40), 12 = (392, 24).
  At 428 the byte `e1` followed (unaligned, 429..436) by the absolute 8-byte pointer 0x1400001b8 = VA of offset 440,
  where `aa bb` is stored.
* `file64Bytes` — 504-byte PE32+ FILE with two sections: `.edata` (RVA 0x1000, raw data at file offset 408, 0x40 bytes)
  holds the export directory (Base 1, two functions 0x1800 / 0x2800, name pointers 0x2006 / 0x2008, ordinals 0 / 1);
  `.names` (RVA 0x2000, raw data at FILE OFFSET 472 — not its RVA —, 0x20 bytes) holds the strings "k.dll", "a", "b"
  and, at RVA 0x2010, `e1` + the absolute pointer 0x14000201a = VA of RVA 0x201a, where `aa bb` is stored (file
  offset 498).  Data directory 0 = (0x1000, 0x3c).
* `res64Bytes` — 552-byte PE32+ FILE with one section `.rsrc` (RVA 0x1000, raw data at file offset 368, 184 bytes):
  root directory → id 16 (RT_VERSION) → id 1 → language 0x409 → data entry at +72 {OffsetToData 0x1058, Size 92,
  CodePage 1252} → at +88 a VS_VERSIONINFO of 92 bytes: header, key "VS_VERSION_INFO", padding, and the 52 bytes of a
  VS_FIXEDFILEINFO (signature 0xFEEF04BD, file version 1.2.3.4, product version 5.6.7.8); no children.
  Data directory 2 = (0x1000, 180).
-/
namespace Pelite.Witness64
open Pelite Pelite.Pe

def view64Bytes : Bytes := #[
    77, 90, 0, 0, 0, 0, 0, 0, 0, 0, 0, 0, 0, 0, 0, 0, 0, 0, 0, 0, 0, 0, 0, 0, 0, 0, 0, 0, 0, 0, 0, 0,
    0, 0, 0, 0, 0, 0, 0, 0, 0, 0, 0, 0, 0, 0, 0, 0, 0, 0, 0, 0, 0, 0, 0, 0, 0, 0, 0, 0, 64, 0, 0, 0,
    80, 69, 0, 0, 100, 134, 0, 0, 0, 0, 0, 95, 0, 0, 0, 0, 0, 0, 0, 0, 240, 0, 34, 32, 11, 2, 14, 0, 0, 2, 0, 0,
    0, 2, 0, 0, 0, 0, 0, 0, 0, 16, 0, 0, 0, 16, 0, 0, 0, 0, 0, 64, 1, 0, 0, 0, 8, 0, 0, 0, 8, 0, 0, 0,
    6, 0, 0, 0, 0, 0, 0, 0, 6, 0, 0, 0, 0, 0, 0, 0, 192, 1, 0, 0, 72, 1, 0, 0, 0, 0, 0, 0, 3, 0, 96, 129,
    0, 0, 16, 0, 0, 0, 0, 0, 0, 16, 0, 0, 0, 0, 0, 0, 0, 0, 16, 0, 0, 0, 0, 0, 0, 16, 0, 0, 0, 0, 0, 0,
    0, 0, 0, 0, 16, 0, 0, 0, 0, 0, 0, 0, 0, 0, 0, 0, 72, 1, 0, 0, 40, 0, 0, 0, 0, 0, 0, 0, 0, 0, 0, 0,
    0, 0, 0, 0, 0, 0, 0, 0, 0, 0, 0, 0, 0, 0, 0, 0, 0, 0, 0, 0, 0, 0, 0, 0, 0, 0, 0, 0, 0, 0, 0, 0,
    0, 0, 0, 0, 0, 0, 0, 0, 0, 0, 0, 0, 0, 0, 0, 0, 0, 0, 0, 0, 0, 0, 0, 0, 0, 0, 0, 0, 0, 0, 0, 0,
    0, 0, 0, 0, 0, 0, 0, 0, 136, 1, 0, 0, 24, 0, 0, 0, 0, 0, 0, 0, 0, 0, 0, 0, 0, 0, 0, 0, 0, 0, 0, 0,
    0, 0, 0, 0, 0, 0, 0, 0, 112, 1, 0, 0, 0, 0, 0, 0, 0, 0, 0, 0, 166, 1, 0, 0, 136, 1, 0, 0, 0, 0, 0, 0,
    0, 0, 0, 0, 0, 0, 0, 0, 0, 0, 0, 0, 0, 0, 0, 0, 160, 1, 0, 0, 0, 0, 0, 0, 7, 0, 0, 0, 0, 0, 0, 128,
    0, 0, 0, 0, 0, 0, 0, 0, 160, 1, 0, 0, 0, 0, 0, 0, 7, 0, 0, 0, 0, 0, 0, 128, 0, 0, 0, 0, 0, 0, 0, 0,
    5, 0, 70, 110, 0, 0, 107, 46, 100, 108, 108, 0, 225, 184, 1, 0, 64, 1, 0, 0, 0, 0, 0, 0, 170, 187, 0, 0, 0, 0, 0, 0]

def file64Bytes : Bytes := #[
    77, 90, 0, 0, 0, 0, 0, 0, 0, 0, 0, 0, 0, 0, 0, 0, 0, 0, 0, 0, 0, 0, 0, 0, 0, 0, 0, 0, 0, 0, 0, 0,
    0, 0, 0, 0, 0, 0, 0, 0, 0, 0, 0, 0, 0, 0, 0, 0, 0, 0, 0, 0, 0, 0, 0, 0, 0, 0, 0, 0, 64, 0, 0, 0,
    80, 69, 0, 0, 100, 134, 2, 0, 0, 0, 0, 95, 0, 0, 0, 0, 0, 0, 0, 0, 240, 0, 34, 32, 11, 2, 14, 0, 0, 2, 0, 0,
    0, 2, 0, 0, 0, 0, 0, 0, 0, 16, 0, 0, 0, 16, 0, 0, 0, 0, 0, 64, 1, 0, 0, 0, 0, 16, 0, 0, 8, 0, 0, 0,
    6, 0, 0, 0, 0, 0, 0, 0, 6, 0, 0, 0, 0, 0, 0, 0, 0, 48, 0, 0, 152, 1, 0, 0, 0, 0, 0, 0, 3, 0, 96, 129,
    0, 0, 16, 0, 0, 0, 0, 0, 0, 16, 0, 0, 0, 0, 0, 0, 0, 0, 16, 0, 0, 0, 0, 0, 0, 16, 0, 0, 0, 0, 0, 0,
    0, 0, 0, 0, 16, 0, 0, 0, 0, 16, 0, 0, 60, 0, 0, 0, 0, 0, 0, 0, 0, 0, 0, 0, 0, 0, 0, 0, 0, 0, 0, 0,
    0, 0, 0, 0, 0, 0, 0, 0, 0, 0, 0, 0, 0, 0, 0, 0, 0, 0, 0, 0, 0, 0, 0, 0, 0, 0, 0, 0, 0, 0, 0, 0,
    0, 0, 0, 0, 0, 0, 0, 0, 0, 0, 0, 0, 0, 0, 0, 0, 0, 0, 0, 0, 0, 0, 0, 0, 0, 0, 0, 0, 0, 0, 0, 0,
    0, 0, 0, 0, 0, 0, 0, 0, 0, 0, 0, 0, 0, 0, 0, 0, 0, 0, 0, 0, 0, 0, 0, 0, 0, 0, 0, 0, 0, 0, 0, 0,
    0, 0, 0, 0, 0, 0, 0, 0, 46, 101, 100, 97, 116, 97, 0, 0, 64, 0, 0, 0, 0, 16, 0, 0, 64, 0, 0, 0, 152, 1, 0, 0,
    0, 0, 0, 0, 0, 0, 0, 0, 0, 0, 0, 0, 64, 0, 0, 64, 46, 110, 97, 109, 101, 115, 0, 0, 32, 0, 0, 0, 0, 32, 0, 0,
    32, 0, 0, 0, 216, 1, 0, 0, 0, 0, 0, 0, 0, 0, 0, 0, 0, 0, 0, 0, 64, 0, 0, 64, 0, 0, 0, 0, 1, 0, 0, 95,
    2, 0, 7, 0, 0, 32, 0, 0, 1, 0, 0, 0, 2, 0, 0, 0, 2, 0, 0, 0, 40, 16, 0, 0, 48, 16, 0, 0, 56, 16, 0, 0,
    0, 24, 0, 0, 0, 40, 0, 0, 6, 32, 0, 0, 8, 32, 0, 0, 0, 0, 1, 0, 0, 0, 0, 0, 107, 46, 100, 108, 108, 0, 97, 0,
    98, 0, 0, 0, 0, 0, 0, 0, 225, 26, 32, 0, 64, 1, 0, 0, 0, 0, 170, 187, 0, 0, 0, 0]

def res64Bytes : Bytes := #[
    77, 90, 0, 0, 0, 0, 0, 0, 0, 0, 0, 0, 0, 0, 0, 0, 0, 0, 0, 0, 0, 0, 0, 0, 0, 0, 0, 0, 0, 0, 0, 0,
    0, 0, 0, 0, 0, 0, 0, 0, 0, 0, 0, 0, 0, 0, 0, 0, 0, 0, 0, 0, 0, 0, 0, 0, 0, 0, 0, 0, 64, 0, 0, 0,
    80, 69, 0, 0, 100, 134, 1, 0, 0, 0, 0, 95, 0, 0, 0, 0, 0, 0, 0, 0, 240, 0, 34, 32, 11, 2, 14, 0, 0, 2, 0, 0,
    0, 2, 0, 0, 0, 0, 0, 0, 0, 16, 0, 0, 0, 16, 0, 0, 0, 0, 0, 64, 1, 0, 0, 0, 0, 16, 0, 0, 8, 0, 0, 0,
    6, 0, 0, 0, 0, 0, 0, 0, 6, 0, 0, 0, 0, 0, 0, 0, 0, 32, 0, 0, 112, 1, 0, 0, 0, 0, 0, 0, 3, 0, 96, 129,
    0, 0, 16, 0, 0, 0, 0, 0, 0, 16, 0, 0, 0, 0, 0, 0, 0, 0, 16, 0, 0, 0, 0, 0, 0, 16, 0, 0, 0, 0, 0, 0,
    0, 0, 0, 0, 16, 0, 0, 0, 0, 0, 0, 0, 0, 0, 0, 0, 0, 0, 0, 0, 0, 0, 0, 0, 0, 16, 0, 0, 180, 0, 0, 0,
    0, 0, 0, 0, 0, 0, 0, 0, 0, 0, 0, 0, 0, 0, 0, 0, 0, 0, 0, 0, 0, 0, 0, 0, 0, 0, 0, 0, 0, 0, 0, 0,
    0, 0, 0, 0, 0, 0, 0, 0, 0, 0, 0, 0, 0, 0, 0, 0, 0, 0, 0, 0, 0, 0, 0, 0, 0, 0, 0, 0, 0, 0, 0, 0,
    0, 0, 0, 0, 0, 0, 0, 0, 0, 0, 0, 0, 0, 0, 0, 0, 0, 0, 0, 0, 0, 0, 0, 0, 0, 0, 0, 0, 0, 0, 0, 0,
    0, 0, 0, 0, 0, 0, 0, 0, 46, 114, 115, 114, 99, 0, 0, 0, 184, 0, 0, 0, 0, 16, 0, 0, 184, 0, 0, 0, 112, 1, 0, 0,
    0, 0, 0, 0, 0, 0, 0, 0, 0, 0, 0, 0, 64, 0, 0, 64, 0, 0, 0, 0, 0, 0, 0, 0, 0, 0, 0, 0, 0, 0, 1, 0,
    16, 0, 0, 0, 24, 0, 0, 128, 0, 0, 0, 0, 0, 0, 0, 0, 0, 0, 0, 0, 0, 0, 1, 0, 1, 0, 0, 0, 48, 0, 0, 128,
    0, 0, 0, 0, 0, 0, 0, 0, 0, 0, 0, 0, 0, 0, 1, 0, 9, 4, 0, 0, 72, 0, 0, 0, 88, 16, 0, 0, 92, 0, 0, 0,
    228, 4, 0, 0, 0, 0, 0, 0, 92, 0, 52, 0, 0, 0, 86, 0, 83, 0, 95, 0, 86, 0, 69, 0, 82, 0, 83, 0, 73, 0, 79, 0,
    78, 0, 95, 0, 73, 0, 78, 0, 70, 0, 79, 0, 0, 0, 0, 0, 189, 4, 239, 254, 0, 0, 1, 0, 2, 0, 1, 0, 4, 0, 3, 0,
    6, 0, 5, 0, 8, 0, 7, 0, 63, 0, 0, 0, 0, 0, 0, 0, 4, 0, 4, 0, 1, 0, 0, 0, 0, 0, 0, 0, 0, 0, 0, 0,
    0, 0, 0, 0, 0, 0, 0, 0]

/-- the import / pointer image as a mapped PE32+ view -/
def view64 : View := ⟨⟨view64Bytes, 0⟩, .pe64, .view, 0x140000000⟩
/-- the two-section export image as a PE32+ file view -/
def file64 : View := ⟨⟨file64Bytes, 0⟩, .pe64, .file, 0x140000000⟩
/-- the resource image as a PE32+ file view -/
def res64 : View := ⟨⟨res64Bytes, 0⟩, .pe64, .file, 0x140000000⟩

/-- `Pe::resources()`, then `Resources::version_info()`: the words of the version block the lookup reaches
(`none` when the lookup fails with a `FindError`) — the composition the `res <k> version` operation runs -/
def versionWords (v : View) : Out (Option Version.Sl) :=
  (Resources.ofView v).bind fun p =>
    (Resources.versionInfo p.1).bind fun fr =>
      match fr with
      | .ok ref =>
        (Version.tryFrom (p.1.base + ref.off) (p.1.sec.extract ref.off (ref.off + ref.len))).bind fun w => .ok (some w)
      | .error _ => .ok none

end Pelite.Witness64
