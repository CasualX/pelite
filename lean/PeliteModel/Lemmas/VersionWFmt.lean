import PeliteModel.Model.WStrFmt
import PeliteModel.Lemmas.VersionSource
/-!
C13: one decoded item of `FmtUtf16`'s Debug, version model against byte-level formatter model.
-/
namespace Pelite.WStrFmt
open Pelite.Resources (U16Item)
open Pelite.Pe (utf8Enc)
open Pelite.Version (escDec)

theorem not_surrogate_iff (u : Nat) : Version.isSurrogate u = false ↔ u < 0xD800 ∨ 0xE000 ≤ u := by
  simp only [Version.isSurrogate, Bool.and_eq_false_iff, decide_eq_false_iff_not]; omega

theorem flatMap_utf8Enc_ascii (l : List Nat) (h : ∀ x ∈ l, x < 128) : l.flatMap utf8Enc = l := by
  induction l with
  | nil => rfl
  | cons x l ih =>
    have hx : utf8Enc x = [x] := by simp [utf8Enc, h x List.mem_cons_self]
    rw [List.flatMap_cons, hx, ih (fun y hy => h y (List.mem_cons_of_mem _ hy))]; rfl

theorem escU_ascii (u : Nat) : ∀ x ∈ escU u, x < 128 := by
  have hd : ∀ n, hexDigitL (n % 16) < 128 := fun n => by
    unfold hexDigitL; have := Nat.mod_lt n (by decide : 0 < 16); split <;> omega
  simp [escU, hd]

/-- an unpaired surrogate: `\u` and four hexadecimal digits on both sides, all ASCII -/
theorem escDec_bad_bytes {u : Nat} (h : Version.isSurrogate u = true) :
    (escDec (.bad u)).flatMap utf8Enc = debugItem (.bad u) := by
  have : escDec (.bad u) = escU u := by
    show Version.str "\\u" ++ Version.hex04 u = escU u
    rw [Version.hex04_surrogate h]; rfl
  rw [this]
  exact flatMap_utf8Enc_ascii _ (escU_ascii u)

/-- a character: the same chain of comparisons on both sides, with the same two bytes in each branch -/
theorem escDec_ok_bytes (c : Nat) : (escDec (.ok c)).flatMap utf8Enc = debugItem (.ok c) := by
  rw [Version.escDec_ok]
  simp only [debugItem, Version.Spec.escapeUnit, apply_ite (List.flatMap utf8Enc), List.flatMap_singleton]
  rfl

end Pelite.WStrFmt
