import PeliteModel.Lemmas.PatternParse
/-!
# The parser model agrees with the reference compiler on EVERY string of the reference grammar

    parse_of_readPat : readPat s = some p → WF p = true → parse s = .ok (compile p)

over every string the reference READER (`readPat`, Spec/PatternSem.lean) accepts, not only the four global spelling styles
of `render`: hex digits in any case per digit, `@` operands in either case per occurrence, decimals with leading zeros,
white space runs of SPACE / TAB / LF / CR anywhere between items.  The `item_*R`, `seq_consR`, `alts_consR` lemmas of
`PatternParse.lean` are run along the reader, by induction on its fuel (`read_goals`).

Also here: `DecidableEq Item` (the nested inductive has no derived instance), so that `readPat s = some p` can be evaluated
in examples.
-/
namespace Pelite.PatSem
open Pelite.Pattern

/-! ## Decidable equality of trees -/

mutual
def beqItem : Item → Item → Bool
  | .ws a, .ws b => decide (a = b)
  | .byte a, .byte b => decide (a = b)
  | .str a, .str b => decide (a = b)
  | .any, .any => true
  | .skip a, .skip b => decide (a = b)
  | .range a a', .range b b' => decide (a = b) && decide (a' = b')
  | .jump a, .jump b => decide (a = b)
  | .save, .save => true
  | .aligned a, .aligned b => decide (a = b)
  | .readI a, .readI b => decide (a = b)
  | .readU a, .readU b => decide (a = b)
  | .zero, .zero => true
  | .group j g body, .group j' g' body' => decide (j = j') && decide (g = g') && beqItems body body'
  | .alt bs, .alt bs' => beqAlts bs bs'
  | _, _ => false
def beqItems : List Item → List Item → Bool
  | [], [] => true
  | a :: r, b :: r' => beqItem a b && beqItems r r'
  | _, _ => false
def beqAlts : List (List Item) → List (List Item) → Bool
  | [], [] => true
  | a :: r, b :: r' => beqItems a b && beqAlts r r'
  | _, _ => false
end

mutual
theorem beqItem_sound : ∀ (a b : Item), beqItem a b = true → a = b
  | .ws _, b, h | .byte _, b, h | .str _, b, h | .any, b, h | .skip _, b, h | .range _ _, b, h | .jump _, b, h
  | .save, b, h | .aligned _, b, h | .readI _, b, h | .readU _, b, h | .zero, b, h => by
    cases b <;> simp_all [beqItem]
  | .group j g body, b, h => by
    cases b <;> simp [beqItem] at h
    obtain ⟨⟨rfl, rfl⟩, h3⟩ := h
    rw [beqItems_sound body _ h3]
  | .alt bs, b, h => by
    cases b <;> simp [beqItem] at h
    rw [beqAlts_sound bs _ h]
theorem beqItems_sound : ∀ (a b : List Item), beqItems a b = true → a = b
  | [], b, h => by cases b <;> simp_all [beqItems]
  | a :: r, b, h => by
    cases b <;> simp [beqItems] at h
    rw [beqItem_sound a _ h.1, beqItems_sound r _ h.2]
theorem beqAlts_sound : ∀ (a b : List (List Item)), beqAlts a b = true → a = b
  | [], b, h => by cases b <;> simp_all [beqAlts]
  | a :: r, b, h => by
    cases b <;> simp [beqAlts] at h
    rw [beqItems_sound a _ h.1, beqAlts_sound r _ h.2]
end

mutual
theorem beqItem_refl : ∀ a : Item, beqItem a a = true
  | .ws _ | .byte _ | .str _ | .any | .skip _ | .range _ _ | .jump _ | .save | .aligned _ | .readI _ | .readU _ | .zero => by
    simp [beqItem]
  | .group _ _ body => by simp [beqItem, beqItems_refl body]
  | .alt bs => by simp [beqItem, beqAlts_refl bs]
theorem beqItems_refl : ∀ a : List Item, beqItems a a = true
  | [] => by simp [beqItems]
  | a :: r => by simp [beqItems, beqItem_refl a, beqItems_refl r]
theorem beqAlts_refl : ∀ a : List (List Item), beqAlts a a = true
  | [] => by simp [beqAlts]
  | a :: r => by simp [beqAlts, beqItems_refl a, beqAlts_refl r]
end

instance : DecidableEq Item := fun a b =>
  decidable_of_iff (beqItem a b = true) ⟨beqItem_sound a b, fun h => h ▸ beqItem_refl a⟩

/-! ## The reader's way of cutting an item out of the input -/

theorem split_at_dropWhile {α : Type} (p : α → Bool) (l : List α) {a : α} {r : List α}
    (h : l.dropWhile p = a :: r) : l = l.takeWhile p ++ a :: r := by
  rw [← h, List.takeWhile_append_dropWhile]

theorem item_wsR_takeWhile (inp : List UInt8) :
    ItemGoalR (.ws (inp.takeWhile isWsByte)) inp (inp.dropWhile isWsByte) :=
  (item_wsR _ _).of_eq List.takeWhile_append_dropWhile.symm

theorem item_strR_dropWhile {cs : List UInt8} {q : UInt8} {rest : List UInt8} (h : cs.dropWhile (· ≠ 34) = q :: rest) :
    ItemGoalR (.str (cs.takeWhile (· ≠ 34))) (34 :: cs) rest := by
  have hq := List.head_dropWhile_not (· ≠ 34) (l := cs) (by rw [h]; simp)
  simp only [h, List.head_cons, decide_eq_false_iff_not, Decidable.not_not] at hq
  subst hq
  exact (item_strR _ rest).of_eq (congrArg _ (split_at_dropWhile _ cs h))

theorem item_readR_chr {c o : UInt8} (hc : c = 105 ∨ c = 117) (ho : o = 49 ∨ o = 50 ∨ o = 52) (rest : List UInt8) :
    ItemGoalR (if c = 105 then Item.readI (o.toNat - 48) else Item.readU (o.toNat - 48)) (c :: o :: rest) rest := by
  rcases hc with rfl | rfl <;> rcases ho with rfl | rfl | rfl
  · exact item_readR true 1 rest
  · exact item_readR true 2 rest
  · exact item_readR true 4 rest
  · exact item_readR false 1 rest
  · exact item_readR false 2 rest
  · exact item_readR false 4 rest

theorem jumpOf_chr {c : UInt8} {j : Jump} (h : jumpOf c = some j) : c = j.chr := by
  unfold jumpOf at h
  split at h
  · cases h; simpa [Jump.chr]
  split at h
  · cases h; simpa [Jump.chr]
  split at h
  · cases h; simpa [Jump.chr]
  · simp at h

/-! ## The recursion: induction on the reader's fuel -/

/-- the continuation of the reader after an item (`cont` in `readSeq`) -/
abbrev contR (it : Item) (o : Option (List Item × List UInt8)) : Option (List Item × List UInt8) :=
  o.map (fun x => (it :: x.1, x.2))

theorem cont_inv {it : Item} {o : Option (List Item × List UInt8)} {items : List Item} {rest : List UInt8}
    (h : contR it o = some (items, rest)) :
    ∃ its, items = it :: its ∧ o = some (its, rest) := by
  simp only [Option.map_eq_some_iff, Prod.mk.injEq] at h
  obtain ⟨⟨its, r⟩, ho, rfl, rfl⟩ := h
  exact ⟨its, rfl, ho⟩

def SeqIH (fuel : Nat) : Prop :=
  ∀ inp items rest, readSeq fuel inp = some (items, rest) → SeqGoalR items inp rest
def AltsIH (fuel : Nat) : Prop :=
  ∀ inp bodies rest, readAlts fuel inp = some (bodies, rest) → bodies ≠ [] ∧ AltsGoalR bodies inp rest

theorem seq_branch {fuel : Nat} (ihS : SeqIH fuel) {it : Item} {inp mid : List UInt8} {items : List Item}
    {rest : List UInt8} (hi : ItemGoalR it inp mid)
    (h : contR it (readSeq fuel mid) = some (items, rest)) :
    SeqGoalR items inp rest := by
  obtain ⟨its, rfl, hrec⟩ := cont_inv h
  exact seq_consR hi (ihS _ _ _ hrec)

/-- follows `readSeq` branch by branch; each accepting branch is `seq_branch` with the `item_*R` lemma of the item read -/
theorem readSeq_step {fuel : Nat} (ihS : SeqIH fuel) (ihA : AltsIH fuel) : SeqIH (fuel + 1) := by
  intro inp items rest h
  cases inp with
  | nil =>
    rw [readSeq.eq_def] at h
    simp only [Option.some.injEq, Prod.mk.injEq] at h
    obtain ⟨rfl, rfl⟩ := h
    exact seq_nilR []
  | cons c cs =>
    rw [readSeq.eq_def] at h
    dsimp only at h
    by_cases h1 : c = 125 ∨ c = 124 ∨ c = 41
    · rw [if_pos h1] at h
      simp only [Option.some.injEq, Prod.mk.injEq] at h
      obtain ⟨rfl, rfl⟩ := h
      exact seq_nilR _
    rw [if_neg h1] at h
    by_cases h2 : isWsByte c = true
    · rw [if_pos h2] at h
      exact seq_branch ihS (item_wsR_takeWhile (c :: cs)) h
    rw [if_neg h2] at h
    by_cases h3 : c = 63
    · rw [if_pos h3] at h; subst h3
      exact seq_branch ihS (item_anyR cs) h
    rw [if_neg h3] at h
    by_cases h4 : c = 39
    · rw [if_pos h4] at h; subst h4
      exact seq_branch ihS (item_saveR cs) h
    rw [if_neg h4] at h
    by_cases h5 : c = 122
    · rw [if_pos h5] at h; subst h5
      exact seq_branch ihS (item_zeroR cs) h
    rw [if_neg h5] at h
    by_cases h6 : c = 34
    · rw [if_pos h6] at h; subst h6
      split at h
      · next q r hq => exact seq_branch ihS (item_strR_dropWhile hq) h
      · simp at h
    rw [if_neg h6] at h
    by_cases h7 : c = 64
    · rw [if_pos h7] at h; subst h7
      split at h
      · next o r =>
        simp only [Option.bind_eq_some_iff] at h
        obtain ⟨n, hn, h⟩ := h
        exact seq_branch ihS (item_alignedR hn r) h
      · simp at h
    rw [if_neg h7] at h
    by_cases h8 : c = 105 ∨ c = 117
    · rw [if_pos h8] at h
      split at h
      · next o r =>
        split at h
        · next ho => exact seq_branch ihS (item_readR_chr h8 ho r) h
        · simp at h
      · simp at h
    rw [if_neg h8] at h
    by_cases h9 : c = 91
    · rw [if_pos h9] at h; subst h9
      split at h
      · next a d r hd1 =>
        split at h
        · next hd => subst hd; exact seq_branch ihS (item_skipR hd1) h
        split at h
        · next hd =>
          subst hd
          split at h
          · next b e r' hd2 =>
            split at h
            · next he => subst he; exact seq_branch ihS (item_rangeR hd1 hd2) h
            · simp at h
          · simp at h
        · simp at h
      · simp at h
    rw [if_neg h9] at h
    by_cases h10 : c = 40
    · rw [if_pos h10] at h; subst h10
      split at h
      · next bs r hA => exact seq_branch ihS (item_altR (ihA _ _ _ hA).2) h
      · simp at h
    rw [if_neg h10] at h
    split at h
    · next j hj =>
      have hc := jumpOf_chr hj
      subst hc
      split at h
      · next r0 hdw =>
        split at h
        · next body r' hbody =>
          have hcs := split_at_dropWhile _ cs hdw
          refine seq_branch ihS ((item_groupR (gap := cs.takeWhile isWsByte) (ihS _ _ _ hbody)).of_eq ?_) h
          rw [← hcs]
        · simp at h
      · exact seq_branch ihS (item_jumpR j cs) h
    · split at h
      · next hi d r hhi =>
        simp only [Option.bind_eq_some_iff] at h
        obtain ⟨lo, hlo, h⟩ := h
        exact seq_branch ihS (item_byteR hhi hlo r) h
      · simp at h

theorem readAlts_step {fuel : Nat} (ihS : SeqIH fuel) (ihA : AltsIH fuel) : AltsIH (fuel + 1) := by
  intro inp bodies rest h
  rw [readAlts.eq_def] at h
  dsimp only at h
  split at h
  · next b d r hb =>
    split at h
    · next hd =>
      subst hd
      simp only [Option.some.injEq, Prod.mk.injEq] at h
      obtain ⟨rfl, rfl⟩ := h
      exact ⟨by simp, alts_lastR (ihS _ _ _ hb)⟩
    split at h
    · next hd =>
      subst hd
      simp only [Option.map_eq_some_iff, Prod.mk.injEq] at h
      obtain ⟨⟨bs, r'⟩, hbs, rfl, rfl⟩ := h
      obtain ⟨hne, hg⟩ := ihA _ _ _ hbs
      exact ⟨by simp, alts_consR hne (ihS _ _ _ hb) hg⟩
    · simp at h
  · simp at h

theorem read_goals : ∀ fuel : Nat, SeqIH fuel ∧ AltsIH fuel
  | 0 => ⟨fun inp items rest h => by simp [readSeq] at h, fun inp bodies rest h => by simp [readAlts] at h⟩
  | fuel + 1 =>
    have ih := read_goals fuel
    ⟨readSeq_step ih.1 ih.2, readAlts_step ih.1 ih.2⟩


theorem readPat_inv {s : List UInt8} {p : Pat} (h : readPat s = some p) :
    readSeq (s.length + 1) s = some (p, []) := by
  unfold readPat at h
  split at h
  · next q hq => simp only [Option.some.injEq] at h; subst h; exact hq
  · simp at h

theorem parse_of_readPat (s : List UInt8) (p : Pat) (h : readPat s = some p) (hwf : WF p = true) :
    parse s = .ok (compile p) :=
  parse_of_seqGoalR ((read_goals _).1 s p [] (readPat_inv h)) hwf

end Pelite.PatSem
