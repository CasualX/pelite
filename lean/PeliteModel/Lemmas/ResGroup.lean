import PeliteModel.Lemmas.ResFind
/-!
C12: safety of the group resources (`GroupResource::{new, entries, image, write}`, `icons()`, `cursors()`) on arbitrary
bytes, and the shape of what `write` produces.
-/
namespace Pelite.Resources
open Pelite

/-- what `GroupResource::new` establishes -/
def GroupOK (r : Resources) (g : Group) : Prop :=
  (r.base + g.off) % 2 = 0 ∧ g.off + 6 + 14 * g.count ≤ r.sec.size ∧ (g.ty = 1 ∨ g.ty = 2) ∧
  g.ty = le16 r.sec (g.off + 2) ∧ g.count = le16 r.sec (g.off + 4)

instance (r : Resources) (g : Group) : Decidable (GroupOK r g) := by unfold GroupOK; exact inferInstance

theorem groupNew_eq {r : Resources} {bytes : Ref} (hbnd : bytes.off + bytes.len ≤ r.sec.size) :
    groupNew r bytes =
      if (r.base + bytes.off) % 2 ≠ 0 then .err .misaligned
      else if bytes.len < 6 then .err .bounds
      else if le16 r.sec bytes.off ≠ 0 ∨ ¬ (le16 r.sec (bytes.off + 2) = 1 ∨ le16 r.sec (bytes.off + 2) = 2) then .err .badMagic
      else if bytes.len ≠ 6 + le16 r.sec (bytes.off + 4) * 14 then .err .bounds
      else .ok ⟨bytes.off, le16 r.sec (bytes.off + 2), le16 r.sec (bytes.off + 4)⟩ := by
  unfold groupNew
  exact ite_congr rfl (fun _ => rfl) fun c1 => ite_congr rfl (fun _ => rfl) fun c2 => by
    rw [rawRef_of (by omega) (by omega)]

theorem safe_groupNew {r : Resources} {bytes : Ref} (hbnd : bytes.off + bytes.len ≤ r.sec.size) : Safe (groupNew r bytes) := by
  rw [groupNew_eq hbnd]
  safe_ifs

theorem groupNew_ok {r : Resources} {bytes : Ref} (hbnd : bytes.off + bytes.len ≤ r.sec.size) {g : Group}
    (h : groupNew r bytes = .ok g) : GroupOK r g ∧ g.off = bytes.off ∧ bytes.len = 6 + 14 * g.count := by
  rw [groupNew_eq hbnd] at h
  simp only [ite_err_eq_ok, Out.ok.injEq, Decidable.not_not] at h
  obtain ⟨c1, c2, c3, c4, rfl⟩ := h
  exact ⟨⟨c1, by dsimp only; omega, Decidable.by_contra fun h => c3 (.inr h), rfl, rfl⟩, rfl, by dsimp only; omega⟩

theorem groupEntriesFrom_length (r : Resources) (start n : Nat) : (groupEntriesFrom r start n).length = n := by
  induction n generalizing start with
  | zero => rfl
  | succ n ih => simp [groupEntriesFrom, ih]

theorem groupEntries_eq {r : Resources} {g : Group} (hg : GroupOK r g) :
    g.entries r = .ok (groupEntriesFrom r (g.off + 6) g.count) := by
  unfold Group.entries
  rw [rawRef_of (by have := hg.2.1; omega) (by have := hg.1; omega)]

theorem typeId_ok {r : Resources} {g : Group} (hg : GroupOK r g) : ∃ t, g.typeId = .ok t ∧ (t = RT_ICON ∨ t = RT_CURSOR) := by
  unfold Group.typeId
  rcases hg.2.2.1 with h | h
  · rw [if_pos h]; exact ⟨_, rfl, Or.inl rfl⟩
  · rw [if_neg (by omega), if_pos h]; exact ⟨_, rfl, Or.inr rfl⟩

theorem image_eq_findResource (r : Resources) (g : Group) (id t : Nat) (ht : g.typeId = .ok t) :
    g.image r id = findResource r (.id t) (.id id) := by
  unfold Group.image findResource findResources
  rw [ht]
  dsimp only
  rw [bindF_liftE]
  exact liftE_congr _ fun d => (bindF_assoc ..).symm

theorem isVal_image {r : Resources} (hb : Aligned r) {g : Group} (hg : GroupOK r g) (id : Nat) : IsVal (g.image r id) := by
  obtain ⟨t, ht, _⟩ := typeId_ok hg
  rw [image_eq_findResource r g id t ht]
  exact isVal_findResource hb _ _

/-- an `Ok` item holds a group that satisfies the group invariant; nothing is asked of an `Err` item -/
def ItemOK (r : Resources) : FRes (Name × Group) → Prop
  | .ok p => GroupOK r p.2
  | .error _ => True

theorem groupItem_ok {r : Resources} (hb : Aligned r) (de : DirEntry) :
    ∃ item, groupItem r de = .ok item ∧ ItemOK r item := by
  have h : ValP (fun p => GroupOK r p.2) (groupItem r de) :=
    .liftE (safe_getName hb de) fun name _ => .liftE (safe_entry hb de) fun e he =>
      (valP_asDir e (entry_entryOK hb he)).bindF fun d hd => ValP.bindF (P := fun _ => True) ⟨isVal_firstData hb hd, fun _ _ => trivial⟩ fun data _ =>
        .liftE (safe_bytes r data) fun bytes hby => .liftE (safe_groupNew (bytes_bound hby).1) fun g hg =>
          .okF (groupNew_ok (bytes_bound hby).1 hg).1
  obtain ⟨item, hi⟩ := h.1.ok
  cases item with
  | ok p => exact ⟨_, hi, h.2 p hi⟩
  | error e => exact ⟨_, hi, trivial⟩

theorem groupItems_ok {r : Resources} (hb : Aligned r) : ∀ es : List DirEntry,
    ∃ items, groupItems r es = .ok items ∧ items.length = es.length ∧ ∀ it ∈ items, ItemOK r it
  | [] => ⟨[], rfl, rfl, fun it h => by cases h⟩
  | de :: rest => by
    unfold groupItems
    obtain ⟨item, h1, h2⟩ := groupItem_ok hb de
    obtain ⟨more, h3, h4, h5⟩ := groupItems_ok hb rest
    rw [h1]; dsimp only; rw [h3]
    exact ⟨item :: more, rfl, by simp [h4], List.forall_mem_cons.2 ⟨h2, h5⟩⟩

theorem groups_ok {r : Resources} (hb : Aligned r) (ty : Nat) :
    ∃ items, groups r ty = .ok items ∧ ∀ it ∈ items, ItemOK r it := by
  unfold groups
  have hd : ValP (DirOK r) (liftE (root r) fun d => d.getDir r (.id ty)) :=
    .liftE (safe_root hb) fun d hd => valP_getDir hb (root_ok hb hd) _
  obtain ⟨v, hv⟩ := hd.1.ok
  rw [hv]
  cases v with
  | error e => exact ⟨[], rfl, fun it h => by cases h⟩
  | ok gd =>
    dsimp only
    rw [entries_eq hb (hd.2 gd hv)]
    obtain ⟨items, h3, _, h5⟩ := groupItems_ok hb (entriesFrom r (gd.off + 16) (gd.named + gd.ids))
    exact ⟨items, h3, h5⟩

/-! ### what `write` produces -/

theorem writeEntries_length (r : Resources) : ∀ (es : List GroupEntry) (off : Nat), (writeEntries r es off).length = 16 * es.length
  | [], _ => rfl
  | e :: rest, off => by
    simp only [writeEntries, List.length_append, bytesAt_length, le32Bytes, List.length_cons, List.length_nil,
      writeEntries_length r rest]
    omega

theorem writeEntries_append (r : Resources) : ∀ (pre l : List GroupEntry) (off : Nat), off < 4294967296 →
    writeEntries r (pre ++ l) off =
      writeEntries r pre off ++ writeEntries r l ((off + (pre.map (·.bytesInRes)).sum) % 4294967296)
  | [], l, off, h => by
    simp only [List.nil_append, writeEntries, List.map_nil, List.sum_nil, Nat.add_zero, Nat.mod_eq_of_lt h]
  | x :: pre, l, off, h => by
    simp only [List.cons_append, writeEntries, List.map_cons, List.sum_cons, List.append_assoc]
    rw [writeEntries_append r pre l (wadd32 off x.bytesInRes) (Nat.mod_lt _ (by decide)), wadd32, Nat.mod_add_mod,
      Nat.add_assoc]

theorem writeEntries_split (r : Resources) (pre : List GroupEntry) (e : GroupEntry) (post : List GroupEntry) (off : Nat)
    (h : off < 4294967296) :
    writeEntries r (pre ++ e :: post) off =
      writeEntries r pre off ++
      (bytesAt r.sec e.off 12 ++ le32Bytes ((off + (pre.map (·.bytesInRes)).sum) % 4294967296)) ++
      writeEntries r post ((off + (pre.map (·.bytesInRes)).sum + e.bytesInRes) % 4294967296) := by
  rw [writeEntries_append r pre _ off h]
  simp only [writeEntries, wadd32, Nat.mod_add_mod, List.append_assoc]

/-- the bytes `write` appends for one entry: its image when the lookup succeeds, nothing otherwise -/
def imageOf (r : Resources) (g : Group) (e : GroupEntry) : List UInt8 :=
  match g.image r e.nId with
  | .ok (.ok b) => bytesAt r.sec b.off b.len
  | _ => []

theorem writeImages_eq {r : Resources} (hb : Aligned r) {g : Group} (hg : GroupOK r g) : ∀ es : List GroupEntry,
    writeImages r g es = .ok (es.map (imageOf r g)).flatten
  | [] => rfl
  | e :: rest => by
    obtain ⟨res, hi⟩ := (isVal_image hb hg e.nId).ok
    unfold writeImages
    rw [hi]
    dsimp only
    rw [writeImages_eq hb hg rest]
    simp only [List.map_cons, List.flatten_cons, imageOf, hi]
    cases res <;> rfl

theorem write_eq {r : Resources} (hb : Aligned r) {g : Group} (hg : GroupOK r g) :
    g.write r = .ok (bytesAt r.sec g.off 6 ++
      writeEntries r (groupEntriesFrom r (g.off + 6) g.count) (6 + (groupEntriesFrom r (g.off + 6) g.count).length * 16) ++
      ((groupEntriesFrom r (g.off + 6) g.count).map (imageOf r g)).flatten) := by
  unfold Group.write
  rw [groupEntries_eq hg]
  dsimp only
  rw [writeImages_eq hb hg]

theorem write_ok {r : Resources} (hb : Aligned r) {g : Group} (hg : GroupOK r g) : ∃ out, g.write r = .ok out :=
  ⟨_, write_eq hb hg⟩

end Pelite.Resources
