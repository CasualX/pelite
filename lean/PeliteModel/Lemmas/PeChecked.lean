import PeliteModel.Model.PeChecked
import PeliteModel.Lemmas.Typed
import PeliteModel.Lemmas.Convert
/-!
Helper lemmas for `Thm/C02Arith.lean` (every CHECKED function of `Model/PeChecked.lean` equals the
unchecked model function): when a panicking primitive (`padd32`, `padd64`, `psub`, `pmulUsize`, `pIndexTo`,
`pIndexFrom`, `pIndex`, `pCopyLen`) and `rawRef` succeed, the shapes checked and unchecked functions share,
and the loops and leaf functions that are not themselves stated there.
-/
namespace Pelite
namespace Pe

theorem pmulUsize_ok {s : String} {a b : Nat} (h : a * b < 18446744073709551616) : pmulUsize s a b = .ok (a * b) := by
  unfold pmulUsize; rw [if_pos h]
theorem pIndexTo_ok {s : String} {len n : Nat} (h : n ≤ len) : pIndexTo s len n = .ok n := by
  unfold pIndexTo; rw [if_pos h]
theorem pIndexFrom_ok {s : String} {len n : Nat} (h : n ≤ len) : pIndexFrom s len n = .ok (len - n) := by
  unfold pIndexFrom; rw [if_pos h]
theorem pIndex_ok {s : String} {len i : Nat} (h : i < len) : pIndex s len i = .ok () := by
  unfold pIndex; rw [if_pos h]
theorem pCopyLen_ok {s : String} {a b : Nat} (h : a = b) : pCopyLen s a b = .ok () := by
  unfold pCopyLen; rw [if_pos h]

theorem isPow2_iff (a : Nat) : isPow2 a = true ↔ ∃ k, a = 2 ^ k := by
  unfold isPow2
  rw [decide_eq_true_eq]
  exact Nat.ne_zero_and_sub_one_eq_zero_iff_isPowerOfTwo

/-! ### the shapes shared by checked and unchecked functions -/

theorem ite_congr_else {α} {c : Prop} [Decidable c] {e a b : α} (h : ¬ c → a = b) :
    (if c then e else a) = (if c then e else b) :=
  ite_congr rfl (fun _ => rfl) h

/-- `va < image_base || va - image_base > limit` followed by a second `va - image_base`: the Rust code
subtracts twice, each time after the test that makes it safe; the model tests once -/
theorem vaGuard_eq {α} (s1 s2 : String) (va B lim : Nat) (k : Nat → Out α) :
    (if va < B then .err .bounds
      else psub s1 va B >>= fun d => if d > lim then .err .bounds else psub s2 va B >>= k) =
    if va < B ∨ va - B > lim then .err .bounds else k (va - B) := by
  by_cases h1 : va < B
  · rw [if_pos h1, if_pos (Or.inl h1)]
  · rw [if_neg h1, psub_ok (by omega), Out.bind_ok]
    by_cases h2 : va - B > lim
    · rw [if_pos h2, if_pos (Or.inr h2)]
    · rw [if_neg h2, if_neg (by omega), psub_ok (by omega), Out.bind_ok]

/-- `usize::wrapping_add(ptr, off)`: the wrap at 2^64 is invisible to a power-of-two alignment test -/
theorem alignedTo_wrap (site : String) (addr align : Nat) (ha : align < 18446744073709551616) :
    alignedTo site (addr % 18446744073709551616) align = alignedTo site addr align := by
  unfold alignedTo
  refine ite_congr rfl (fun hp => ?_) (fun _ => rfl)
  obtain ⟨k, rfl⟩ := (isPow2_iff align).1 hp
  have hk : k ≤ 64 := Nat.le_of_lt ((Nat.pow_lt_pow_iff_right (by decide)).1 (show (2:Nat) ^ k < 2 ^ 64 from ha))
  rw [Nat.mod_mod_of_dvd addr (Nat.pow_dvd_pow 2 hk)]

theorem getFrom_eq (img : Img) (start min align : Nat) :
    (match getFrom img.bytes.size start with
      | some blen => if blen ≥ min then Out.ok (⟨start, blen, align⟩ : Ref) else .err .bounds
      | none => .err .bounds) = sectionTail img start min align := by
  unfold getFrom sectionTail
  by_cases h1 : start ≤ img.bytes.size
  · rw [if_pos h1]
    by_cases h2 : img.bytes.size - start ≥ min
    · exact (if_pos h2).trans (if_pos ⟨h1, h2⟩).symm
    · exact (if_neg h2).trans (if_neg fun h => h2 h.2).symm
  · rw [if_neg h1, if_neg fun h => h1 h.1]

theorem alignedTo_ok_pow2 {site : String} {addr align : Nat} {b : Bool}
    (h : alignedTo site addr align = .ok b) : isPow2 align = true := by
  rw [alignedTo] at h
  by_cases hp : isPow2 align = true
  · exact hp
  · rw [if_neg hp] at h; cases h

theorem rawRef_of_at {site : String} {v : View} {a : Addr} {min align n : Nat} {r : Ref} (h : v.at a min align = .ok r)
    (hn : n ≤ r.len) : rawRef site v.img r.off n align = .ok ⟨r.off, n, align⟩ := by
  obtain ⟨⟨hb, hal⟩, -, hra⟩ := v.at_sound a min align r h
  rw [hra] at hal
  exact rawRef_eq_ok (by omega) hal

/-! ### check_sum -/

theorem csumStep_bound (acc dw : Nat) (ha : acc < 18446744073709551616) (hd : dw < 4294967296) :
    csumStep acc dw < 18446744073709551616 := by
  unfold csumStep
  dsimp only
  split <;> omega

theorem csumStepChk_eq (site : String) (acc dw : Nat) (ha : acc < 18446744073709551616) (hd : dw < 4294967296) :
    csumStepChk site acc dw = .ok (csumStep acc dw) := by
  unfold csumStepChk csumStep
  rw [padd64_ok (by omega), Out.bind_ok, padd64_ok (by omega), Out.bind_ok]
  by_cases hc : acc % 4294967296 + dw + acc / 4294967296 > 0xffffffff
  · rw [if_pos hc, if_pos hc, padd64_ok (by omega)]
  · rw [if_neg hc, if_neg hc]

theorem csumLoopChk_eq (b : Bytes) (skip n : Nat) :
    ∀ (fuel acc : Nat), fuel ≤ n → acc < 18446744073709551616 →
      csumLoopChk b skip n fuel acc = .ok (csumLoop b skip n fuel acc) ∧
      csumLoop b skip n fuel acc < 18446744073709551616 := by
  intro fuel
  induction fuel with
  | zero => intro acc _ ha; exact ⟨rfl, ha⟩
  | succ fuel ih =>
    intro acc hf ha
    unfold csumLoopChk csumLoop
    dsimp only
    by_cases hi : n - (fuel + 1) = skip
    · rw [if_pos hi, if_pos hi]
      exact ih acc (by omega) ha
    · rw [if_neg hi, if_neg hi, pIndex_ok (by omega), Out.bind_ok]
      rw [csumStepChk_eq _ _ _ ha (le32_lt _ _), Out.bind_ok]
      exact ih _ (by omega) (csumStep_bound _ _ ha (le32_lt _ _))

theorem nameBufLoopChk_eq (n : Bytes) (h8 : n.size ≤ 8) :
    ∀ (fuel : Nat) (buf : Bytes), fuel ≤ n.size → buf.size = 8 →
      nameBufLoopChk n fuel buf =
        .ok ((List.range' (n.size - fuel) fuel).foldl (fun buf i => buf.setIfInBounds i (n.getD i 0)) buf) := by
  intro fuel
  induction fuel with
  | zero => intro buf _ _; rfl
  | succ fuel ih =>
    intro buf hf hbuf
    unfold nameBufLoopChk
    dsimp only
    rw [pIndex_ok (by omega), Out.bind_ok, pIndex_ok (by omega), Out.bind_ok,
      ih _ (by omega) (by rw [Array.size_setIfInBounds]; exact hbuf), List.range'_succ, List.foldl_cons]
    have e : n.size - (fuel + 1) + 1 = n.size - fuel := by omega
    rw [e]

/-! ### typed reads: the loop of `derva_slice_f` for a stateful callable (`F: FnMut`), C and wide strings -/

theorem sliceFLoopIChk_eq (img : Img) (off blen size align : Nat) (stop : Nat → Nat → Bool)
    (hin : off + blen ≤ img.bytes.size) (hal : (img.base + off) % align = 0) (hsa : size % align = 0)
    (hb : blen < 9223372036854775808) (hsz : size < 18446744073709551616) :
    ∀ (fuel len : Nat), len + fuel < 18446744073709551616 → len * size ≤ blen →
      sliceFLoopIChk img off blen size align stop fuel len = sliceFLoopI img.bytes off blen size stop fuel len := by
  intro fuel
  induction fuel with
  | zero => intro len _ _; rfl
  | succ fuel ih =>
    intro len hf hl
    unfold sliceFLoopIChk
    rw [sliceFLoopI, pmulUsize_ok (by omega), Out.bind_ok]
    have hsum : len * size + size < 18446744073709551616 := by
      rcases Nat.eq_zero_or_pos len with h0 | h0
      · subst h0; omega
      · have : size ≤ len * size := Nat.le_mul_of_pos_left _ h0
        omega
    rw [padd64_ok hsum, Out.bind_ok]
    by_cases hb' : len * size + size > blen
    · rw [if_pos hb', if_pos hb']
    · rw [if_neg hb', if_neg hb']
      have hmod : (img.base + (off + len * size)) % align = 0 := by
        have e : img.base + (off + len * size) = (img.base + off) + len * size := by omega
        rw [e, Nat.add_mod, hal, Nat.mul_mod, hsa]
        simp
      rw [rawRef_eq_ok (by omega) hmod, Out.bind_ok]
      by_cases hst : stop len (leN img.bytes (off + len * size) size) = true
      · rw [if_pos hst, if_pos hst]
      · rw [if_neg hst, if_neg hst, padd64_ok (by omega), Out.bind_ok]
        exact ih (len + 1) (by omega) (by rw [Nat.succ_mul]; omega)

theorem sliceFLoopChk_eq_I (img : Img) (off blen size align : Nat) (stop : Nat → Bool) :
    ∀ (fuel len : Nat), sliceFLoopChk img off blen size align stop fuel len =
      sliceFLoopIChk img off blen size align (fun _ x => stop x) fuel len := by
  intro fuel
  induction fuel with
  | zero => intro len; rfl
  | succ fuel ih =>
    intro len
    unfold sliceFLoopChk sliceFLoopIChk
    simp only [ih]

theorem cstrFromBytesChk_eq (img : Img) (off len : Nat) (hin : off + len ≤ img.bytes.size)
    (hb : img.bytes.size < 4294967296) :
    cstrFromBytesChk img off len = .ok (cstrFromBytes img.bytes off len) := by
  unfold cstrFromBytesChk cstrFromBytes
  cases hf : findNul img.bytes off len 0 with
  | none => rfl
  | some n =>
    obtain ⟨-, h2, -, -⟩ := findNul_eq_some.1 hf
    dsimp only
    rw [padd64_ok (by omega), Out.bind_ok, rawRef_eq_ok (by omega) (Nat.mod_one _)]
    rfl

theorem wstrFromBytesChk_eq (img : Img) (off len : Nat) (hin : off + len ≤ img.bytes.size)
    (h2 : 2 ≤ len) (hal : (img.base + off) % 2 = 0) :
    wstrFromBytesChk img off len = .ok (wstrFromBytes img.bytes off len) := by
  unfold wstrFromBytesChk wstrFromBytes
  have hw : le16 img.bytes off < 65536 := le16_lt _ _
  rw [rawRef_eq_ok (by omega) hal, Out.bind_ok]
  dsimp only
  rw [padd64_ok (by omega), Out.bind_ok, pmulUsize_ok (by omega), Out.bind_ok]
  by_cases hc : (le16 img.bytes off + 1) * 2 > len
  · rw [if_pos hc, if_pos hc]
  · rw [if_neg hc, if_neg hc, rawRef_eq_ok (by omega) hal]
    rfl

/-! ### conversions -/

theorem copyFitsChk_eq (file : String) (vec image : Bytes) (doff dlen soff slen : Nat) :
    copyFitsChk file vec image doff dlen soff slen = .ok (blit vec doff image soff (min dlen slen)) := by
  unfold copyFitsChk
  dsimp only
  rw [pIndexTo_ok (Nat.min_le_left _ _), Out.bind_ok, pIndexTo_ok (Nat.min_le_right _ _), Out.bind_ok, pCopyLen_ok rfl]
  rfl

/-- the body of both conversion loops (file.rs:64-73, view.rs:119-130) -/
theorem copyStepChk_eq (file : String) (vec image : Bytes) (d dend so send : Nat) :
    (match getRange vec.size d dend, getRange image.size so send with
      | some (doff, dlen), some (soff, slen) => copyFitsChk file vec image doff dlen soff slen
      | _, _ => .ok vec) =
    .ok (if d ≤ dend ∧ dend ≤ vec.size ∧ so ≤ send ∧ send ≤ image.size then
      blit vec d image so (min (dend - d) (send - so)) else vec) := by
  unfold getRange
  by_cases h1 : d ≤ dend ∧ dend ≤ vec.size
  · by_cases h2 : so ≤ send ∧ send ≤ image.size
    · rw [if_pos h1, if_pos h2, if_pos ⟨h1.1, h1.2, h2.1, h2.2⟩]
      exact copyFitsChk_eq ..
    · rw [if_pos h1, if_neg h2, if_neg fun h : _ ∧ _ ∧ _ ∧ _ => h2 h.2.2]
  · rw [if_neg h1, if_neg fun h : _ ∧ _ ∧ _ ∧ _ => h1 ⟨h.1, h.2.1⟩]

theorem foldSecsChk_ok (step : Bytes → Sec → Out Bytes) (step' : Bytes → Sec → Bytes)
    (h : ∀ vec s, step vec s = .ok (step' vec s)) :
    ∀ (secs : List Sec) (vec : Bytes), foldSecsChk step secs vec = .ok (secs.foldl step' vec) := by
  intro secs
  induction secs with
  | nil => intro vec; rfl
  | cons s rest ih =>
    intro vec
    unfold foldSecsChk
    rw [h vec s, Out.bind_ok]
    exact ih _

theorem copyHeadersChk_eq (file : String) (vec image : Bytes) (soh : Nat) (h1 : soh ≤ vec.size)
    (h2 : soh ≤ image.size) : copyHeadersChk file vec image soh = .ok (blit vec 0 image 0 soh) := by
  unfold copyHeadersChk
  rw [if_neg (by omega), if_neg (by omega), pCopyLen_ok rfl]
  rfl

end Pe
end Pelite
