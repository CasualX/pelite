import PeliteModel.Spec.Pe
/-! Helper lemmas for the checksum clause of C07: the 16-bit one's-complement accumulator of the standard
algorithm as a function (`oc16`) of the 32-bit end-around-carry accumulator of `Headers::check_sum`, one dword step
against two word steps; the standard sum in list form for evaluation. -/
namespace Pelite.Pe

/-- what a one's-complement accumulator with end-around carry holds after adding up `x`: the residue of
`x` modulo 65535 with 65535, not 0, standing for the non-zero multiples; 0 for 0 and `(x - 1) % 65535 + 1`
otherwise, written without a subtraction (which `omega` would split on) -/
def oc16 (x : Nat) : Nat := min x ((x + 65534) % 65535 + 1)

theorem oc16_lt (x : Nat) : oc16 x < 65536 := by unfold oc16; omega

theorem foldCarry16_of_lt {x : Nat} (h : x < 65536) : foldCarry16 x = x := by unfold foldCarry16; omega

theorem foldCarry16_oc16 (x : Nat) {w : Nat} (hw : w < 65536) : foldCarry16 (oc16 x + w) = oc16 (x + w) := by
  unfold foldCarry16 oc16; omega

/-- 2^32 = 1 modulo 65535: the 32-bit end-around carry is invisible -/
theorem oc16_csumStep {a d : Nat} (ha : a < 4294967296) (hd : d < 4294967296) :
    csumStep a d < 4294967296 ∧ oc16 (csumStep a d) = oc16 (a + d) := by
  unfold csumStep oc16
  simp only [Nat.mod_eq_of_lt ha, Nat.div_eq_of_lt ha, Nat.add_zero]
  split <;> omega

/-- 2^16 = 1 modulo 65535: the high word of a dword counts like a word -/
theorem oc16_add_high (x y : Nat) : oc16 (x + 65536 * y) = oc16 (x + y) := by unfold oc16; omega

theorem stdSum16_word (b : Bytes) (skip fuel i x : Nat) (hi : (b.size + 1) / 2 = i + (fuel + 1)) :
    stdSum16 b skip (fuel + 1) (oc16 x) =
      stdSum16 b skip fuel (oc16 (x + if i = skip ∨ i = skip + 1 then 0 else le16 b (2 * i))) := by
  have e : (b.size + 1) / 2 - (fuel + 1) = i := by omega
  rw [stdSum16, e, foldCarry16_oc16]
  split
  · decide
  · exact le16_lt _ _

theorem stdSum16_dword (b : Bytes) (pos fuel i : Nat) {a : Nat} (hi : (b.size + 1) / 2 = 2 * i + (fuel + 2))
    (ha : a < 4294967296) :
    (if i = pos then a else csumStep a (le32 b (4 * i))) < 4294967296 ∧
    stdSum16 b (2 * pos) (fuel + 2) (oc16 a) =
      stdSum16 b (2 * pos) fuel (oc16 (if i = pos then a else csumStep a (le32 b (4 * i)))) := by
  rw [stdSum16_word b _ (fuel + 1) (2 * i) a (by omega), stdSum16_word b _ fuel (2 * i + 1) _ (by omega)]
  by_cases hp : i = pos
  · rw [if_pos hp, if_pos (by omega), if_pos (by omega)]
    exact ⟨ha, rfl⟩
  · obtain ⟨h1, h2⟩ := oc16_csumStep ha (le32_lt b (4 * i))
    rw [if_neg hp, if_neg (by omega), if_neg (by omega), h2]
    refine ⟨h1, ?_⟩
    rw [le32_eq_le16, ← Nat.add_assoc, oc16_add_high, show 2 * (2 * i) = 4 * i by omega,
      show 2 * (2 * i + 1) = 4 * i + 2 by omega]

/-- `fuel` dwords against `2 * fuel` words, leaving the last `t` words of the word loop -/
theorem csumLoop_words (b : Bytes) (pos n t : Nat) (hn : (b.size + 1) / 2 = 2 * n + t) :
    ∀ fuel a, fuel ≤ n → a < 4294967296 → csumLoop b pos n fuel a < 4294967296 ∧
      stdSum16 b (2 * pos) (2 * fuel + t) (oc16 a) = stdSum16 b (2 * pos) t (oc16 (csumLoop b pos n fuel a)) := by
  intro fuel
  induction fuel with
  | zero => intro a _ h; exact ⟨h, by rw [Nat.mul_zero, Nat.zero_add]; rfl⟩
  | succ fuel ih =>
    intro a hf h
    obtain ⟨h1, h2⟩ := stdSum16_dword b pos (2 * fuel + t) (n - (fuel + 1)) (by omega) h
    rw [show 2 * (fuel + 1) + t = 2 * fuel + t + 2 by omega, h2, csumLoop]
    exact ih _ (by omega) h1

/-- the remaining 1–3 bytes: the tail dword of `check_sum` against the last one or two words -/
theorem csumTail_words (b : Bytes) (pos : Nat) (hp : pos ≠ b.size / 4 ∨ b.size % 4 = 0) {a : Nat} (h : a < 4294967296) :
    stdSum16 b (2 * pos) ((b.size + 1) / 2 - 2 * (b.size / 4)) (oc16 a) =
      oc16 (if b.size % 4 ≠ 0 then csumStep a (le32 b (4 * (b.size / 4))) else a) := by
  generalize hn : b.size / 4 = n at *
  have hr : b.size % 4 = 0 ∨ (b.size % 4 = 1 ∨ b.size % 4 = 2) ∨ b.size % 4 = 3 := by omega
  rcases hr with hr | hr | hr
  · rw [show (b.size + 1) / 2 - 2 * n = 0 by omega, if_neg (by omega)]
    rfl
  · -- one word left; the high word of the tail dword lies beyond the buffer
    rw [show (b.size + 1) / 2 - 2 * n = 0 + 1 by omega, if_pos (by omega), stdSum16_word b _ 0 (2 * n) a (by omega),
      if_neg (by omega), (oc16_csumStep h (le32_lt _ _)).2, le32_eq_le16, show 2 * (2 * n) = 4 * n by omega,
      le16_of_ge b (4 * n + 2) (by omega)]
    rfl
  · rw [show (b.size + 1) / 2 - 2 * n = 0 + 2 by omega, if_pos (by omega),
      (stdSum16_dword b pos 0 n (by omega) h).2, if_neg (by omega)]
    rfl

/-- the final fold of `check_sum` -/
theorem oc16_final {a : Nat} (h : a < 4294967296) :
    (a % 65536 + a / 65536 + (a % 65536 + a / 65536) / 65536) % 65536 = oc16 a := by
  have hc : a % 65536 + a / 65536 < 131071 := by omega
  rw [← Nat.mod_add_div a 65536, oc16_add_high, Nat.mod_add_div]
  generalize a % 65536 + a / 65536 = c at *
  unfold oc16
  by_cases c < 65536 <;> omega

theorem checkSum_std_general (v : View) (hl : eLfanew v.img.bytes % 4 = 0)
    (hp : (eLfanew v.img.bytes + 24 + 64) / 4 ≠ v.img.bytes.size / 4 ∨ v.img.bytes.size % 4 = 0) :
    v.checkSum = stdPeChecksum v.img.bytes := by
  unfold View.checkSum stdPeChecksum View.b
  dsimp only
  have hs : (eLfanew v.img.bytes + 24 + 64) / 2 = 2 * ((eLfanew v.img.bytes + 24 + 64) / 4) := by omega
  have hn : (v.img.bytes.size + 1) / 2 =
      2 * (v.img.bytes.size / 4) + ((v.img.bytes.size + 1) / 2 - 2 * (v.img.bytes.size / 4)) := by omega
  obtain ⟨hlt, heq⟩ := csumLoop_words v.img.bytes ((eLfanew v.img.bytes + 24 + 64) / 4)
    (v.img.bytes.size / 4) _ hn (v.img.bytes.size / 4) 0 (Nat.le_refl _) (by decide)
  rw [← hn] at heq
  rw [hs, show stdSum16 v.img.bytes _ _ 0 = _ from heq, csumTail_words _ _ hp hlt, foldCarry16_of_lt (oc16_lt _),
    foldCarry16_of_lt (oc16_lt _), oc16_final]
  split
  · exact (oc16_csumStep hlt (le32_lt _ _)).1
  · exact hlt

theorem checkSum_std (v : View) (hl : eLfanew v.img.bytes % 4 = 0)
    (hpos : eLfanew v.img.bytes + 24 + 64 + 4 ≤ v.img.bytes.size) :
    v.checkSum = stdPeChecksum v.img.bytes :=
  checkSum_std_general v hl (by omega)

/-- `stdSum16` with the words taken off the front of the byte list: linear for the kernel, where indexing a
literal array costs the index per read -/
def sum16L (skip : Nat) : List UInt8 → Nat → Nat → Nat
  | x :: y :: r, i, acc =>
    sum16L skip r (i + 1) (foldCarry16 (acc + if i = skip ∨ i = skip + 1 then 0 else x.toNat + 256 * y.toNat))
  | [x], i, acc => foldCarry16 (acc + if i = skip ∨ i = skip + 1 then 0 else x.toNat + 256 * 0)
  | [], _, acc => acc

theorem stdSum16_eq_list (b : Bytes) (skip : Nat) : ∀ fuel acc, fuel ≤ (b.size + 1) / 2 →
    stdSum16 b skip fuel acc =
      sum16L skip (b.toList.drop (2 * ((b.size + 1) / 2 - fuel))) ((b.size + 1) / 2 - fuel) acc := by
  intro fuel
  induction fuel with
  | zero =>
    intro acc _
    rw [List.drop_of_length_le (by simp only [Array.length_toList]; omega)]
    rfl
  | succ fuel ih =>
    intro acc hf
    rw [stdSum16, ih _ (by omega)]
    generalize hi : (b.size + 1) / 2 - (fuel + 1) = i
    have e : (b.size + 1) / 2 - fuel = i + 1 := by omega
    have h0 : 2 * i < b.toList.length := by simp only [Array.length_toList]; omega
    rw [e, List.drop_eq_getElem_cons h0, le16, byteAt_toList h0]
    by_cases h1 : 2 * i + 1 < b.toList.length
    · rw [List.drop_eq_getElem_cons h1, byteAt_toList h1, sum16L]
      rfl
    · -- an odd length: the last word is the last byte, zero extended
      rw [List.drop_of_length_le (show _ ≤ 2 * i + 1 by omega), List.drop_of_length_le (by omega),
        byteAt_of_ge b _ (by simpa using h1)]
      rfl

theorem stdPeChecksum_eq_list (b : Bytes) : stdPeChecksum b =
    (foldCarry16 (foldCarry16 (sum16L ((eLfanew b + 24 + 64) / 2) b.toList 0 0)) + b.size) % 4294967296 := by
  unfold stdPeChecksum
  dsimp only
  rw [stdSum16_eq_list b _ _ _ (Nat.le_refl _), Nat.sub_self]
  rfl

end Pelite.Pe
