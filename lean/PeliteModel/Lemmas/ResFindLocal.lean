import PeliteModel.Lemmas.ResFind
/-!
C12: lookups are *path local*.  For ARBITRARY section bytes `find`, `find_resource`, `find_resource_ex`, `manifest`,
`version_info` and `GroupResource::image` are left folds of a one-level step (`stepSel`: in the current directory
select a child — by path component, by name, or the first one — and resolve it with `entry()`), so their answer
depends only on the directories met along the path.  No `IsTree` hypothesis anywhere.  Totality of the path lookups
(`isVal_findParts`, `isVal_find` …) is here too, because its proof is the walk's (`valP_walkR`).
-/
namespace Pelite.Resources
open Pelite

-- serves the `decide` witnesses of Thm/C12Find.lean (lookup results are compared)
deriving instance DecidableEq for Except

/-! ### the one-level step and its left fold -/

/-- how one level of a lookup selects a child of the current directory -/
inductive Sel
  /-- a component of a `find` path: must be UTF-8 (`Bad8Path`), then the child named `Name::Str(p)` -/
  | part (p : List Nat)
  /-- `get(q)`: the child named `q` -/
  | name (q : Name)
  /-- `first()`: the first child in stored order -/
  | first
  deriving DecidableEq, Repr

/-- One level of a lookup.  The current entry must be a directory (`UnDataEntry` otherwise); the
selected child — for `.part` / `.name` the FIRST entry in stored order whose name matches, see
`lookup_of_entries` — is resolved with `DirectoryEntry::entry()`.  Only the entry table of the current
directory, the names of its entries and the header the selected entry points at are read. -/
def stepSel (r : Resources) (cur : Entry) (s : Sel) : Out (FRes Entry) :=
  match s with
  | .part p =>
    match utf8Chars p with
    | none => failF .bad8Path
    | some _ =>
      match cur with
      | .dir d => d.get r (.str p)
      | .data _ => failF .unDataEntry
  | .name q =>
    match cur with
    | .dir d => d.get r q
    | .data _ => failF .unDataEntry
  | .first =>
    match cur with
    | .dir d => d.first r
    | .data _ => failF .unDataEntry

/-- the LEFT fold of the one-level step over the selectors, from `start` -/
def walkSel (r : Resources) (start : Out (FRes Entry)) (sels : List Sel) : Out (FRes Entry) :=
  sels.foldl (fun acc s => bindF acc fun cur => stepSel r cur s) start

/-- `self.root()?` as an entry -/
def rootEntry (r : Resources) : Out (FRes Entry) := liftE (root r) fun d => okF (.dir d)

/-- `.data().ok_or(UnDirectory)?.bytes()?` -/
def dataBytes (r : Resources) (en : Entry) : Out (FRes Ref) := bindF (asData en) fun de => liftE (de.bytes r) okF

theorem bindF_okF_left {α β : Type} (a : α) (f : α → Out (FRes β)) : bindF (okF a) f = f a := rfl

/-! ### right fold = left fold -/

/-- the right-fold form of the walk (what the `'parts` loop of `find_internal` is) -/
def walkR (r : Resources) : List Sel → Entry → Out (FRes Entry)
  | [], e => okF e
  | s :: rest, e => bindF (stepSel r e s) (walkR r rest)

theorem walkSel_eq_walkR (r : Resources) : ∀ (sels : List Sel) (start : Out (FRes Entry)),
    walkSel r start sels = bindF start (walkR r sels)
  | [], start => (bindF_okF start).symm
  | s :: rest, start => by
    show walkSel r (bindF start fun cur => stepSel r cur s) rest = _
    rw [walkSel_eq_walkR r rest, bindF_assoc]
    rfl

theorem walkSel_okF (r : Resources) (sels : List Sel) (e : Entry) : walkSel r (okF e) sels = walkR r sels e := by
  rw [walkSel_eq_walkR]; rfl

theorem walkSel_append (r : Resources) (start : Out (FRes Entry)) (a b : List Sel) :
    walkSel r start (a ++ b) = walkSel r (walkSel r start a) b := by
  unfold walkSel
  rw [List.foldl_append]

theorem walk_root (r : Resources) (sels : List Sel) {α : Type} (fin : Entry → Out (FRes α)) :
    bindF (walkSel r (rootEntry r) sels) fin = liftE (root r) fun d => bindF (walkR r sels (.dir d)) fin := by
  rw [walkSel_eq_walkR, rootEntry, bindF_liftE, bindF_liftE]
  rfl

theorem stepSel_part (r : Resources) (en : Entry) (p : List Nat) :
    stepSel r en (.part p) =
      match utf8Chars p with
      | none => failF .bad8Path
      | some _ =>
        match en with
        | .dir d => d.get r (.str p)
        | .data _ => failF .unDataEntry := rfl

theorem findParts_eq_walkR (r : Resources) : ∀ (parts : List (List Nat)) (en : Entry),
    findParts r parts en = walkR r (parts.map .part) en
  | [], en => rfl
  | part :: rest, en => by
    show _ = bindF (stepSel r en (.part part)) (walkR r (rest.map .part))
    rw [findParts_cons, stepSel_part]
    cases utf8Chars part with
    | none => rfl
    | some _ =>
      cases en with
      | data _ => rfl
      | dir d => exact congrArg (bindF _) (funext (findParts_eq_walkR r rest))

/-! ### the helpers are walks too

The code converts with `dir()` / `data()` between the steps; on a data entry the conversion fails with
`UnDataEntry`, which is also what the next step answers there.  With that the nested `?` chains of the
helpers normalise (associativity of `?`) to the walk: `C12_helpers_path_local`. -/

theorem asDir_name (r : Resources) (en : Entry) (q : Name) {α : Type} (k : Entry → Out (FRes α)) :
    bindF (asDir en) (fun d => bindF (lookup r d q) k) = bindF (stepSel r en (.name q)) k := by
  cases en <;> rfl

theorem asDir_first (r : Resources) (en : Entry) {α : Type} (k : Entry → Out (FRes α)) :
    bindF (asDir en) (fun d => bindF (d.first r) k) = bindF (stepSel r en .first) k := by
  cases en <;> rfl

theorem findResource_eq_walk (r : Resources) (ty name : Name) :
    findResource r ty name = bindF (walkSel r (rootEntry r) [.name ty, .name name, .first]) (dataBytes r) := by
  simp only [walk_root, findResource, findResources, dataBytes, Dir.getDir, Dir.firstData, walkR, bindF_assoc, bindF_liftE,
    bindF_okF_left, asDir_name, asDir_first]
  rfl

/-- `str::from_utf8(bytes)?` on the data of the entry found -/
def utf8Bytes (r : Resources) (en : Entry) : Out (FRes Ref) :=
  bindF (dataBytes r en) fun b =>
    match utf8Chars ((bytesAt r.sec b.off b.len).map UInt8.toNat) with
    | some _ => okF b
    | none => failF (.pe .encoding)

/-- `version_info`: the lookup, then `VersionInfo::try_from` (4-alignment of the bytes) -/
def versionFin (r : Resources) (en : Entry) : Out (FRes Ref) :=
  bindF (dataBytes r en) fun b =>
    if (r.base + b.off) % 4 ≠ 0 then failF (.pe .misaligned) else okF ⟨b.off, b.len / 2 * 2, 2⟩

/-! ### what a walk returns: the entry reached by following the selected children, or the error of
the first step that fails -/

/-- `tgt` is reached from `cur` by following, level by level, the child each selector selects -/
inductive Follows (r : Resources) : Entry → List Sel → Entry → Prop
  | done (e : Entry) : Follows r e [] e
  | step {cur nxt tgt : Entry} {s : Sel} {rest : List Sel} :
      stepSel r cur s = .ok (.ok nxt) → Follows r nxt rest tgt → Follows r cur (s :: rest) tgt

theorem follows_nil {r : Resources} {cur tgt : Entry} : Follows r cur [] tgt ↔ tgt = cur :=
  ⟨fun h => by cases h; rfl, fun h => h ▸ .done _⟩

theorem follows_cons {r : Resources} {cur tgt : Entry} {s : Sel} {rest : List Sel} :
    Follows r cur (s :: rest) tgt ↔ ∃ nxt, stepSel r cur s = .ok (.ok nxt) ∧ Follows r nxt rest tgt :=
  ⟨fun h => by cases h with | step h1 h2 => exact ⟨_, h1, h2⟩, fun ⟨_, h1, h2⟩ => .step h1 h2⟩

theorem walkR_ok_iff (r : Resources) : ∀ (sels : List Sel) (cur tgt : Entry),
    walkR r sels cur = .ok (.ok tgt) ↔ Follows r cur sels tgt
  | [], cur, tgt => by
    rw [follows_nil]
    show Out.ok (Except.ok cur) = _ ↔ _
    simp [eq_comm]
  | s :: rest, cur, tgt => by
    rw [follows_cons]
    show bindF (stepSel r cur s) (walkR r rest) = _ ↔ _
    simp only [bindF_eq_okok, walkR_ok_iff r rest]

theorem Follows.unique {r : Resources} {cur a b : Entry} {sels : List Sel} (ha : Follows r cur sels a) (hb : Follows r cur sels b) :
    a = b := by
  have h := (walkR_ok_iff r sels cur a).2 ha
  rw [(walkR_ok_iff r sels cur b).2 hb] at h
  cases h
  rfl

theorem follows_append {r : Resources} : ∀ {a b : List Sel} {cur tgt : Entry},
    Follows r cur (a ++ b) tgt ↔ ∃ mid, Follows r cur a mid ∧ Follows r mid b tgt
  | [], b, cur, tgt => by simp only [List.nil_append, follows_nil, exists_eq_left]
  | s :: a, b, cur, tgt => by
    simp only [List.cons_append, follows_cons, follows_append (a := a)]
    exact ⟨fun ⟨nxt, h1, mid, h2, h3⟩ => ⟨mid, ⟨nxt, h1, h2⟩, h3⟩, fun ⟨mid, ⟨nxt, h1, h2⟩, h3⟩ => ⟨nxt, h1, mid, h2, h3⟩⟩

theorem walkR_err_iff (r : Resources) (sels : List Sel) (cur : Entry) (e : FindError) :
    walkR r sels cur = .ok (.error e) ↔
      ∃ pre s post mid, sels = pre ++ s :: post ∧ Follows r cur pre mid ∧ stepSel r mid s = .ok (.error e) := by
  induction sels generalizing cur with
  | nil => exact ⟨fun h => (by cases h), fun ⟨pre, _, _, _, h, _⟩ => (by cases pre <;> cases h)⟩
  | cons s rest ih =>
    show bindF (stepSel r cur s) (walkR r rest) = _ ↔ _
    rw [bindF_eq_okerr]
    constructor
    · rintro (h | ⟨nxt, h1, h2⟩)
      · exact ⟨[], s, rest, cur, rfl, .done _, h⟩
      · obtain ⟨pre, s', post, mid, h, h3, h4⟩ := (ih nxt).1 h2
        exact ⟨s :: pre, s', post, mid, congrArg (s :: ·) h, .step h1 h3, h4⟩
    · rintro ⟨pre, s', post, mid, h1, h2, h3⟩
      cases pre with
      | nil => cases h1; cases h2; exact .inl h3
      | cons x pre' =>
        obtain ⟨rfl, hr⟩ := List.cons.inj h1
        obtain ⟨nxt, h4, h5⟩ := follows_cons.1 h2
        exact .inr ⟨nxt, h4, (ih nxt).2 ⟨pre', s', post, mid, hr, h5, h3⟩⟩

/-! ### every directory met along a walk satisfies the invariant of `Directory::try_from` -/

theorem stepSel_entryOK {r : Resources} (hb : Aligned r) {cur : Entry} (hc : EntryOK r cur) (s : Sel) :
    ValP (EntryOK r) (stepSel r cur s) := by
  cases s with
  | part p =>
    rw [stepSel_part]
    cases utf8Chars p with
    | none => exact .failF
    | some _ => cases cur with
      | dir d => exact valP_lookup hb hc _
      | data _ => exact .failF
  | name q => cases cur with
    | dir d => exact valP_lookup hb hc q
    | data _ => exact .failF
  | first => cases cur with
    | dir d => exact valP_first hb hc
    | data _ => exact .failF

theorem valP_walkR {r : Resources} (hb : Aligned r) : ∀ (sels : List Sel) (cur : Entry), EntryOK r cur →
    ValP (EntryOK r) (walkR r sels cur)
  | [], _, hc => .okF hc
  | s :: rest, _, hc => (stepSel_entryOK hb hc s).bindF (valP_walkR hb rest)

theorem isVal_findParts {r : Resources} (hb : Aligned r) (parts : List (List Nat)) (en : Entry) (hen : EntryOK r en) :
    IsVal (findParts r parts en) := by
  rw [findParts_eq_walkR]
  exact (valP_walkR hb _ en hen).1

theorem isVal_find {r : Resources} (hb : Aligned r) (p : List Nat) : IsVal (find r p) := by
  unfold find
  cases pathSplit p with
  | none => trivial
  | some sp =>
    dsimp only
    split
    · trivial
    · exact isVal_liftE (safe_root hb) (fun d hd => isVal_findParts hb _ _ (root_ok hb hd))

theorem isVal_dirFind {r : Resources} (hb : Aligned r) {d : Dir} (hd : DirOK r d) (p : List Nat) : IsVal (d.find r p) :=
  isVal_findParts hb _ _ hd

theorem isVal_findData {r : Resources} (hb : Aligned r) (p : List Nat) : IsVal (findData r p) :=
  isVal_bindF (isVal_find hb p) (fun a _ => isVal_asData a)
theorem isVal_findDir {r : Resources} (hb : Aligned r) (p : List Nat) : IsVal (findDir r p) :=
  isVal_bindF (isVal_find hb p) (fun a _ => isVal_asDir a)

/-- The answer `res` of the lookup "`root()?`, then the selectors `sels` level by level, then `fin`" is
explained by the directories along the path alone: a value is what `fin` makes of the entry reached
by following the selectors from the root; an error is that of reading the root header, or of the
FIRST step that does not return an entry (after the steps before it were followed), or of `fin` on the
entry reached. -/
def LocalResult {α : Type} (r : Resources) (sels : List Sel) (fin : Entry → Out (FRes α)) : FRes α → Prop
  | .ok a => ∃ d0 tgt, root r = .ok d0 ∧ Follows r (.dir d0) sels tgt ∧ fin tgt = .ok (.ok a)
  | .error e =>
    (∃ e', root r = .err e' ∧ e = .pe e') ∨
    ∃ d0, root r = .ok d0 ∧
      ((∃ pre s post mid, sels = pre ++ s :: post ∧ Follows r (.dir d0) pre mid ∧ stepSel r mid s = .ok (.error e)) ∨
       ∃ tgt, Follows r (.dir d0) sels tgt ∧ fin tgt = .ok (.error e))

end Pelite.Resources
