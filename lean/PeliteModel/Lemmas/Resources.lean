import PeliteModel.Spec.Resources
/-!
C12, arbitrary section bytes, one level: closed forms of the raw accessors under the alignment `Pe::resources`
guarantees, the invariant `DirOK`, safety of the accessors, `RefOK` of every reference handed back (C01).
-/
namespace Pelite.Resources
open Pelite
/-- the section starts at a multiple of 4 (what `Pe::resources` establishes by slicing with
`align_of::<IMAGE_RESOURCE_DIRECTORY>()`) -/
def Aligned (r : Resources) : Prop := r.base % 4 = 0

instance (r : Resources) : Decidable (Aligned r) := by unfold Aligned; exact inferInstance

/-- neither undefined behaviour, nor a panic, nor fuel exhaustion: a Rust value or a Rust error -/
def Safe {α : Type} : Out α → Prop
  | .ok _ => True
  | .err _ => True
  | .panic _ => False
  | .ub _ => False
  | .diverge => False

/-- a Rust value (used for the find API, whose errors are values of `FindError`) -/
def IsVal {α : Type} : Out α → Prop
  | .ok _ => True
  | _ => False

@[simp] theorem safe_ok {α : Type} (a : α) : Safe (Out.ok a) = True := rfl
@[simp] theorem safe_err {α : Type} (e : Err) : Safe (Out.err e : Out α) = True := rfl
@[simp] theorem safe_panic {α : Type} (s : String) : Safe (Out.panic s : Out α) = False := rfl
@[simp] theorem safe_ub {α : Type} (s : String) : Safe (Out.ub s : Out α) = False := rfl
@[simp] theorem safe_diverge {α : Type} : Safe (Out.diverge : Out α) = False := rfl
@[simp] theorem isVal_ok {α : Type} (a : α) : IsVal (Out.ok a) = True := rfl
@[simp] theorem isVal_err {α : Type} (e : Err) : IsVal (Out.err e : Out α) = False := rfl
@[simp] theorem isVal_panic {α : Type} (s : String) : IsVal (Out.panic s : Out α) = False := rfl
@[simp] theorem isVal_ub {α : Type} (s : String) : IsVal (Out.ub s : Out α) = False := rfl
@[simp] theorem isVal_diverge {α : Type} : IsVal (Out.diverge : Out α) = False := rfl

theorem IsVal.safe {α : Type} {o : Out α} (h : IsVal o) : Safe o := by
  cases o <;> simp_all [IsVal, Safe]

/-- `Safe` is `Out.Clean` (and so `Pe.OkOrErr`) written as a `match` -/
theorem Safe_iff_clean {α : Type} {x : Out α} : Safe x ↔ x.Clean := by
  cases x <;> simp [Safe, Out.Clean]

theorem Safe.ok_or_err {α : Type} {x : Out α} (h : Safe x) : x.Clean := Safe_iff_clean.1 h

theorem IsVal.ok {α : Type} {x : Out α} (h : IsVal x) : ∃ a, x = .ok a := by
  cases x with
  | ok a => exact ⟨a, rfl⟩
  | _ => exact h.elim

/-! ### closed forms -/

/-- `rawRef_eq_ok` with `r.img` unfolded, so that `omega` sees `r.sec.size` and `r.base` -/
theorem rawRef_of {site : String} {r : Resources} {off size align : Nat} (h1 : off + size ≤ r.sec.size)
    (h2 : (r.base + off) % align = 0) : rawRef site r.img off size align = .ok ⟨off, size, align⟩ :=
  rawRef_eq_ok h1 h2

theorem slice4_eq {r : Resources} (hb : Aligned r) (site : String) (off size : Nat) :
    slice r site off size 4 =
      if off % 4 ≠ 0 then .err .misaligned
      else if off + size > r.sec.size then .err .bounds
      else .ok ⟨off, size, 4⟩ := by
  unfold slice Aligned at *
  by_cases h1 : off % 4 ≠ 0
  · rw [if_pos h1, if_pos h1]
  · by_cases h2 : off + size > r.sec.size
    · rw [if_neg h1, if_neg h1, if_pos h2, if_pos h2]
    · rw [if_neg h1, if_neg h1, if_neg h2, if_neg h2, rawRef_of (by omega) (by omega)]

theorem sliceWs_eq {r : Resources} (hb : Aligned r) (off : Nat) :
    sliceWs r off =
      if off % 2 ≠ 0 then .err .misaligned
      else if off + 2 > r.sec.size then .err .bounds
      else if off + 2 + le16 r.sec off * 2 > r.sec.size then .err .bounds
      else .ok ⟨off + 2, le16 r.sec off * 2, 2⟩ := by
  unfold sliceWs Aligned at *
  by_cases h1 : off % 2 ≠ 0
  · rw [if_pos h1, if_pos h1]
  · by_cases h2 : off + 2 > r.sec.size
    · rw [if_neg h1, if_neg h1, if_pos h2, if_pos h2]
    · rw [if_neg h1, if_neg h1, if_neg h2, if_neg h2, rawRef_of (by omega) (by omega)]
      dsimp only
      by_cases h3 : off + 2 + le16 r.sec off * 2 > r.sec.size
      · rw [if_pos h3, if_pos h3]
      · rw [if_neg h3, if_neg h3, rawRef_of (by omega) (by omega)]

theorem dirTryFrom_eq {r : Resources} (hb : Aligned r) (off : Nat) :
    dirTryFrom r off =
      if off % 4 ≠ 0 then .err .misaligned
      else if off + 16 > r.sec.size then .err .bounds
      else if (le16 r.sec (off + 12) + le16 r.sec (off + 14)) * 8 > r.sec.size - (off + 16) then .err .bounds
      else .ok ⟨off, le16 r.sec (off + 12), le16 r.sec (off + 14)⟩ := by
  unfold dirTryFrom
  rw [slice4_eq hb]
  by_cases h1 : off % 4 = 0
  · by_cases h2 : off + 16 > r.sec.size
    · simp [h1, h2]
    · simp [h1, h2]
  · simp [h1]

theorem dataTryFrom_eq {r : Resources} (hb : Aligned r) (off : Nat) :
    dataTryFrom r off =
      if off % 4 ≠ 0 then .err .misaligned
      else if off + 16 > r.sec.size then .err .bounds
      else .ok ⟨off, le32 r.sec off, le32 r.sec (off + 4), le32 r.sec (off + 8)⟩ := by
  unfold dataTryFrom
  rw [slice4_eq hb]
  by_cases h1 : off % 4 = 0
  · by_cases h2 : off + 16 > r.sec.size
    · simp [h1, h2]
    · simp [h1, h2]
  · simp [h1]

theorem dataTryFrom_ok {r : Resources} (hb : Aligned r) {off : Nat} {de : DataEntry} (h : dataTryFrom r off = .ok de) :
    off % 4 = 0 ∧ off + 16 ≤ r.sec.size ∧ de = ⟨off, le32 r.sec off, le32 r.sec (off + 4), le32 r.sec (off + 8)⟩ := by
  rw [dataTryFrom_eq hb] at h
  simp only [ite_err_eq_ok, Out.ok.injEq] at h
  obtain ⟨c1, c2, rfl⟩ := h
  exact ⟨by omega, by omega, rfl⟩

theorem nameRef_eq {r : Resources} (hb : Aligned r) (e : DirEntry) :
    e.nameRef r =
      if e.name < 0x80000000 then .ok none
      else if (e.name % 0x80000000) % 2 ≠ 0 then .err .misaligned
      else if e.name % 0x80000000 + 2 > r.sec.size then .err .bounds
      else if e.name % 0x80000000 + 2 + le16 r.sec (e.name % 0x80000000) * 2 > r.sec.size then .err .bounds
      else .ok (some ⟨e.name % 0x80000000 + 2, le16 r.sec (e.name % 0x80000000) * 2, 2⟩) := by
  unfold DirEntry.nameRef
  by_cases h : e.name < 0x80000000
  · rw [if_neg (by omega), if_pos h]
  · rw [if_pos (by omega), if_neg h, sliceWs_eq hb]
    by_cases c1 : (e.name % 0x80000000) % 2 ≠ 0
    · rw [if_pos c1, if_pos c1]
    · rw [if_neg c1, if_neg c1]
      by_cases c2 : e.name % 0x80000000 + 2 > r.sec.size
      · rw [if_pos c2, if_pos c2]
      · rw [if_neg c2, if_neg c2]
        by_cases c3 : e.name % 0x80000000 + 2 + le16 r.sec (e.name % 0x80000000) * 2 > r.sec.size
        · rw [if_pos c3, if_pos c3]
        · rw [if_neg c3, if_neg c3]

theorem getName_eq {r : Resources} (hb : Aligned r) (e : DirEntry) :
    e.getName r =
      if e.name < 0x80000000 then .ok (.id e.name)
      else if (e.name % 0x80000000) % 2 ≠ 0 then .err .misaligned
      else if e.name % 0x80000000 + 2 > r.sec.size then .err .bounds
      else if e.name % 0x80000000 + 2 + le16 r.sec (e.name % 0x80000000) * 2 > r.sec.size then .err .bounds
      else .ok (.wide (wordsAt r.sec (e.name % 0x80000000 + 2) (le16 r.sec (e.name % 0x80000000)))) := by
  unfold DirEntry.getName
  rw [nameRef_eq hb]
  by_cases h : e.name < 0x80000000
  · rw [if_pos h, if_pos h]
  · rw [if_neg h, if_neg h]
    by_cases c1 : (e.name % 0x80000000) % 2 ≠ 0
    · rw [if_pos c1, if_pos c1]
    · rw [if_neg c1, if_neg c1]
      by_cases c2 : e.name % 0x80000000 + 2 > r.sec.size
      · rw [if_pos c2, if_pos c2]
      · rw [if_neg c2, if_neg c2]
        by_cases c3 : e.name % 0x80000000 + 2 + le16 r.sec (e.name % 0x80000000) * 2 > r.sec.size
        · rw [if_pos c3, if_pos c3]
        · rw [if_neg c3, if_neg c3]
          show Out.ok (Name.wide (wordsAt r.sec (e.name % 0x80000000 + 2) (le16 r.sec (e.name % 0x80000000) * 2 / 2))) = _
          rw [Nat.mul_div_cancel _ (by decide : 0 < 2)]

theorem entry_eq (r : Resources) (e : DirEntry) :
    e.entry r =
      if e.offset ≥ 0x80000000 then
        match dirTryFrom r (e.offset % 0x80000000) with
        | .ok d => .ok (.dir d) | .err e => .err e | .panic s => .panic s | .ub s => .ub s | .diverge => .diverge
      else
        match dataTryFrom r e.offset with
        | .ok d => .ok (.data d) | .err e => .err e | .panic s => .panic s | .ub s => .ub s | .diverge => .diverge := by
  unfold DirEntry.entry DirEntry.isDir
  by_cases h : e.offset ≥ 0x80000000
  · have hc : decide (e.offset ≥ 0x80000000) = true := decide_eq_true h
    rw [if_pos hc, if_pos h]; rfl
  · have hc : ¬ decide (e.offset ≥ 0x80000000) = true := by rw [decide_eq_true_eq]; exact h
    rw [if_neg hc, if_neg h]; rfl

theorem entry_eq_ok {r : Resources} {e : DirEntry} {en : Entry} : e.entry r = .ok en ↔
    (e.offset ≥ 0x80000000 ∧ ∃ d, dirTryFrom r (e.offset % 0x80000000) = .ok d ∧ en = .dir d) ∨
    (e.offset < 0x80000000 ∧ ∃ de, dataTryFrom r e.offset = .ok de ∧ en = .data de) := by
  rw [entry_eq]
  by_cases h : e.offset ≥ 0x80000000
  · rw [if_pos h]
    cases dirTryFrom r (e.offset % 0x80000000) <;> simp [h, Nat.not_lt.2 h, eq_comm]
  · rw [if_neg h]
    cases dataTryFrom r e.offset <;> simp [h, Nat.not_le.1 h, eq_comm]

theorem entry_err {r : Resources} (hb : Aligned r) {e : DirEntry} {err : Err} (h : e.entry r = .err err) :
    err = .misaligned ∨ err = .bounds := by
  rw [entry_eq] at h
  split at h
  · cases hd : dirTryFrom r (e.offset % 0x80000000) <;> rw [hd] at h <;> cases h
    rw [dirTryFrom_eq hb] at hd
    simp only [ite_err_eq_err, reduceCtorEq, and_false, or_false] at hd
    rcases hd with ⟨_, rfl⟩ | ⟨_, ⟨_, rfl⟩ | ⟨_, _, rfl⟩⟩ <;> simp
  · cases hd : dataTryFrom r e.offset <;> rw [hd] at h <;> cases h
    rw [dataTryFrom_eq hb] at hd
    simp only [ite_err_eq_err, reduceCtorEq, and_false, or_false] at hd
    rcases hd with ⟨_, rfl⟩ | ⟨_, _, rfl⟩ <;> simp

/-! ### the directory invariant -/

/-- what `Directory::try_from` establishes: header and entry array inside the section, 4-aligned,
and the two counts are the ones stored in the header -/
def DirOK (r : Resources) (d : Dir) : Prop :=
  d.off % 4 = 0 ∧ d.off + 16 + 8 * (d.named + d.ids) ≤ r.sec.size ∧
  d.named = le16 r.sec (d.off + 12) ∧ d.ids = le16 r.sec (d.off + 14)

instance (r : Resources) (d : Dir) : Decidable (DirOK r d) := by unfold DirOK; exact inferInstance

theorem dirTryFrom_ok {r : Resources} (hb : Aligned r) {off : Nat} {d : Dir} (h : dirTryFrom r off = .ok d) :
    DirOK r d ∧ d = ⟨off, le16 r.sec (off + 12), le16 r.sec (off + 14)⟩ := by
  rw [dirTryFrom_eq hb] at h
  simp only [ite_err_eq_ok, Out.ok.injEq] at h
  obtain ⟨c1, c2, c3, rfl⟩ := h
  refine ⟨⟨?_, ?_, rfl, rfl⟩, rfl⟩
  · show off % 4 = 0; omega
  · show off + 16 + 8 * (le16 r.sec (off + 12) + le16 r.sec (off + 14)) ≤ r.sec.size; omega

theorem dirOK_count {r : Resources} {d : Dir} (hd : DirOK r d) : d.named + d.ids ≤ r.sec.size / 8 := by
  have := hd.2.1
  omega

theorem entrySlice_eq {r : Resources} (hb : Aligned r) (site : String) {start n : Nat}
    (h1 : start % 4 = 0) (h2 : start + 8 * n ≤ r.sec.size) :
    entrySlice r site start n = .ok (entriesFrom r start n) := by
  unfold entrySlice Aligned at *
  rw [rawRef_of h2 (by omega)]

theorem entries_eq {r : Resources} (hb : Aligned r) {d : Dir} (hd : DirOK r d) :
    d.entries r = .ok (entriesFrom r (d.off + 16) (d.named + d.ids)) := by
  unfold Dir.entries
  exact entrySlice_eq hb _ (by have := hd.1; omega) (by have := hd.2.1; omega)

theorem namedEntries_eq {r : Resources} (hb : Aligned r) {d : Dir} (hd : DirOK r d) :
    d.namedEntries r = .ok (entriesFrom r (d.off + 16) d.named) := by
  unfold Dir.namedEntries
  exact entrySlice_eq hb _ (by have := hd.1; omega) (by have := hd.2.1; omega)

theorem idEntries_eq {r : Resources} (hb : Aligned r) {d : Dir} (hd : DirOK r d) :
    d.idEntries r = .ok (entriesFrom r (d.off + 16 + 8 * d.named) d.ids) := by
  unfold Dir.idEntries
  exact entrySlice_eq hb _ (by have := hd.1; omega) (by have := hd.2.1; omega)

theorem entriesFrom_append (r : Resources) (start a b : Nat) :
    entriesFrom r start (a + b) = entriesFrom r start a ++ entriesFrom r (start + 8 * a) b := by
  induction a generalizing start with
  | zero => simp [entriesFrom]
  | succ a ih =>
    have : a + 1 + b = (a + b) + 1 := by omega
    rw [this]
    simp only [entriesFrom, List.cons_append]
    rw [ih]
    have h8 : start + 8 + 8 * a = start + 8 * (a + 1) := by omega
    rw [h8]

theorem entriesFrom_length (r : Resources) (start n : Nat) : (entriesFrom r start n).length = n := by
  induction n generalizing start with
  | zero => rfl
  | succ n ih => simp [entriesFrom, ih]

theorem entriesFrom_get (r : Resources) (start n i : Nat) (h : i < n) :
    (entriesFrom r start n)[i]? = some (entryAt r (start + 8 * i)) := by
  induction n generalizing start i with
  | zero => omega
  | succ n ih =>
    cases i with
    | zero => simp [entriesFrom]
    | succ i =>
      simp only [entriesFrom, List.getElem?_cons_succ]
      rw [ih (start + 8) i (by omega)]
      have : start + 8 + 8 * i = start + 8 * (i + 1) := by omega
      rw [this]

theorem entriesFrom_mem {r : Resources} {start n : Nat} {e : DirEntry} (h : e ∈ entriesFrom r start n) :
    ∃ i, i < n ∧ e = entryAt r (start + 8 * i) := by
  induction n generalizing start with
  | zero => simp [entriesFrom] at h
  | succ n ih =>
    simp only [entriesFrom, List.mem_cons] at h
    rcases h with h | h
    · exact ⟨0, by omega, by simpa using h⟩
    · obtain ⟨i, hi, he⟩ := ih h
      exact ⟨i + 1, by omega, by rw [he]; congr 1; omega⟩

theorem entry_dir_ok {r : Resources} (hb : Aligned r) {e : DirEntry} {d : Dir} (h : e.entry r = .ok (.dir d)) :
    DirOK r d ∧ e.offset ≥ 0x80000000 ∧ d.off = e.offset % 0x80000000 := by
  rcases entry_eq_ok.1 h with ⟨hge, d', hd, he⟩ | ⟨_, _, _, he⟩ <;> cases he
  obtain ⟨h1, h2⟩ := dirTryFrom_ok hb hd
  exact ⟨h1, hge, by rw [h2]⟩

theorem entry_data_ok {r : Resources} {e : DirEntry} {de : DataEntry} (h : e.entry r = .ok (.data de)) :
    e.offset < 0x80000000 ∧ dataTryFrom r e.offset = .ok de := by
  rcases entry_eq_ok.1 h with ⟨_, _, _, he⟩ | ⟨hlt, de', hd, he⟩ <;> cases he
  exact ⟨hlt, hd⟩

theorem root_ok {r : Resources} (hb : Aligned r) {d : Dir} (h : root r = .ok d) : DirOK r d :=
  (dirTryFrom_ok hb h).1

/-! ### safety of the accessors -/

theorem safe_ite {α : Type} {c : Prop} [Decidable c] {a b : Out α} (ha : Safe a) (hb : Safe b) :
    Safe (if c then a else b) := by
  by_cases h : c
  · rw [if_pos h]; exact ha
  · rw [if_neg h]; exact hb

/-- closes `Safe` of a cascade of `if`s whose leaves are `ok` / `err` -/
macro "safe_ifs" : tactic => `(tactic| repeat (first | apply safe_ite | exact True.intro))

theorem safe_dirTryFrom {r : Resources} (hb : Aligned r) (off : Nat) : Safe (dirTryFrom r off) := by
  rw [dirTryFrom_eq hb]
  safe_ifs

theorem safe_dataTryFrom {r : Resources} (hb : Aligned r) (off : Nat) : Safe (dataTryFrom r off) := by
  rw [dataTryFrom_eq hb]
  safe_ifs

theorem safe_root {r : Resources} (hb : Aligned r) : Safe (root r) := safe_dirTryFrom hb 0

theorem safe_getName {r : Resources} (hb : Aligned r) (e : DirEntry) : Safe (e.getName r) := by
  rw [getName_eq hb]
  safe_ifs

theorem safe_nameRef {r : Resources} (hb : Aligned r) (e : DirEntry) : Safe (e.nameRef r) := by
  rw [nameRef_eq hb]
  safe_ifs

theorem safe_entry {r : Resources} (hb : Aligned r) (e : DirEntry) : Safe (e.entry r) := by
  have h1 := safe_dirTryFrom hb (e.offset % 0x80000000)
  have h2 := safe_dataTryFrom hb e.offset
  unfold DirEntry.entry
  split <;> split <;> simp_all

theorem safe_bytes (r : Resources) (d : DataEntry) : Safe (d.bytes r) := by
  unfold DataEntry.bytes
  safe_ifs

theorem safe_dataFsck (r : Resources) (d : DataEntry) : Safe (d.fsck r) := by
  unfold DataEntry.fsck
  have := safe_bytes r d
  cases h : d.bytes r <;> simp_all

theorem safe_entries {r : Resources} (hb : Aligned r) {d : Dir} (hd : DirOK r d) : Safe (d.entries r) := by
  rw [entries_eq hb hd]; trivial

/-! ### references (C01) -/

theorem bytes_bound {r : Resources} {de : DataEntry} {ref : Ref} (h : de.bytes r = .ok ref) :
    ref.off + ref.len ≤ r.sec.size ∧ ref.align = 1 := by
  simp only [DataEntry.bytes, ite_err_eq_ok, Out.ok.injEq] at h
  obtain ⟨_, _, _, rfl⟩ := h
  exact ⟨by dsimp only; omega, rfl⟩

theorem dirRef_ok {r : Resources} (hb : Aligned r) {d : Dir} (hd : DirOK r d) : RefOK r.img d.ref := by
  obtain ⟨h1, h2, _, _⟩ := hd
  unfold RefOK Dir.ref Resources.img Aligned at *
  exact ⟨by show d.off + 16 ≤ r.sec.size; omega, by show (r.base + d.off) % 4 = 0; omega⟩

theorem entryRef_ok {r : Resources} (hb : Aligned r) {d : Dir} (hd : DirOK r d) {e : DirEntry}
    (he : e ∈ entriesFrom r (d.off + 16) (d.named + d.ids)) : RefOK r.img e.ref := by
  obtain ⟨h1, h2, _, _⟩ := hd
  obtain ⟨i, hi, rfl⟩ := entriesFrom_mem he
  unfold RefOK DirEntry.ref entryAt Resources.img Aligned at *
  exact ⟨by show d.off + 16 + 8 * i + 8 ≤ r.sec.size; omega, by show (r.base + (d.off + 16 + 8 * i)) % 4 = 0; omega⟩

theorem nameRef_ok {r : Resources} (hb : Aligned r) {e : DirEntry} {w : Ref} (h : e.nameRef r = .ok (some w)) :
    RefOK r.img w ∧ w.align = 2 := by
  rw [nameRef_eq hb] at h
  by_cases c0 : e.name < 0x80000000
  · rw [if_pos c0] at h; cases h
  · rw [if_neg c0] at h
    simp only [ite_err_eq_ok, Out.ok.injEq, Option.some.injEq] at h
    obtain ⟨c1, c2, c3, rfl⟩ := h
    unfold RefOK Resources.img Aligned at *
    exact ⟨⟨by show e.name % 0x80000000 + 2 + le16 r.sec (e.name % 0x80000000) * 2 ≤ r.sec.size; omega,
      by show (r.base + (e.name % 0x80000000 + 2)) % 2 = 0; omega⟩, rfl⟩

theorem dataRef_ok {r : Resources} (hb : Aligned r) {off : Nat} {de : DataEntry} (h : dataTryFrom r off = .ok de) :
    RefOK r.img de.ref := by
  obtain ⟨c1, c2, rfl⟩ := dataTryFrom_ok hb h
  unfold RefOK DataEntry.ref Resources.img Aligned at *
  exact ⟨by show off + 16 ≤ r.sec.size; omega, by show (r.base + off) % 4 = 0; omega⟩

theorem bytesRef_ok {r : Resources} {de : DataEntry} {ref : Ref} (h : de.bytes r = .ok ref) : RefOK r.img ref := by
  obtain ⟨h1, h2⟩ := bytes_bound h
  unfold RefOK Resources.img
  exact ⟨h1, by rw [h2]; exact Nat.mod_one _⟩

/-- The accounting of a walk under a visit budget (`fsck`, the printer): from budget `b` it left `b'` and did work `w`,
at most `n` plus `M` per unit of budget consumed. -/
def Spent (b b' w n M : Nat) : Prop := b' ≤ b ∧ w ≤ n + (b - b') * M

theorem Spent.refl (b n M : Nat) : Spent b b 0 n M := ⟨Nat.le_refl _, Nat.zero_le _⟩

theorem Spent.step {b b1 b2 w1 w2 n M : Nat} (h1 : Spent b b1 w1 0 M) (h2 : Spent b1 b2 w2 n M) :
    Spent b b2 (1 + w1 + w2) (n + 1) M := by
  obtain ⟨a1, a2⟩ := h1
  obtain ⟨c1, c2⟩ := h2
  refine ⟨by omega, ?_⟩
  rw [show b - b2 = (b - b1) + (b1 - b2) by omega, Nat.add_mul]
  omega

theorem Spent.dir {b b' w n M : Nat} (h : Spent (b - 1) b' w n M) (hb : b ≠ 0) (hn : n ≤ M) : Spent b b' w 0 M := by
  obtain ⟨a1, a2⟩ := h
  refine ⟨by omega, ?_⟩
  rw [show b - b' = (b - 1 - b') + 1 by omega, Nat.add_mul, Nat.one_mul]
  omega

theorem Spent.total {b b' w M : Nat} (h : Spent b b' w 0 M) : w ≤ b * M :=
  Nat.le_trans (Nat.zero_add _ ▸ h.2) (Nat.mul_le_mul_right _ (Nat.sub_le _ _))

end Pelite.Resources
