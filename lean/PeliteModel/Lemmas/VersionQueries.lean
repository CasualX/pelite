import PeliteModel.Lemmas.VersionTree
/-!
C13: the queries as functions of the parse tree, and their agreement.
-/

namespace Pelite.Version

theorem foldl_ite_last {α β} (p : α → Prop) [DecidablePred p] (f : α → β) (l : List α) (s : Option β) :
    l.foldl (fun s x => if p x then some (f x) else s) s = ((l.filter fun x => p x).getLast?.map f).or s := by
  induction l generalizing s with
  | nil => rfl
  | cons x l ih =>
    rw [List.foldl_cons, ih]
    by_cases h : p x
    · simp only [List.filter_cons, h, decide_true, if_true, List.getLast?_cons]
      cases (l.filter fun x => p x).getLast? <;> rfl
    · simp only [List.filter_cons, h, decide_false, if_false, Bool.false_eq_true]

/-! ### association lists -/

section am
variable {κ ν : Type} [DecidableEq κ]

theorem amLookup_insert (k k' : κ) (v : ν) (m : List (κ × ν)) :
    amLookup k (amInsert k' v m) = if k' = k then some v else amLookup k m := by
  induction m with
  | nil => rfl
  | cons p m ih =>
    obtain ⟨k'', v''⟩ := p
    simp only [amInsert]
    by_cases h2 : k'' = k'
    · subst h2; by_cases h : k'' = k <;> simp [amLookup, h]
    · by_cases h3 : k'' = k
      · subst h3; simp [amLookup, h2, Ne.symm h2]
      · simp [amLookup, h2, h3, ih]

theorem amInsert_insert (k : κ) (v v' : ν) (m : List (κ × ν)) :
    amInsert k v' (amInsert k v m) = amInsert k v' m := by
  induction m with
  | nil => simp [amInsert]
  | cons p m ih =>
    obtain ⟨k'', v''⟩ := p
    simp only [amInsert]
    by_cases h2 : k'' = k
    · simp [h2, amInsert]
    · simp [h2, amInsert, ih]

def amInsertAll (ps m : List (κ × ν)) : List (κ × ν) := ps.foldl (fun m p => amInsert p.1 p.2 m) m

theorem amLookup_insertAll (k : κ) (ps m : List (κ × ν)) :
    amLookup k (amInsertAll ps m) = (((ps.filter fun p => p.1 = k).getLast?).map (·.2)).or (amLookup k m) := by
  rw [← foldl_ite_last (fun p : κ × ν => p.1 = k) (·.2)]
  exact (List.foldl_hom (amLookup k) fun m p => (amLookup_insert k p.1 p.2 m).symm).symm

theorem amInsertAll_nil (m : List (κ × ν)) : amInsertAll [] m = m := rfl
theorem amInsertAll_cons (p : κ × ν) (ps m : List (κ × ν)) :
    amInsertAll (p :: ps) m = amInsertAll ps (amInsert p.1 p.2 m) := rfl
theorem amInsertAll_append (a b m : List (κ × ν)) : amInsertAll (a ++ b) m = amInsertAll b (amInsertAll a m) :=
  List.foldl_append

theorem amInsert_fresh (k : κ) (v : ν) (m : List (κ × ν)) (h : k ∉ m.map (·.1)) : amInsert k v m = m ++ [(k, v)] := by
  induction m with
  | nil => rfl
  | cons p m ih =>
    obtain ⟨k', v'⟩ := p
    simp only [List.map_cons, List.mem_cons, not_or] at h
    have : ¬ k' = k := fun e => h.1 e.symm
    simp only [amInsert, this, if_false, List.cons_append, ih h.2]

theorem amInsertAll_fresh (ps m : List (κ × ν)) (h : (m.map (·.1) ++ ps.map (·.1)).Nodup) : amInsertAll ps m = m ++ ps := by
  induction ps generalizing m with
  | nil => simp [amInsertAll_nil]
  | cons p ps ih =>
    have hp : p.1 ∉ m.map (·.1) := fun hm => (List.nodup_append.mp h).2.2 _ hm _ (List.mem_cons_self ..) rfl
    rw [amInsertAll_cons, amInsert_fresh _ _ _ hp, ih _ (by simpa [List.map_append] using h)]
    simp

end am

def Dec.isOk : Dec → Bool
  | .ok _ => true
  | .bad _ => false

/-- no unpaired surrogate -/
def validUtf16 (ws : List Nat) : Bool := (decode16 ws).all Dec.isOk

theorem decode_of_valid {ws : List Nat} (h : validUtf16 ws = true) : decode16 ws = (lossy ws).map Dec.ok := by
  unfold validUtf16 at h
  unfold lossy
  generalize decode16 ws = l at *
  induction l with
  | nil => rfl
  | cons d l ih =>
    simp only [List.all_cons, Bool.and_eq_true] at h
    cases d with
    | ok c => simp only [List.map_cons]; rw [← ih h.2]
    | bad u => simp [Dec.isOk] at h

/-- for stored keys without unpaired surrogates, `value`'s exact comparison and the lossy
conversion of `strings` / `file_info` select the same keys -/
theorem keyMatch_iff {ws : List Nat} (h : validUtf16 ws = true) (key : Str) :
    (key.map Dec.ok = decode16 ws) ↔ (lossy ws = key) := by
  rw [decode_of_valid h]
  constructor
  · intro h'
    exact ((List.map_inj_right (fun a b hab => by cases hab; rfl)).mp h').symm
  · intro h'; rw [h']

/-! ### the strings of the tree -/

def PInfo.tables (i : PInfo) : List PTable := match i.kind with | .tables ts => ts | _ => []
def PInfo.vars (i : PInfo) : List Tlv := match i.kind with | .vars vs => vs | _ => []

def PRoot.tables (r : PRoot) : List PTable := r.infos.flatMap PInfo.tables
def PRoot.vars (r : PRoot) : List Tlv := r.infos.flatMap PInfo.vars

def PTable.kvs (t : PTable) : List (Sl × Sl) := t.strings.map fun x => (x.key, stripNul x.value)

def PTable.lang (t : PTable) : Option Language := Language.parse t.node.key.ws

theorem langMatch_eq (lang : Language) (t : PTable) : langMatch lang t.node.key = decide (t.lang = some lang) := by
  unfold langMatch PTable.lang
  cases Language.parse t.node.key.ws with
  | none => simp
  | some l => simp

def PRoot.kvsOf (r : PRoot) (lang : Language) : List (Sl × Sl) :=
  (r.tables.filter fun t => t.lang = some lang).flatMap PTable.kvs

/-! ### visitors that read the string tables of one language -/

theorem foldl_const {α β} (l : List β) (s : α) : l.foldl (fun s _ => s) s = s :=
  l.foldlRecOn (motive := (· = s)) _ rfl fun _ h _ _ => h

/-- a visitor that keeps its state except at the strings of the tables naming `lang`; `fb` says which
blocks it enters -/
structure Visitor.ReadsTables {σ : Type} (V : Visitor σ) (lang : Language) (fb : Sl → Bool) : Prop where
  root : V.versionInfo = fun s _ _ => (s, true)
  enter : V.enterScope = fun s _ => s
  exit : V.exitScope = fun s _ => s
  var : V.var = fun s _ _ => s
  table : V.stringTable = fun s l => (s, langMatch lang l)
  info : V.fileInfo = fun s k => (s, fb k)

/-- Over `fis.map pInfo` and not any `List PInfo` (as `walkInfos_queryTranslation` below): such a visitor decides by the
block's key, the tree by the block's kind, and only `pInfo` ties the two (`pInfo_spec`). -/
theorem walkInfos_tables {σ : Type} {V : Visitor σ} {lang : Language} {fb : Sl → Bool} (h : V.ReadsTables lang fb)
    (hfb : ∀ k : Sl, k.ws = strStringFileInfo → fb k = true) (fis : List Tlv) (s : σ) :
    (fis.map pInfo).foldl (walkInfo V) s
      = ((((fis.map pInfo).flatMap PInfo.tables).filter fun t => t.lang = some lang).flatMap PTable.kvs).foldl
          (fun s kv => V.string s kv.1 kv.2) s := by
  rw [List.foldl_flatMap, List.foldl_filter, List.foldl_flatMap, List.foldl_map, List.foldl_map]
  congr 1; funext s fi
  rcases pInfo_spec fi with ⟨hk, hi⟩ | ⟨-, hi⟩ | ⟨-, -, hi⟩ <;> rw [hi] <;>
    simp only [walkInfo, h.info, h.enter, h.exit, walkKind, PInfo.tables]
  · simp only [hfb _ hk]
    congr 1; funext s t
    simp only [walkTable, h.table, h.enter, h.exit, langMatch_eq, walkStrings, PTable.kvs, List.foldl_map]
    by_cases hl : t.lang = some lang <;> simp [hl]
  · cases fb fi.key <;> simp [walkVars, h.var, foldl_const]
  · cases fb fi.key <;> rfl

theorem walkRoots_tables {σ : Type} {V : Visitor σ} {lang : Language} {fb : Sl → Bool} (h : V.ReadsTables lang fb)
    (hfb : ∀ k : Sl, k.ws = strStringFileInfo → fb k = true) (vi : Tlv) (rs : List PRoot) (s : σ) :
    walkRoots V (pRoot vi :: rs) s = ((pRoot vi).kvsOf lang).foldl (fun s kv => V.string s kv.1 kv.2) s := by
  simp only [walkRoots, walkRoot, h.root, h.enter, h.exit, PRoot.kvsOf, PRoot.tables, pRoot]
  exact walkInfos_tables h hfb _ s

theorem foldl_append_singleton {α β} (f : α → β) (l : List α) (s : List β) :
    l.foldl (fun s x => s ++ [f x]) s = s ++ l.map f := by
  induction l generalizing s with
  | nil => simp
  | cons x l ih => rw [List.foldl_cons, ih]; simp

theorem strings_eq (w : Sl) (hw : w.Al) (lang : Language) :
    strings w lang = .ok (match pRoots w with
      | [] => []
      | r :: _ => (r.kvsOf lang).map (fun kv => (lossy kv.1.ws, lossy kv.2.ws))) := by
  unfold strings
  rw [visit_eq_walk _ w hw]
  unfold pRoots
  cases items .bytes w with
  | nil => rfl
  | cons vi l =>
    rw [List.map_cons, walkRoots_tables (lang := lang) (fb := fun _ => true) ⟨rfl, rfl, rfl, rfl, rfl, rfl⟩ fun _ _ => rfl]
    exact congrArg Out.ok (foldl_append_singleton _ _ [])

def pick (key : Str) (s : Option Str) (kvs : List (Sl × Sl)) : Option Str :=
  kvs.foldl (fun s kv => if key.map Dec.ok = decode16 kv.1.ws then some (lossy kv.2.ws) else s) s

theorem pick_eq_last (key : Str) (s : Option Str) (kvs : List (Sl × Sl)) :
    pick key s kvs = match (kvs.filter fun kv => key.map Dec.ok = decode16 kv.1.ws).getLast? with
      | some kv => some (lossy kv.2.ws)
      | none => s := by
  unfold pick
  rw [foldl_ite_last (fun kv : Sl × Sl => key.map Dec.ok = decode16 kv.1.ws) (fun kv => lossy kv.2.ws)]
  cases (kvs.filter _).getLast? <;> rfl

theorem value_eq (w : Sl) (hw : w.Al) (lang : Language) (key : Str) :
    value w lang key = .ok (match pRoots w with
      | [] => none
      | r :: _ => pick key none (r.kvsOf lang)) := by
  unfold value
  rw [visit_eq_walk _ w hw]
  unfold pRoots
  cases items .bytes w with
  | nil => rfl
  | cons vi l =>
    rw [List.map_cons, walkRoots_tables (lang := lang) (fb := fun k => k.ws = strStringFileInfo) ⟨rfl, rfl, rfl, rfl, rfl, rfl⟩
      fun _ hk => decide_eq_true hk]
    rfl

/-! ### file_info() -/

/-- the inner hash map of one table -/
def PTable.entries (t : PTable) : List (Str × Str) :=
  amInsertAll (t.kvs.map fun kv => (lossy kv.1.ws, lossy kv.2.ws)) []

/-- the outer hash map: one entry per table whose key parses; a later table replaces an earlier
one that names the same language -/
def stringsMap (ts : List PTable) (m : List (Language × List (Str × Str))) : List (Language × List (Str × Str)) :=
  amInsertAll (ts.filterMap fun t => t.lang.map fun l => (l, t.entries)) m

/-- the strings of one table: while they are visited the table's entry `e` sits under the table's
language `l` in the outer map, and each string is inserted into that entry -/
theorem walkStrings_fileInfo (l : Language) (strs : List Tlv) (e : List (Str × Str)) (s : FileInfo)
    (hs : s.lang = l) (m : List (Language × List (Str × Str))) :
    walkStrings fileInfoVisitor strs { s with strings := amInsert l e m } =
      { s with strings := amInsert l (amInsertAll ((strs.map fun x => (x.key, stripNul x.value)).map
          fun kv => (lossy kv.1.ws, lossy kv.2.ws)) e) m } := by
  unfold walkStrings amInsertAll
  rw [List.map_map, List.foldl_map]
  refine List.foldl_hom (fun e => { s with strings := amInsert l e m }) fun e x => ?_
  simp only [fileInfoVisitor, hs, amLookup_insert, if_true, amInsert_insert, Function.comp]

theorem stringsMap_append (a b : List PTable) (m : List (Language × List (Str × Str))) :
    stringsMap (a ++ b) m = stringsMap b (stringsMap a m) := by
  unfold stringsMap; rw [List.filterMap_append, amInsertAll_append]

/-- `FileInfo.lang` is the visitor's scratch field (the table being visited); it is not part of the answer, hence `∃ lang` -/
theorem walkTables_fileInfo (ts : List PTable) (s : FileInfo) :
    ∃ lang, ts.foldl (walkTable fileInfoVisitor) s = { s with strings := stringsMap ts s.strings, lang := lang } := by
  induction ts generalizing s with
  | nil => exact ⟨s.lang, rfl⟩
  | cons t l ih =>
    rw [List.foldl_cons]
    have h1 : ∃ lang, walkTable fileInfoVisitor s t = { s with strings := stringsMap [t] s.strings, lang := lang } := by
      simp only [walkTable, stringsMap, PTable.lang, List.filterMap_cons, List.filterMap_nil]
      cases hl : Language.parse t.node.key.ws with
      | none => exact ⟨s.lang, by simp [fileInfoVisitor, hl, amInsertAll_nil]⟩
      | some lg =>
        refine ⟨lg, ?_⟩
        simp only [fileInfoVisitor, hl, Visitor.default]
        have := walkStrings_fileInfo lg t.strings [] { s with lang := lg } rfl s.strings
        simp only [fileInfoVisitor, Visitor.default] at this
        rw [this]
        rfl
    obtain ⟨lg, h1⟩ := h1
    obtain ⟨lg2, h2⟩ := ih (walkTable fileInfoVisitor s t)
    exact ⟨lg2, by rw [h2, h1, show t :: l = [t] ++ l from rfl, stringsMap_append]⟩

def lastTranslation (vs : List Tlv) (s : Option Sl) : Option Sl :=
  vs.foldl (fun s v => if v.key.ws = strTranslation then some v.value else s) s

theorem lastTranslation_eq (vs : List Tlv) (s : Option Sl) :
    lastTranslation vs s = match (vs.filter fun x => x.key.ws = strTranslation).getLast? with
      | some x => some x.value
      | none => s := by
  unfold lastTranslation
  rw [foldl_ite_last (fun x : Tlv => x.key.ws = strTranslation) (·.value)]
  cases (vs.filter _).getLast? <;> rfl

theorem walkInfos_fileInfo (is : List PInfo) (s : FileInfo) :
    ∃ lang, is.foldl (walkInfo fileInfoVisitor) s =
      { s with strings := stringsMap (is.flatMap PInfo.tables) s.strings,
               langs := lastTranslation (is.flatMap PInfo.vars) s.langs, lang := lang } := by
  induction is generalizing s with
  | nil => exact ⟨s.lang, rfl⟩
  | cons i l ih =>
    rw [List.foldl_cons]
    have h1 : ∃ lang, walkInfo fileInfoVisitor s i =
        { s with strings := stringsMap i.tables s.strings, langs := lastTranslation i.vars s.langs, lang := lang } := by
      simp only [walkInfo, walkKind, PInfo.tables, PInfo.vars]
      cases i.kind with
      | tables ts =>
        obtain ⟨lg, h⟩ := walkTables_fileInfo ts s
        refine ⟨lg, ?_⟩
        simp only [fileInfoVisitor, Visitor.default] at h ⊢
        rw [h]; rfl
      | vars vs =>
        refine ⟨s.lang, ?_⟩
        simp only [fileInfoVisitor, Visitor.default, walkVars, lastTranslation, stringsMap]
        refine List.foldl_hom (fun l => { s with langs := l }) fun l v => ?_
        split <;> rfl
      | other => exact ⟨s.lang, rfl⟩
    obtain ⟨lg, h1⟩ := h1
    obtain ⟨lg2, h2⟩ := ih (walkInfo fileInfoVisitor s i)
    refine ⟨lg2, ?_⟩
    rw [h2, h1]
    simp only [List.flatMap_cons, stringsMap_append, lastTranslation, List.foldl_append]

theorem fileInfo_eq (w : Sl) (hw : w.Al) :
    ∃ fi, fileInfo w = .ok fi ∧
      match pRoots w with
      | [] => fi.fixed = none ∧ fi.strings = [] ∧ fi.langs = none
      | r :: _ => fi.fixed = fixedSl r.node.value ∧ fi.strings = stringsMap r.tables [] ∧
          fi.langs = lastTranslation r.vars none := by
  unfold fileInfo
  rw [visit_eq_walk _ w hw]
  refine ⟨_, rfl, ?_⟩
  cases pRoots w with
  | nil => exact ⟨rfl, rfl, rfl⟩
  | cons r rs =>
    simp only [walkRoots, walkRoot]
    obtain ⟨lg, h⟩ := walkInfos_fileInfo r.infos
      (fileInfoVisitor.enterScope (fileInfoVisitor.versionInfo {} r.node.key (fixedSl r.node.value)).1 0)
    simp only [fileInfoVisitor, Visitor.default] at h ⊢
    rw [h]
    exact ⟨rfl, rfl, rfl⟩

/-! ### fixed(), translation(), source_code() -/

theorem walkInfos_queryFixed (is : List PInfo) (s : Option Sl) : is.foldl (walkInfo queryFixed) s = s := by
  induction is generalizing s with
  | nil => rfl
  | cons i l ih => rw [List.foldl_cons]; simpa [walkInfo, queryFixed, Visitor.default] using ih s

theorem fixed_eq (w : Sl) (hw : w.Al) :
    fixed w = .ok (match pRoots w with | [] => none | r :: _ => fixedSl r.node.value) := by
  unfold fixed
  rw [visit_eq_walk _ w hw]
  cases pRoots w with
  | nil => rfl
  | cons r rs =>
    simp only [walkRoots, walkRoot]
    have := walkInfos_queryFixed r.infos (fixedSl r.node.value)
    simp only [queryFixed, Visitor.default] at this ⊢
    rw [this]

theorem walkInfos_queryTranslation (fis : List Tlv) (s : Option Sl) :
    (fis.map pInfo).foldl (walkInfo queryTranslation) s = lastTranslation ((fis.map pInfo).flatMap PInfo.vars) s := by
  unfold lastTranslation
  rw [List.foldl_flatMap, List.foldl_map, List.foldl_map]
  congr 1; funext s fi
  have hne : strStringFileInfo ≠ strVarFileInfo := by decide
  rcases pInfo_spec fi with ⟨hk, hi⟩ | ⟨hk, hi⟩ | ⟨-, hk, hi⟩ <;> rw [hi] <;>
    simp [walkInfo, queryTranslation, Visitor.default, walkKind, PInfo.vars, hk, hne, walkVars]

theorem translation_eq (w : Sl) (hw : w.Al) :
    translation w = .ok (match pRoots w with | [] => none | r :: _ => lastTranslation r.vars none) := by
  unfold translation
  rw [visit_eq_walk _ w hw]
  unfold pRoots
  cases items .bytes w with
  | nil => rfl
  | cons vi l =>
    simp only [List.map_cons, walkRoots, walkRoot]
    have := walkInfos_queryTranslation (items .zero vi.children) none
    simp only [queryTranslation, Visitor.default] at this ⊢
    exact congrArg Out.ok this

theorem sourceCode_eq (w : Sl) (hw : w.Al) :
    sourceCode w = .ok ((flatRoots (pRoots w)).flatMap renderEvent) := by
  unfold sourceCode
  rw [visit_eq_replay sourceVisitor (fun _ _ _ => rfl) w hw,
    replay_append sourceVisitor renderEvent fun s e => by cases e <;> rfl]
  simp

/-! ### what the events say about the tree -/

def stringKeys (es : List Event) : List (List Nat) :=
  es.filterMap fun | .string k _ => some k.ws | _ => none

def tableLangs (es : List Event) : List Language :=
  es.filterMap fun | .stringTable k => Language.parse k.ws | _ => none

theorem filterMap_if {α β} (p : α → Prop) [DecidablePred p] (f : α → β) (l : List α) :
    l.filterMap (fun x => if p x then some (f x) else none) = (l.filter fun x => p x).map f := by
  induction l with
  | nil => rfl
  | cons a l ih => by_cases h : p a <;> simp [h, ih]

theorem stringKeys_flatRoot (r : PRoot) :
    stringKeys (flatRoot r) = r.tables.flatMap (fun t => t.kvs.map (·.1.ws)) := by
  unfold stringKeys flatRoot PRoot.tables
  simp only [List.cons_append, List.nil_append, List.filterMap_cons, List.filterMap_append, List.filterMap_nil,
    List.append_nil, List.filterMap_flatMap, List.flatMap_assoc]
  congr 1; funext i
  unfold flatInfo PInfo.tables
  cases i.kind <;>
    simp [flatKind, List.filterMap_flatMap, flatTable, flatStrings, PTable.kvs, List.filterMap_map, Function.comp_def,
      List.filterMap_append]

theorem tableLangs_flatRoot (r : PRoot) : tableLangs (flatRoot r) = r.tables.filterMap PTable.lang := by
  unfold tableLangs flatRoot PRoot.tables
  simp only [List.cons_append, List.nil_append, List.filterMap_cons, List.filterMap_append, List.filterMap_nil,
    List.append_nil, List.filterMap_flatMap]
  congr 1; funext i
  unfold flatInfo PInfo.tables
  cases i.kind with
  | tables ts =>
    simp only [flatKind]
    induction ts with
    | nil => rfl
    | cons t ts ih =>
      cases h : Language.parse t.node.key.ws <;>
        simp_all [flatTable, flatStrings, PTable.lang, List.filterMap_map, Function.comp_def, List.filterMap_append]
  | _ => simp [flatKind, List.filterMap_map, Function.comp_def]

theorem kvsOf_valid {r : PRoot} (hv : ∀ k ∈ stringKeys (flatRoot r), validUtf16 k = true) (lang : Language) :
    ∀ kv ∈ r.kvsOf lang, validUtf16 kv.1.ws = true := by
  intro kv hkv
  simp only [PRoot.kvsOf, List.mem_flatMap, List.mem_filter] at hkv
  obtain ⟨t, ⟨ht, _⟩, hkv⟩ := hkv
  exact hv _ (stringKeys_flatRoot r ▸ List.mem_flatMap.mpr ⟨t, ht, List.mem_map.mpr ⟨kv, hkv, rfl⟩⟩)

/-! ### agreement of the queries -/

theorem filter_le_one_of_nodup {α β} [DecidableEq β] (f : α → Option β) (b : β) (l : List α)
    (h : (l.filterMap f).Nodup) : (l.filter fun x => f x = some b) = [] ∨ ∃ x, (l.filter fun x => f x = some b) = [x] := by
  -- `b` occurs at most once in the duplicate-free `filterMap`, and its occurrences are counted by the filter
  have hc := List.nodup_iff_count.1 h b
  rw [List.count_filterMap, List.countP_eq_length_filter,
    show (fun a => f a == some b) = fun x => decide (f x = some b) from funext fun _ => Bool.eq_iff_iff.2 (by simp)] at hc
  match l.filter (fun x => f x = some b), hc with
  | [], _ => exact Or.inl rfl
  | [x], _ => exact Or.inr ⟨x, rfl⟩

theorem entries_lookup (t : PTable) (key : Str) :
    amLookup key t.entries = ((t.kvs.filter fun kv => lossy kv.1.ws = key).getLast?).map (fun kv => lossy kv.2.ws) := by
  unfold PTable.entries
  rw [amLookup_insertAll, List.filter_map, List.getLast?_map, Option.map_map]
  exact Option.or_none

theorem pick_valid (key : Str) (kvs : List (Sl × Sl)) (hv : ∀ kv ∈ kvs, validUtf16 kv.1.ws = true) :
    pick key none kvs = ((kvs.filter fun kv => lossy kv.1.ws = key).getLast?).map (fun kv => lossy kv.2.ws) := by
  rw [pick_eq_last]
  have : (kvs.filter fun kv => key.map Dec.ok = decode16 kv.1.ws) = (kvs.filter fun kv => lossy kv.1.ws = key) := by
    apply List.filter_congr
    intro kv hkv
    have := keyMatch_iff (hv kv hkv) key
    by_cases h : lossy kv.1.ws = key
    · simp [h, this.mpr h]
    · have h' : ¬ (key.map Dec.ok = decode16 kv.1.ws) := fun h'' => h (this.mp h'')
      simp [h, h']
  rw [this]
  cases (List.filter (fun kv => decide (lossy kv.fst.ws = key)) kvs).getLast? <;> rfl

theorem value_strings_agree_tree (r : PRoot) (lang : Language) (key : Str)
    (hv : ∀ k ∈ stringKeys (flatRoot r), validUtf16 k = true) :
    pick key none (r.kvsOf lang)
      = ((((r.kvsOf lang).map (fun kv => (lossy kv.1.ws, lossy kv.2.ws))).filter (fun p => p.1 = key)).getLast?).map (·.2) := by
  rw [pick_valid key _ (kvsOf_valid hv lang), List.filter_map, List.getLast?_map, Option.map_map]
  rfl

theorem stringsMap_lookup (ts : List PTable) (lang : Language) :
    amLookup lang (stringsMap ts []) = ((ts.filter fun t => t.lang = some lang).getLast?).map PTable.entries := by
  have h : (ts.filterMap fun t => t.lang.map fun l => (l, t.entries)).filter (fun p => p.1 = lang)
      = (ts.filter fun t => t.lang = some lang).map fun t => (lang, t.entries) := by
    induction ts with
    | nil => rfl
    | cons t ts ih => cases hl : t.lang <;> simp [List.filter_cons, hl, ih]; split <;> simp_all
  unfold stringsMap
  rw [amLookup_insertAll, h, List.getLast?_map, Option.map_map]
  exact Option.or_none

theorem fileInfo_value_agree_tree (r : PRoot) (lang : Language) (key : Str)
    (hv : ∀ k ∈ stringKeys (flatRoot r), validUtf16 k = true) (hn : (tableLangs (flatRoot r)).Nodup) :
    (amLookup lang (stringsMap r.tables [])).bind (amLookup key) = pick key none (r.kvsOf lang) := by
  rw [stringsMap_lookup]
  rw [tableLangs_flatRoot] at hn
  rw [pick_valid key _ (kvsOf_valid hv lang)]
  unfold PRoot.kvsOf
  rcases filter_le_one_of_nodup PTable.lang lang r.tables hn with h | ⟨t, h⟩
  · rw [h]; rfl
  · rw [h]
    simp only [List.getLast?_singleton, Option.map_some, Option.bind_some, List.flatMap_cons, List.flatMap_nil,
      List.append_nil]
    exact entries_lookup t key

end Pelite.Version
