import PeliteModel.Lemmas.ResRep
/-!
C12: `fsck`.  On arbitrary bytes: one walk (`Twin`) gives that it never panics or reads outside and that an instrumented
twin computes the same result within `(len / 16) * (len / 8)` entries, and that a success has built a tree.  On a
represented tree it answers exactly by the depth limit and the visit budget (`fsckDir_exact`); together `fsck_ok_iff`.
-/
namespace Pelite.Resources
open Pelite

theorem dataFsck_ok {r : Resources} {de : DataEntry} {u : Unit} (h : de.fsck r = .ok u) : ∃ ref, de.bytes r = .ok ref := by
  unfold DataEntry.fsck at h
  cases hb : de.bytes r with
  | ok ref => exact ⟨ref, rfl⟩
  | _ => rw [hb] at h; cases h

theorem dataFsck_of_bytes {r : Resources} {de : DataEntry} {ref : Ref} (h : de.bytes r = .ok ref) : de.fsck r = .ok () := by
  unfold DataEntry.fsck; rw [h]

/-! ### an instrumented twin

`fsckEntriesW` / `fsckDirW` follow `fsckEntries` / `fsckDir` branch for branch and additionally return
the budget left (also when the check fails) and the number of directory entries examined. -/

def fsckEntriesW (rec : Dir → Nat → Out Nat × Nat × Nat) (r : Resources) : List DirEntry → Nat → Out Nat × Nat × Nat
  | [], b => (.ok b, b, 0)
  | e :: rest, b =>
    match e.getName r with
    | .ok _ =>
      match e.entry r with
      | .ok (.dir d) =>
        match rec d b with
        | (.ok b', _, w1) =>
          match fsckEntriesW rec r rest b' with
          | (o, b2, w2) => (o, b2, 1 + w1 + w2)
        | (o, b1, w1) => (o, b1, 1 + w1)
      | .ok (.data de) =>
        match de.fsck r with
        | .ok _ =>
          match fsckEntriesW rec r rest b with
          | (o, b2, w2) => (o, b2, 1 + w2)
        | .err e => (.err e, b, 1)
        | .panic s => (.panic s, b, 1)
        | .ub s => (.ub s, b, 1)
        | .diverge => (.diverge, b, 1)
      | .err e => (.err e, b, 1)
      | .panic s => (.panic s, b, 1)
      | .ub s => (.ub s, b, 1)
      | .diverge => (.diverge, b, 1)
    | .err e => (.err e, b, 1)
    | .panic s => (.panic s, b, 1)
    | .ub s => (.ub s, b, 1)
    | .diverge => (.diverge, b, 1)

def fsckDirW (r : Resources) : Nat → Dir → Nat → Out Nat × Nat × Nat
  | 0, _, b => (.err .insanity, b, 0)
  | k+1, d, b =>
    if b = 0 then (.err .insanity, b, 0)
    else
      match d.entries r with
      | .ok es => fsckEntriesW (fsckDirW r k) r es (b - 1)
      | .err e => (.err e, b - 1, 0)
      | .panic s => (.panic s, b - 1, 0)
      | .ub s => (.ub s, b - 1, 0)
      | .diverge => (.diverge, b - 1, 0)

/-- `w` is what the instrumented function answers where the model answers `o` from budget `b`: the same result, the
budget left (exactly the model's when that is `ok`), and the work within `Spent`; `T` is what a success establishes -/
def Twin (o : Out Nat) (w : Out Nat × Nat × Nat) (b n M : Nat) (T : Prop) : Prop :=
  Safe o ∧ ∃ left work, w = (o, left, work) ∧ (∀ b', o = .ok b' → left = b' ∧ T) ∧ Spent b left work n M

/-- the entry whose examination fails is the one counted (`n + 1`) -/
theorem Twin.err (e : Err) (b n M : Nat) (T : Prop) : Twin (.err e) (.err e, b, 1) b (n + 1) M T :=
  ⟨trivial, b, 1, rfl, (fun _ h => by cases h), (Spent.refl b 0 M).step (.refl ..)⟩

theorem fsckEntriesW_twin {r : Resources} (hb : Aligned r) (rec : Dir → Nat → Out Nat)
    (recW : Dir → Nat → Out Nat × Nat × Nat) (M : Nat)
    (hrec : ∀ d b, DirOK r d → Twin (rec d b) (recW d b) b 0 M (∃ es, RepDir r d (.dir d.named es))) :
    ∀ (l : List DirEntry) (b : Nat),
      Twin (fsckEntries rec r l b) (fsckEntriesW recW r l b) b l.length M (∃ es, EntriesRep r (Rep r) l es)
  | [], b => ⟨trivial, b, 0, rfl, fun _ h => by cases h; exact ⟨rfl, .nil, .nil⟩, .refl ..⟩
  | e :: rest, b => by
    unfold fsckEntriesW fsckEntries
    rcases (safe_getName hb e).ok_or_err with ⟨nm, hn⟩ | ⟨er, hn⟩ <;> rw [hn]
    · dsimp only
      have hname := (getName_ok hb hn).1
      rcases (safe_entry hb e).ok_or_err with ⟨en, he⟩ | ⟨er, he⟩ <;> rw [he]
      · cases en with
        | dir d =>
          dsimp only
          obtain ⟨hs, b1, w1, hq, h2, h3⟩ := hrec d b (entry_dir_ok hb he).1
          rw [hq]
          rcases hs.ok_or_err with ⟨b', ho⟩ | ⟨er, ho⟩ <;> rw [ho] at h2 ⊢
          · obtain ⟨rfl, ces, hces⟩ := h2 b' rfl
            obtain ⟨is, b2, w2, hq2, i2, i3⟩ := fsckEntriesW_twin hb rec recW M hrec rest b1
            dsimp only
            rw [hq2]
            exact ⟨is, b2, _, rfl, fun b' h => (i2 b' h).imp_right fun ⟨_, hr⟩ => ⟨_, .cons hname he hces hr⟩, h3.step i3⟩
          · exact ⟨trivial, b1, _, rfl, (fun _ h => by cases h), h3.step (.refl ..)⟩
        | data de =>
          dsimp only
          rcases (safe_dataFsck r de).ok_or_err with ⟨u, hf⟩ | ⟨er, hf⟩ <;> rw [hf]
          · obtain ⟨ref, hbytes⟩ := dataFsck_ok hf
            have hde := data_ok hb (entry_data_ok he).2 hbytes
            obtain ⟨is, b2, w2, hq2, i2, i3⟩ := fsckEntriesW_twin hb rec recW M hrec rest b
            dsimp only
            rw [hq2]
            exact ⟨is, b2, _, rfl, fun b' h => (i2 b' h).imp_right fun ⟨_, hr⟩ => ⟨_, .cons hname he hde hr⟩,
              (Spent.refl ..).step i3⟩
          · exact .err er b _ M _
      · exact .err er b _ M _
    · exact .err er b _ M _

theorem fsckDirW_twin {r : Resources} (hb : Aligned r) : ∀ (k : Nat) (d : Dir) (b : Nat), DirOK r d →
    Twin (fsckDir r k d b) (fsckDirW r k d b) b 0 (r.sec.size / 8) (∃ es, RepDir r d (.dir d.named es))
  | 0, _, b, _ => ⟨trivial, b, 0, rfl, (fun _ h => by cases h), .refl ..⟩
  | k+1, d, b, hd => by
    unfold fsckDirW fsckDir
    by_cases hb0 : b = 0
    · rw [if_pos hb0, if_pos hb0]; exact ⟨trivial, b, 0, rfl, (fun _ h => by cases h), .refl ..⟩
    · rw [if_neg hb0, if_neg hb0, entries_eq hb hd]
      dsimp only
      obtain ⟨hs, b1, w1, hq, h2, h3⟩ := fsckEntriesW_twin hb _ _ (r.sec.size / 8) (fsckDirW_twin hb k) (entriesFrom r (d.off + 16) (d.named + d.ids)) (b - 1)
      rw [entriesFrom_length] at h3
      exact ⟨hs, b1, w1, hq, fun b' h => (h2 b' h).imp_right fun ⟨_, hr⟩ => ⟨_, .of_entries hb hd hr⟩,
        h3.dir hb0 (dirOK_count hd)⟩

theorem safe_fsckDir {r : Resources} (hb : Aligned r) (k : Nat) (d : Dir) (b : Nat) (hd : DirOK r d) :
    Safe (fsckDir r k d b) := (fsckDirW_twin hb k d b hd).1

theorem safe_unitOf {o : Out Nat} (h : Safe o) : Safe (unitOf o) := by
  cases o <;> simp_all [unitOf]

theorem safe_fsck {r : Resources} (hb : Aligned r) : Safe (fsck r) := by
  unfold fsck Dir.fsck
  have h := safe_root hb
  cases hr : root r with
  | ok d => exact safe_unitOf (safe_fsckDir hb _ d _ (root_ok hb hr))
  | _ => simp_all

theorem safe_dirFsck {r : Resources} (hb : Aligned r) {d : Dir} (hd : DirOK r d) : Safe (d.fsck r) :=
  safe_unitOf (safe_fsckDir hb _ d _ hd)

theorem safe_entryFsck {r : Resources} (hb : Aligned r) (e : DirEntry) : Safe (e.fsck r) :=
  safe_unitOf (fsckEntriesW_twin hb _ _ _ (fsckDirW_twin hb _) _ _).1

mutual
theorem fsckDir_exact {r : Resources} (hb : Aligned r) : ∀ (t : Node) (k : Nat) (d : Dir) (b : Nat), RepDir r d t →
    fsckDir r k d b = if t.depth ≤ k ∧ t.dirCount ≤ b then .ok (b - t.dirCount) else .err .insanity
  | .data .., _, _, _, h => h.elim
  | .dir n es, 0, d, b, _ => by rw [fsckDir, if_neg (by simp [Node.depth])]
  | .dir n es, k+1, d, b, hd => by
    obtain ⟨l, hl, hrep⟩ := hd.entries hb
    rw [fsckDir, show (Node.dir n es).depth = es.depth + 1 from rfl, show (Node.dir n es).dirCount = es.dirCount + 1 from rfl]
    by_cases hb0 : b = 0
    · rw [if_pos hb0, if_neg (by omega)]
    · rw [if_neg hb0, hl]
      dsimp only
      rw [fsckEntries_exact hb es k l hrep]
      by_cases c : es.depth ≤ k ∧ es.dirCount ≤ b - 1
      · rw [if_pos c, if_pos (by omega)]; congr 1; omega
      · rw [if_neg c, if_neg (by omega)]
theorem fsckEntries_exact {r : Resources} (hb : Aligned r) : ∀ (es : Entries) (k : Nat) (l : List DirEntry),
    EntriesRep r (Rep r) l es → ∀ b, fsckEntries (fsckDir r k) r l b =
      if es.depth ≤ k ∧ es.dirCount ≤ b then .ok (b - es.dirCount) else .err .insanity
  | .nil, k, _, .nil, b => by simp [fsckEntries, Entries.depth, Entries.dirCount]
  | .cons nm ch rest, k, _, .cons hname hentry hrep hrest, b => by
    have ih := fsckEntries_exact hb rest k _ hrest
    rw [fsckEntries, getName_of_nameAt hb hname, hentry, show (Entries.cons nm ch rest).depth = max ch.depth rest.depth from rfl,
      show (Entries.cons nm ch rest).dirCount = ch.dirCount + rest.dirCount from rfl]
    cases ch with
    | dir n ces =>
      obtain ⟨d, rfl, hd⟩ := hrep.dir_inv
      dsimp only
      rw [fsckDir_exact hb (.dir n ces) k d b hd]
      by_cases c : (Node.dir n ces).depth ≤ k ∧ (Node.dir n ces).dirCount ≤ b
      · rw [if_pos c]
        dsimp only
        rw [ih]
        by_cases c2 : rest.depth ≤ k ∧ rest.dirCount ≤ b - (Node.dir n ces).dirCount
        · rw [if_pos c2, if_pos (by omega)]; congr 1; omega
        · rw [if_neg c2, if_neg (by omega)]
      · rw [if_neg c, if_neg (by omega)]
    | data c cp =>
      obtain ⟨de, ref, rfl, hbytes, -, -⟩ := hrep.data_inv hb
      dsimp only
      rw [dataFsck_of_bytes hbytes]
      dsimp only
      rw [ih, show (Node.data c cp).depth = 0 from rfl, show (Node.data c cp).dirCount = 0 from rfl, Nat.zero_max, Nat.zero_add]
end

theorem fsck_on_tree {r : Resources} (hb : Aligned r) {t : Node} (h : IsTree r t) :
    fsck r = if t.depth ≤ 32 ∧ t.dirCount ≤ r.sec.size / 16 then .ok () else .err .insanity := by
  obtain ⟨d, hr, hrep⟩ := root_rep hb h
  rw [fsck, hr]
  dsimp only
  rw [Dir.fsck, fsckDir_exact hb t _ d _ hrep, FSCK_MAX_DEPTH, fsckBudget]
  by_cases c : t.depth ≤ 32 ∧ t.dirCount ≤ r.sec.size / 16
  · rw [if_pos c, if_pos c]; rfl
  · rw [if_neg c, if_neg c]; rfl

theorem unitOf_ok_iff {o : Out Nat} : unitOf o = .ok () ↔ ∃ b, o = .ok b := by
  cases o <;> simp [unitOf]

/-- A success has built a tree (the walk), and on a tree the answer is exact: the limits were met. -/
theorem fsckDir_ok_iff {r : Resources} (hb : Aligned r) {d : Dir} (hd : DirOK r d) {k b b' : Nat} :
    fsckDir r k d b = .ok b' ↔ ∃ t : Node, RepDir r d t ∧ (t.depth ≤ k ∧ t.dirCount ≤ b) ∧ b' = b - t.dirCount := by
  constructor
  · intro h
    obtain ⟨_, _, _, _, hT, _⟩ := fsckDirW_twin hb k d b hd
    obtain ⟨es, hes⟩ := (hT b' h).2
    rw [fsckDir_exact hb _ k d b hes] at h
    split at h <;> cases h
    exact ⟨_, hes, ‹_›, rfl⟩
  · rintro ⟨t, ht, c, rfl⟩
    rw [fsckDir_exact hb t k d b ht, if_pos c]

theorem fsck_ok_iff {r : Resources} (hb : Aligned r) :
    fsck r = .ok () ↔ ∃ t : Node, IsTree r t ∧ t.depth ≤ 32 ∧ t.dirCount ≤ r.sec.size / 16 := by
  constructor
  · intro h
    unfold fsck at h
    cases hr : root r with
    | ok d =>
      rw [hr] at h
      obtain ⟨hd, hd2⟩ := dirTryFrom_ok hb hr
      obtain ⟨_, h⟩ := unitOf_ok_iff.1 h
      obtain ⟨t, h1, h2, _⟩ := (fsckDir_ok_iff hb hd).1 h
      cases t with
      | data c cp => exact h1.elim
      | dir n es => exact ⟨_, ⟨rfl, by have := h1.2; rwa [show d.off = 0 by rw [hd2]] at this⟩, h2⟩
    | _ => rw [hr] at h; cases h
  · rintro ⟨t, ht, hlim⟩
    rw [fsck_on_tree hb ht, if_pos hlim]

end Pelite.Resources
