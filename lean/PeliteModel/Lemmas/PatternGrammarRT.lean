import PeliteModel.Lemmas.PatternGrammar
/-!
# Reader / renderer round trip: `readPat (render sty p) = some p` for white-space-normal trees

The reference reader turns every maximal white space run into ONE `ws` item, so `render` followed by `readPat`
is the identity only on trees whose white space is normalised: no empty `ws`, no two adjacent `ws` items
(`wsNormal`).  Everything else `WF` already demands (operands in range, quoted text free of `"`, …).
-/
namespace Pelite.PatSem
open Pelite.Pattern

/-! ## The normal form -/

def Item.isWs : Item → Bool
  | .ws _ => true
  | _ => false

def headIsWs : List Item → Bool
  | it :: _ => it.isWs
  | [] => false

mutual
def wsNormItem : Item → Bool
  | .ws s => !s.isEmpty
  | .group _ _ body => wsNormItems body
  | .alt bodies => wsNormAlts bodies
  | _ => true
def wsNormItems : List Item → Bool
  | [] => true
  | it :: r => wsNormItem it && !(it.isWs && headIsWs r) && wsNormItems r
def wsNormAlts : List (List Item) → Bool
  | [] => true
  | b :: bs => wsNormItems b && wsNormAlts bs
end

/-- **white-space-normal tree**: no empty `ws` item and no two adjacent `ws` items, at every nesting level
(the gap of a `group` is unconstrained) -/
def wsNormal (p : Pat) : Bool := wsNormItems p

/-! ## What may follow an item -/

def startOK : List UInt8 → Bool
  | [] => true
  | c :: _ => !isWsByte c && c != 123

/-- behind optional white space no `{` follows (so a jump symbol in front is not read as a group) -/
def GapOK (l : List UInt8) : Prop := ∀ r0, l.dropWhile isWsByte ≠ 123 :: r0

def TailOK (tail : List UInt8) : Prop := tail = [] ∨ ∃ c r, tail = c :: r ∧ (c = 125 ∨ c = 124 ∨ c = 41)

theorem TailOK.startOK {tail : List UInt8} (h : TailOK tail) : startOK tail = true := by
  rcases h with rfl | ⟨c, r, rfl, hc | hc | hc⟩ <;> subst_vars <;> simp [Pelite.PatSem.startOK, isWsByte]

theorem startOK_takeWhile {l : List UInt8} (h : startOK l = true) : l.takeWhile isWsByte = [] := by
  cases l with
  | nil => rfl
  | cons c l => simp [startOK] at h; simp [List.takeWhile, h.1]

theorem startOK_dropWhile {l : List UInt8} (h : startOK l = true) : l.dropWhile isWsByte = l := by
  cases l with
  | nil => rfl
  | cons c l => simp [startOK] at h; simp [List.dropWhile, h.1]

theorem gapOK_of_startOK {l : List UInt8} (h : startOK l = true) : GapOK l := by
  intro r0 e
  rw [startOK_dropWhile h] at e
  subst e
  simp [startOK] at h

/-- `c` passes every test `readSeq` makes before it tries a jump symbol and then a hex digit -/
def NotOp (c : UInt8) : Prop :=
  ¬ (c = 125 ∨ c = 124 ∨ c = 41) ∧ isWsByte c = false ∧ c ≠ 63 ∧ c ≠ 39 ∧ c ≠ 122 ∧ c ≠ 34 ∧ c ≠ 64 ∧
  ¬ (c = 105 ∨ c = 117) ∧ c ≠ 91 ∧ c ≠ 40

instance (c : UInt8) : Decidable (NotOp c) := by unfold NotOp; infer_instance

theorem readSeq_other {c : UInt8} (h : NotOp c) (f : Nat) (cs : List UInt8) : readSeq (f + 1) (c :: cs) =
    match jumpOf c with
    | some j =>
      match cs.dropWhile isWsByte with
      | 123 :: rest =>
        match readSeq f rest with
        | some (body, 125 :: rest') => contR (.group j (cs.takeWhile isWsByte) body) (readSeq f rest')
        | _ => none
      | _ => contR (.jump j) (readSeq f cs)
    | none =>
      match hexVal c, cs with
      | some hi, d :: rest => (hexVal d).bind fun lo => contR (.byte (hi * 16 + lo)) (readSeq f rest)
      | _, _ => none := by
  obtain ⟨h1, h2, h3, h4, h5, h6, h7, h8, h9, h10⟩ := h
  rw [readSeq.eq_def]; dsimp only
  rw [if_neg h1, h2]
  simp only [Bool.false_eq_true, ↓reduceIte, if_neg h3, if_neg h4, if_neg h5, if_neg h6, if_neg h7, if_neg h8, if_neg h9,
    if_neg h10]
  rfl

theorem hexDigit_read : ∀ (up : Bool) (n : Nat), n < 16 →
    NotOp (hexDigit up n) ∧ hexDigit up n ≠ 123 ∧ jumpOf (hexDigit up n) = none := by decide

theorem startOK_renderItem (sty : Style) (d : Nat) : ∀ (it : Item) (rest : List UInt8), it.isWs = false →
    wfItem d it = true → startOK (renderItem sty it ++ rest) = true
  | .ws _, _, h, _ => by simp [Item.isWs] at h
  | .byte b, rest, _, hwf => by
    have hb : b < 256 := by simpa [wfItem] using hwf
    have := hexDigit_read sty.upperHex (b / 16) (by omega)
    simp [renderItem, startOK, this.1.2.1, this.2.1]
  | .jump j, _, _, _ | .group j _ _, _, _, _ => by cases j <;> simp [renderItem, startOK, isWsByte, Jump.chr]
  | .str _, _, _, _ | .any, _, _, _ | .skip _, _, _, _ | .range _ _, _, _, _ | .save, _, _, _ | .aligned _, _, _, _
  | .readI _, _, _, _ | .readU _, _, _, _ | .zero, _, _, _ | .alt _, _, _, _ => by
    simp [renderItem, startOK, isWsByte]

theorem startOK_render (sty : Style) (d : Nat) (items : List Item) (tail : List UInt8)
    (hh : headIsWs items = false) (hwf : wfItems d items = true) (ht : startOK tail = true) :
    startOK (render sty items ++ tail) = true := by
  cases items with
  | nil => simpa [render] using ht
  | cons it r =>
    simp only [wfItems, Bool.and_eq_true] at hwf
    rw [render, List.append_assoc]
    exact startOK_renderItem sty d it _ (by simpa [headIsWs] using hh) hwf.1

theorem gapOK_render (sty : Style) (d : Nat) (items : List Item) (tail : List UInt8)
    (hwf : wfItems d items = true) (hn : wsNormItems items = true) (ht : startOK tail = true) :
    GapOK (render sty items ++ tail) := by
  by_cases hh : headIsWs items = false
  · exact gapOK_of_startOK (startOK_render sty d items tail hh hwf ht)
  · cases items with
    | nil => simp [headIsWs] at hh
    | cons it r =>
      cases it with
      | ws s =>
        simp only [wfItems, wfItem, Bool.and_eq_true] at hwf
        simp only [wsNormItems, Item.isWs, Bool.true_and, Bool.and_eq_true, Bool.not_eq_true'] at hn
        intro r0
        rw [render, renderItem, List.append_assoc, List.dropWhile_append_of_pos (by simpa using hwf.1)]
        exact gapOK_of_startOK (startOK_render sty d r tail hn.1.2 hwf.2 ht) r0
      | _ => simp [headIsWs, Item.isWs] at hh

/-! ## One reader step per item kind -/

theorem rt_stop (f : Nat) (tail : List UInt8) (h : TailOK tail) : readSeq (f + 1) tail = some ([], tail) := by
  rcases h with rfl | ⟨c, r, rfl, hc⟩
  · rw [readSeq.eq_def]
  · rw [readSeq.eq_def]; dsimp only; rw [if_pos hc]

theorem rt_ws (f : Nat) (s rest : List UInt8) (hne : s ≠ []) (hs : s.all isWsByte = true) (hr : startOK rest = true) :
    readSeq (f + 1) (s ++ rest) = contR (.ws s) (readSeq f rest) := by
  have h1 : (s ++ rest).takeWhile isWsByte = s := by
    rw [List.takeWhile_append_of_pos (by simpa using hs), startOK_takeWhile hr]; simp
  have h2 : (s ++ rest).dropWhile isWsByte = rest := by
    rw [List.dropWhile_append_of_pos (by simpa using hs), startOK_dropWhile hr]
  cases s with
  | nil => exact absurd rfl hne
  | cons c s =>
    simp only [List.all_cons, Bool.and_eq_true] at hs
    have hc : ¬ (c = 125 ∨ c = 124 ∨ c = 41) := by
      rcases isWsByte_cases hs.1 with h | h | h | h <;>
        (intro hx; rcases hx with rfl | rfl | rfl <;> simp at h)
    rw [List.cons_append] at h1 h2 ⊢
    rw [readSeq.eq_def]; dsimp only
    rw [if_neg hc, if_pos hs.1, h1, h2]

theorem rt_any (f : Nat) (rest : List UInt8) : readSeq (f + 1) (63 :: rest) = contR .any (readSeq f rest) := by
  rw [readSeq.eq_def]; simp [isWsByte]

theorem rt_save (f : Nat) (rest : List UInt8) : readSeq (f + 1) (39 :: rest) = contR .save (readSeq f rest) := by
  rw [readSeq.eq_def]; simp [isWsByte]

theorem rt_zero (f : Nat) (rest : List UInt8) : readSeq (f + 1) (122 :: rest) = contR .zero (readSeq f rest) := by
  rw [readSeq.eq_def]; simp [isWsByte]

theorem rt_str (f : Nat) (bs rest : List UInt8) (h : bs.all (· ≠ 34) = true) :
    readSeq (f + 1) (34 :: (bs ++ 34 :: rest)) = contR (.str bs) (readSeq f rest) := by
  have h1 : (bs ++ 34 :: rest).takeWhile (· ≠ 34) = bs := by
    rw [List.takeWhile_append_of_pos (by simpa using h)]; simp
  have h2 : (bs ++ 34 :: rest).dropWhile (· ≠ 34) = 34 :: rest := by
    rw [List.dropWhile_append_of_pos (by simpa using h)]; simp
  rw [readSeq.eq_def]; dsimp only; rw [h1, h2]; simp [isWsByte]

theorem rt_byte (f : Nat) (up : Bool) (b : Nat) (hb : b < 256) (rest : List UInt8) :
    readSeq (f + 1) (hexDigit up (b / 16) :: hexDigit up (b % 16) :: rest) = contR (.byte b) (readSeq f rest) := by
  obtain ⟨h, _, hj⟩ := hexDigit_read up (b / 16) (by omega)
  rw [readSeq_other h, hj]
  simp only [hexVal_hexDigit up (b / 16) (by omega), hexVal_hexDigit up (b % 16) (by omega), Option.bind_some]
  rw [show b / 16 * 16 + b % 16 = b by omega]

theorem rt_aligned (f : Nat) (sty : Style) (n : Nat) (hn : n < 36) (rest : List UInt8) :
    readSeq (f + 1) (64 :: alignChr sty n :: rest) = contR (.aligned n) (readSeq f rest) := by
  rw [readSeq.eq_def]; simp [isWsByte, alignChr_read sty.upperHex sty.upperAlign n hn]

theorem rt_readI (f : Nat) (w : Nat) (hw : w = 1 ∨ w = 2 ∨ w = 4) (rest : List UInt8) :
    readSeq (f + 1) (105 :: (48 + w).toUInt8 :: rest) = contR (.readI w) (readSeq f rest) := by
  rcases hw with rfl | rfl | rfl <;> (rw [readSeq.eq_def]; simp [isWsByte])

theorem rt_readU (f : Nat) (w : Nat) (hw : w = 1 ∨ w = 2 ∨ w = 4) (rest : List UInt8) :
    readSeq (f + 1) (117 :: (48 + w).toUInt8 :: rest) = contR (.readU w) (readSeq f rest) := by
  rcases hw with rfl | rfl | rfl <;> (rw [readSeq.eq_def]; simp [isWsByte])

theorem rt_skip (f : Nat) (n : Nat) (hn : n < 16384) (rest : List UInt8) :
    readSeq (f + 1) (91 :: (dec n ++ 93 :: rest)) = contR (.skip n) (readSeq f rest) := by
  rw [readSeq.eq_def]; dsimp only
  rw [readDec_dec n hn 93 (Or.inr rfl)]
  simp [isWsByte]

theorem rt_range (f : Nat) (a b : Nat) (ha : a < 16384) (hb : b < 16384) (rest : List UInt8) :
    readSeq (f + 1) (91 :: (dec a ++ 45 :: (dec b ++ 93 :: rest))) = contR (.range a b) (readSeq f rest) := by
  rw [readSeq.eq_def]; dsimp only
  rw [readDec_dec a ha 45 (Or.inl rfl)]
  simp [isWsByte, readDec_dec b hb 93 (Or.inr rfl)]

theorem jump_read : ∀ j : Jump, NotOp j.chr ∧ jumpOf j.chr = some j := by
  intro j; cases j <;> decide

theorem rt_jump (f : Nat) (j : Jump) (rest : List UInt8) (hg : GapOK rest) :
    readSeq (f + 1) (j.chr :: rest) = contR (.jump j) (readSeq f rest) := by
  rw [readSeq_other (jump_read j).1, (jump_read j).2]
  dsimp only
  split
  · next r0 hd => exact absurd hd (hg r0)
  · rfl

theorem rt_group (f : Nat) (j : Jump) (gap : List UInt8) (body : List Item) (inner rest : List UInt8)
    (hgap : gap.all isWsByte = true) (hb : readSeq f inner = some (body, 125 :: rest)) :
    readSeq (f + 1) (j.chr :: (gap ++ 123 :: inner)) = contR (.group j gap body) (readSeq f rest) := by
  have e1 : (gap ++ 123 :: inner).takeWhile isWsByte = gap := by
    rw [List.takeWhile_append_of_pos (by simpa using hgap)]; simp [isWsByte]
  have e2 : (gap ++ 123 :: inner).dropWhile isWsByte = 123 :: inner := by
    rw [List.dropWhile_append_of_pos (by simpa using hgap)]; simp [isWsByte]
  rw [readSeq_other (jump_read j).1, (jump_read j).2]
  simp only [e1, e2, hb]

theorem rt_alt (f : Nat) (bodies : List (List Item)) (inner rest : List UInt8)
    (hb : readAlts f inner = some (bodies, rest)) :
    readSeq (f + 1) (40 :: inner) = contR (.alt bodies) (readSeq f rest) := by
  rw [readSeq.eq_def]; dsimp only
  simp [isWsByte, hb]

/-! ## The recursion over the tree -/

theorem wsNorm_cons {it : Item} {r : List Item} (h : wsNormItems (it :: r) = true) :
    wsNormItem it = true ∧ (it.isWs = true → headIsWs r = false) ∧ wsNormItems r = true := by
  simp only [wsNormItems, Bool.and_eq_true, Bool.not_eq_true', Bool.and_eq_false_iff] at h
  refine ⟨h.1.1, ?_, h.2⟩
  intro hi
  rcases h.1.2 with h' | h'
  · rw [hi] at h'; cases h'
  · exact h'

theorem renderItem_length_pos (sty : Style) {it : Item} (h : wsNormItem it = true) :
    1 ≤ (renderItem sty it).length := by
  cases it with
  | ws s => cases s with
    | nil => simp [wsNormItem] at h
    | cons => simp [renderItem]
  | _ => simp [renderItem]

/-- item: one reader step, `rest` being what follows (no white space behind a `ws` item, no `{` behind optional white
space); alternatives up to their `)`; a sequence up to the end of its group -/
theorem rt_all (sty : Style) :
    (∀ (it : Item) (d f : Nat) (rest : List UInt8), wfItem d it = true → wsNormItem it = true →
      (it.isWs = true → startOK rest = true) → GapOK rest → (renderItem sty it).length ≤ f →
      readSeq (f + 1) (renderItem sty it ++ rest) = contR it (readSeq f rest)) ∧
    (∀ (bodies : List (List Item)) (d fuel : Nat) (tail : List UInt8),
      bodies ≠ [] → wfAlts d bodies = true → wsNormAlts bodies = true → (renderAlts sty bodies).length + 2 ≤ fuel →
      readAlts fuel (renderAlts sty bodies ++ 41 :: tail) = some (bodies, tail)) ∧
    (∀ (items : List Item) (d fuel : Nat) (tail : List UInt8),
      wfItems d items = true → wsNormItems items = true → TailOK tail → (render sty items).length + 1 ≤ fuel →
      readSeq fuel (render sty items ++ tail) = some (items, tail)) := by
  -- cases in the order of the equations of `renderItem` (14 items), `render` (2), `renderAlts` (3)
  refine renderItem.mutual_induct _ _ _ ?_ ?_ ?_ ?_ ?_ ?_ ?_ ?_ ?_ ?_ ?_ ?_ ?_ ?_ ?_ ?_ ?_ ?_ ?_
  -- `ws s`: the run is maximal because no white space follows (`hs`)
  · intro s d f rest hwf hn hs _ _
    simpa [renderItem] using rt_ws f s rest (by simpa [wsNormItem] using hn) (by simpa [wfItem] using hwf) (hs rfl)
  -- `byte`
  · intro b d f rest hwf _ _ _ _
    simpa [renderItem] using rt_byte f sty.upperHex b (by simpa [wfItem] using hwf) rest
  -- `str`
  · intro bs d f rest hwf _ _ _ _
    simpa [renderItem] using rt_str f bs rest (by simpa [wfItem] using hwf)
  -- `?`
  · intro d f rest _ _ _ _ _; exact rt_any f rest
  -- `[n]`
  · intro n d f rest hwf _ _ _ _
    simpa [renderItem] using rt_skip f n (by simpa [wfItem] using hwf) rest
  -- `[a-b]`
  · intro a b d f rest hwf _ _ _ _
    have hab : a < b ∧ b < 16384 := by simpa [wfItem] using hwf
    simpa [renderItem] using rt_range f a b (by omega) hab.2 rest
  -- a bare jump symbol: no `{` follows behind white space (`hg`)
  · intro j d f rest _ _ _ hg _; exact rt_jump f j rest hg
  -- `'`
  · intro d f rest _ _ _ _ _; exact rt_save f rest
  -- `@n`
  · intro n d f rest hwf _ _ _ _; exact rt_aligned f sty n (by simpa [wfItem] using hwf) rest
  -- `i?`
  · intro w d f rest hwf _ _ _ _; exact rt_readI f w (by simpa [wfItem, or_assoc] using hwf) rest
  -- `u?`
  · intro w d f rest hwf _ _ _ _; exact rt_readU f w (by simpa [wfItem, or_assoc] using hwf) rest
  -- `z`
  · intro d f rest _ _ _ _ _; exact rt_zero f rest
  -- `j gap { body }`: the body is a sequence that stops at `}`
  · intro j gap body ih d f rest hwf hn _ _ hf
    simp only [wfItem, Bool.and_eq_true, decide_eq_true_eq] at hwf
    have hb := ih (d + 1) f (125 :: rest) hwf.2 hn (Or.inr ⟨125, _, rfl, Or.inl rfl⟩)
      (by simp [renderItem] at hf; omega)
    simpa [renderItem] using rt_group f j gap body _ _ hwf.1.1 hb
  -- `( bodies )`
  · intro bodies ih d f rest hwf hn _ _ hf
    simp only [wfItem, Bool.and_eq_true, Bool.not_eq_true', List.isEmpty_eq_false_iff] at hwf
    have hb := ih d f rest hwf.1 hwf.2 hn (by simp [renderItem] at hf; omega)
    simpa [renderItem] using rt_alt f bodies _ _ hb
  -- `render []`: the reader stops at the tail
  · intro d fuel tail _ _ ht hf
    cases fuel with
    | zero => simp at hf
    | succ f => exact rt_stop f tail ht
  -- `render (it :: r)`: the item's side conditions come from what `r` and `tail` start with
  · intro it r ihi ihr d fuel tail hwf hn ht hf
    obtain ⟨hw1, hw2⟩ := wf_cons hwf
    obtain ⟨hn1, hn2, hn3⟩ := wsNorm_cons hn
    have hpos := renderItem_length_pos sty hn1
    rw [render, List.length_append] at hf
    cases fuel with
    | zero => simp at hf
    | succ f =>
      rw [render, List.append_assoc,
        ihi d f _ hw1 hn1 (fun hi => startOK_render sty d r tail (hn2 hi) hw2 ht.startOK)
          (gapOK_render sty d r tail hw2 hn3 ht.startOK) (by omega),
        ihr d f tail hw2 hn3 ht (by omega)]
      rfl
  -- `renderAlts []`: excluded
  · intro d fuel tail hne; exact absurd rfl hne
  -- `renderAlts [b]`: the last alternative stops at `)`
  · intro b ih d fuel tail _ hwf hn hf
    cases fuel with
    | zero => simp at hf
    | succ f =>
      simp only [wfAlts, Bool.and_true] at hwf
      simp only [wsNormAlts, Bool.and_true] at hn
      simp only [renderAlts] at hf ⊢
      have hb := ih d f (41 :: tail) hwf hn (Or.inr ⟨41, _, rfl, Or.inr (Or.inr rfl)⟩) (by omega)
      rw [readAlts.eq_def]; simp [hb]
  -- `renderAlts (b :: bs)`: `b` stops at `|`
  · intro b bs hne ihb ihbs d fuel tail _ hwf hn hf
    cases fuel with
    | zero => simp at hf
    | succ f =>
      simp only [wfAlts, Bool.and_eq_true] at hwf
      simp only [wsNormAlts, Bool.and_eq_true] at hn
      rw [renderAlts_cons, if_neg hne] at hf ⊢
      simp only [List.length_append, List.length_cons] at hf
      have hb := ihb d f (124 :: (renderAlts sty bs ++ 41 :: tail)) hwf.1 hn.1
        (Or.inr ⟨124, _, rfl, Or.inr (Or.inl rfl)⟩) (by omega)
      have hbs := ihbs d f tail hne hwf.2 hn.2 (by omega)
      rw [List.append_assoc, List.cons_append, readAlts.eq_def]; simp [hb, hbs]

theorem rt_alts (sty : Style) : ∀ (bodies : List (List Item)) (d fuel : Nat) (tail : List UInt8),
    bodies ≠ [] → wfAlts d bodies = true → wsNormAlts bodies = true → (renderAlts sty bodies).length + 2 ≤ fuel →
    readAlts fuel (renderAlts sty bodies ++ 41 :: tail) = some (bodies, tail) :=
  (rt_all sty).2.1

/-- any depth index `d`: only the local conditions of `wfItems` matter -/
theorem readPat_render (sty : Style) (p : Pat) (d : Nat) (hwf : wfItems d p = true) (hn : wsNormal p = true) :
    readPat (render sty p) = some p := by
  have h := (rt_all sty).2.2 p d ((render sty p).length + 1) [] hwf hn (Or.inl rfl) (Nat.le_refl _)
  rw [List.append_nil] at h
  unfold readPat
  rw [h]

theorem readStyled_eq_none_iff {s : List UInt8} {p : Pat} (hr : readPat s = some p) :
    readStyled s = none ↔
      ∀ sty ∈ [(⟨false, false⟩ : Style), ⟨true, true⟩, ⟨false, true⟩, ⟨true, false⟩], render sty p ≠ s := by
  unfold readStyled
  rw [hr]
  simp only [List.findSome?_eq_none_iff, ite_eq_right_iff, reduceCtorEq, imp_false]

end Pelite.PatSem
