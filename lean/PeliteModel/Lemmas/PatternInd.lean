import PeliteModel.Spec.PatternSem
/-!
Induction over pattern trees: item sequences and the alternatives of a `( | )` together (`items_induction`), and
its form with the items other than `[a-b]`, `j{…}`, `(…|…)` as one case (`plain`, `seqInd` / `altsInd`); the reference
compiler `comp` as a fold over the items (`compItem`).
-/
namespace Pelite.PatSem
open Pelite.Pattern Pelite.Exec

section Ind
variable {P : List Item → Prop} {Q : List (List Item) → Prop}
  (nil : P [])
  (cons : ∀ it r, (∀ j gap body, it = .group j gap body → P body) → (∀ bodies, it = .alt bodies → Q bodies) →
    P r → P (it :: r))
  (anil : Q []) (acons : ∀ b bs, P b → Q bs → Q (b :: bs))
include nil cons anil acons
set_option linter.unusedSectionVars false

/-- the recursor of the nested type `Item`, an item's motive being the hypotheses for its sub-patterns -/
theorem items_induction : (∀ items, P items) ∧ (∀ bodies, Q bodies) :=
  have seq : ∀ items, P items :=
    Item.rec_1 (motive_2 := P) (motive_3 := Q)
      (motive_1 := fun it => (∀ j gap body, it = .group j gap body → P body) ∧ (∀ bodies, it = .alt bodies → Q bodies))
      (fun _ => ⟨nofun, nofun⟩) (fun _ => ⟨nofun, nofun⟩) (fun _ => ⟨nofun, nofun⟩) ⟨nofun, nofun⟩
      (fun _ => ⟨nofun, nofun⟩) (fun _ _ => ⟨nofun, nofun⟩) (fun _ => ⟨nofun, nofun⟩) ⟨nofun, nofun⟩
      (fun _ => ⟨nofun, nofun⟩) (fun _ => ⟨nofun, nofun⟩) (fun _ => ⟨nofun, nofun⟩) ⟨nofun, nofun⟩
      (fun _ _ _ ihb => ⟨fun _ _ _ e => by cases e; exact ihb, nofun⟩)
      (fun _ ihb => ⟨nofun, fun _ e => by cases e; exact ihb⟩)
      nil (fun it r ihit ihr => cons it r ihit.1 ihit.2 ihr) anil acons
  ⟨seq, fun bodies => by
    induction bodies with
    | nil => exact anil
    | cons b bs ih => exact acons b bs (seq b) ih⟩

end Ind

/-- items without sub-patterns whose meaning does not depend on what follows -/
def plain : Item → Bool
  | .range _ _ | .group _ _ _ | .alt _ => false
  | _ => true

section SeqInd
variable {P : List Item → Prop} {Q : List (List Item) → Prop}
  (nil : P [])
  (hplain : ∀ it r, plain it = true → P r → P (it :: r))
  (range : ∀ a b r, P r → P (.range a b :: r))
  (group : ∀ j gap body r, P body → P r → P (.group j gap body :: r))
  (alt : ∀ bodies r, Q bodies → P r → P (.alt bodies :: r))
  (anil : Q [])
  (acons : ∀ b bs, P b → Q bs → Q (b :: bs))
include nil hplain range group alt anil acons
set_option linter.unusedSectionVars false

theorem seqInd : ∀ items : List Item, P items := by
  refine (items_induction nil ?_ anil acons).1
  intro it r hg ha ih
  cases it with
  | range a b => exact range a b r ih
  | group j gap body => exact group j gap body r (hg j gap body rfl) ih
  | alt bodies => exact alt bodies r (ha bodies rfl) ih
  | _ => exact hplain _ r rfl ih

theorem altsInd : ∀ bodies : List (List Item), Q bodies
  | [] => anil
  | b :: bs => acons b bs (seqInd nil hplain range group alt anil acons b) (altsInd bs)

theorem seqAltsInd : (∀ items : List Item, P items) ∧ (∀ bodies : List (List Item), Q bodies) :=
  ⟨seqInd nil hplain range group alt anil acons, altsInd nil hplain range group alt anil acons⟩

end SeqInd

/-- the side conditions of the catch-all equations of the functions defined by cases on the first item -/
theorem plain_ne {it : Item} (h : plain it = true) :
    (∀ a b, it ≠ .range a b) ∧ (∀ j gap body, it ≠ .group j gap body) ∧ (∀ bodies, it ≠ .alt bodies) :=
  ⟨fun _ _ e => (by subst e; cases h), fun _ _ _ e => (by subst e; cases h), fun _ e => (by subst e; cases h)⟩

theorem wf_cons {d : Nat} {it : Item} {r : List Item} (h : wfItems d (it :: r) = true) :
    wfItem d it = true ∧ wfItems d r = true := by
  simpa [wfItems] using h

theorem slots_le : (∀ (items : List Item) (k : Nat), k ≤ slotsItems k items) ∧
    (∀ (bodies : List (List Item)) (k : Nat), k ≤ slotsAlts k bodies) := by
  refine items_induction ?_ ?_ ?_ ?_
  · intro k; simp [slotsItems]
  · intro it r hg ha ih k
    simp only [slotsItems]
    refine Nat.le_trans ?_ (ih _)
    cases it with
    | group j gap body => exact hg j gap body rfl k
    | alt bodies => exact ha bodies rfl k
    | _ => simp [slotsItem]
  · intro k; simp [slotsAlts]
  · intro b bs hb _ k
    simp only [slotsAlts]
    exact Nat.le_trans (hb k) (Nat.le_max_left _ _)

theorem slotsItems_le (k : Nat) (items : List Item) : k ≤ slotsItems k items := slots_le.1 items k

theorem slotsAlts_le (k : Nat) (bodies : List (List Item)) : k ≤ slotsAlts k bodies := slots_le.2 bodies k

theorem slotsItem_le (k : Nat) (it : Item) : k ≤ slotsItem k it := by
  cases it with
  | group j gap body => exact slotsItems_le k body
  | alt bodies => exact slotsAlts_le k bodies
  | _ => simp [slotsItem]

/-! ## The compiler item by item -/

/-- `comp` is a left fold over the items: the atoms one item contributes when `pend` is the mergeable `Skip` in
front of it (flushed into these atoms unless it stays pending), and the mergeable `Skip` behind it -/
def compItem (k : Nat) (pend : Option Nat) : Item → List Atom × Option Nat
  | .ws _ => ([], pend)
  | .any =>
    match pend with
    | some n => if n ≠ 0 ∧ n < 255 then ([], some (n + 1)) else ([.skip n], some 1)
    | none => ([], some 1)
  | .skip n => if n = 0 then ([], pend) else (flush pend ++ rangext n, some (n % 256))
  | .range a b =>
    ((if a = 0 then flush pend else flush pend ++ rangext a ++ [.skip (a % 256)])
      ++ rangext (b - a) ++ [.many ((b - a) % 256)], none)
  | .byte b => (flush pend ++ [.byte b], none)
  | .str bs => if bs = [] then ([], pend) else (flush pend ++ bs.map (fun c => Atom.byte c.toNat), none)
  | .jump j => (flush pend ++ [j.atom], none)
  | .save => (flush pend ++ [.save k], none)
  | .aligned n => (flush pend ++ [.aligned n], none)
  | .readI w => (flush pend ++ [readAtom true w k], none)
  | .readU w => (flush pend ++ [readAtom false w k], none)
  | .zero => (flush pend ++ [.zero k], none)
  | .group j _ body => (flush pend ++ .push j.push :: j.atom :: (comp k none body ++ [.pop]), none)
  | .alt bodies => (flush pend ++ compAlts k bodies, none)

def simpleAtom (k : Nat) : Item → Option Atom
  | .byte b => some (.byte b)
  | .jump j => some j.atom
  | .save => some (.save k)
  | .aligned n => some (.aligned n)
  | .readI w => some (readAtom true w k)
  | .readU w => some (readAtom false w k)
  | .zero => some (.zero k)
  | _ => none

theorem compItem_simple {k : Nat} {it : Item} {a : Atom} (h : simpleAtom k it = some a) (pend : Option Nat) :
    compItem k pend it = (flush pend ++ [a], none) := by
  cases it <;> simp only [simpleAtom, Option.some.injEq, reduceCtorEq] at h <;> subst h <;> rfl

theorem comp_cons (k : Nat) (pend : Option Nat) (it : Item) (r : List Item) :
    comp k pend (it :: r) = (compItem k pend it).1 ++ comp (slotsItem k it) (compItem k pend it).2 r := by
  cases it with
  | any =>
    cases pend with
    | none => simp [comp, compItem, slotsItem]
    | some n => simp only [comp, compItem, slotsItem]; split <;> rfl
  | skip n => simp only [comp, compItem, slotsItem]; split <;> simp
  | str bs => simp only [comp, compItem, slotsItem]; split <;> simp
  | _ => simp [comp, compItem, slotsItem]

theorem comp_cons_of {k : Nat} {pend pend' : Option Nat} {it : Item} {hd : List Atom} (h : compItem k pend it = (hd, pend'))
    (r : List Item) : comp k pend (it :: r) = hd ++ comp (slotsItem k it) pend' r := by
  rw [comp_cons, h]

/-! ## The functions on alternatives, on a `cons` (their definitions single out the last alternative) -/

theorem renderAlts_cons (sty : Style) (b : List Item) (bs : List (List Item)) :
    renderAlts sty (b :: bs) = render sty b ++ (if bs = [] then [] else 124 :: renderAlts sty bs) := by
  cases bs <;> simp [renderAlts]

theorem compAlts_cons (k : Nat) (b : List Item) (bs : List (List Item)) :
    compAlts k (b :: bs) = if bs = [] then .nop :: comp k none b
      else .case ((comp k none b).length + 1) :: (comp k none b ++ .brk (compAlts k bs).length :: compAlts k bs) := by
  cases bs <;> simp [compAlts]

theorem offsAlts_cons (k : Nat) (b : List Item) (bs : List (List Item)) :
    offsAlts k (b :: bs) = if bs = [] then offsItems k b
      else offsItems k b && (code k b).length + 1 < 256 && (compAlts k bs).length < 256 && offsAlts k bs := by
  cases bs <;> simp [offsAlts]

end Pelite.PatSem
