import PeliteModel.Model.Typed
import PeliteModel.Model.Ptr
import PeliteModel.Lemmas.PeAddr
/-! `slice` / `read` on every view (`View.at_sound`, `View.at_shape`); the loop of `derva_slice_f` and the NUL search
in closed form as `List.find?` (`sliceFLoopI_eq`, `sliceFLoopI_eq_find`, `findNul_eq`); `leValue`; the typed reads as `at`
followed by a cast or a scan (`…_eq_bind`, `dervaSliceFI_eq`) with their totality and soundness; closed forms for evaluated
examples (`View.at_rva_view` …, `View.dervaSliceS_of_at` …); the image `demo64Img`. -/
namespace Pelite.Pe

theorem at_zero_null (v : View) (a : Addr) (hz : a.isZero = true) (min align : Nat) :
    v.at a min align = .err .null := by
  cases a with
  | rva r =>
    simp [Addr.isZero] at hz; subst hz
    unfold View.at View.slice
    cases v.kind <;> simp [sliceFile, sliceSection]
  | va x =>
    simp [Addr.isZero] at hz; subst hz
    unfold View.at View.read
    cases v.kind <;> simp [readFile, readSection]

theorem View.read_vs_slice (v : View) (r min align : Nat) (h0 : 0 < r) (h1 : r ≤ sizeOfImage v.b) :
    (isPow2 align = true → v.read (v.imageBase + r) min align = v.slice r min align) ∧
    (¬ isPow2 align = true →
      ∃ s1 s2, v.read (v.imageBase + r) min align = .panic s1 ∧ v.slice r min align = .panic s2) := by
  have e : v.imageBase + r - v.imageBase = r := by omega
  have hz : ¬ (v.imageBase + r = 0) := by omega
  have hb : ¬ (v.imageBase + r < v.imageBase ∨ v.imageBase + r - v.imageBase > sizeOfImage v.b) := by omega
  have hr : ¬ (r = 0) := by omega
  cases hk : v.kind
  · rw [View.read_file hk, View.slice_file hk, readFile_eq_tail, sliceFile_eq_tail, if_neg hz, if_neg hb, if_neg hr, e]
    exact ⟨fun hp => by rw [gate_pow2 hp, gate_pow2 hp],
      fun hp => by rw [gate_not_pow2 hp, gate_not_pow2 hp]; exact ⟨_, _, rfl, rfl⟩⟩
  · rw [View.read_view hk, View.slice_view hk, readSection_eq_tail, sliceSection_eq_tail, if_neg hz, if_neg hb, if_neg hr, e]
    exact ⟨fun hp => by rw [gate_pow2 hp, gate_pow2 hp],
      fun hp => by rw [gate_not_pow2 hp, gate_not_pow2 hp]; exact ⟨_, _, rfl, rfl⟩⟩

/-- no hypothesis on the view: the section table is decoded from the buffer, so its fields are `u32` by construction -/
theorem View.at_sound (v : View) (a : Addr) (min align : Nat) (r : Ref) (h : v.at a min align = .ok r) :
    RefOK v.img r ∧ min ≤ r.len ∧ r.align = align := by
  have hs : ∀ s ∈ v.secs, s.InRange := sections_in_range v.b
  cases a with
  | rva x =>
    cases hk : v.kind
    · rw [View.at, View.slice_file hk, sliceFile_eq_tail, ite_err_eq_ok, gate_ok_iff] at h
      exact fileTail_sound hs h.2.2.2
    · rw [View.at, View.slice_view hk] at h
      obtain ⟨-, -, ha, hb, hm, rfl⟩ := (sliceSection_ok_iff ..).1 h
      exact ⟨⟨by simp only; omega, ha⟩, hm, rfl⟩
  | va x =>
    cases hk : v.kind
    · rw [View.at, View.read_file hk, readFile_eq_tail, ite_err_eq_ok, ite_err_eq_ok, gate_ok_iff] at h
      exact fileTail_sound hs h.2.2.2.2
    · rw [View.at, View.read_view hk] at h
      obtain ⟨-, -, -, -, ha, hb, hm, rfl⟩ := (readSection_ok_iff ..).1 h
      exact ⟨⟨by simp only; omega, ha⟩, hm, rfl⟩

/-- file views: the section's virtual extent does not wrap; mapped views: the buffer is shorter than 4 GiB -/
theorem View.at_rva_add_lt (v : View) (hsz : v.img.bytes.size < 4294967296) {rva min align : Nat} {s : Ref}
    (h : v.at (.rva rva) min align = .ok s) : rva + min < 4294967296 := by
  have hs : ∀ s ∈ v.secs, s.InRange := sections_in_range v.b
  cases hk : v.kind
  · rw [View.at, View.slice_file hk] at h
    obtain ⟨-, -, -, s', hf, -, -, h3, h4, -⟩ := (sliceFile_ok_iff _ _ hs ..).1 h
    obtain ⟨hm, hc⟩ := firstV_some hf
    have := containsRva_nowrap (hs s' hm) hc
    omega
  · rw [View.at, View.slice_view hk] at h
    obtain ⟨-, -, -, h1, h2, -⟩ := (sliceSection_ok_iff ..).1 h
    omega

theorem rangeFile_okOrErr (size : Nat) (secs : List Sec) (rva min : Nat) :
    OkOrErr (rangeFile size secs rva min) := by
  rw [rangeFile_eq]
  cases firstV secs rva
  · exact okOrErr_err _
  · exact okOrErr_if (okOrErr_if (okOrErr_ok _) (okOrErr_if (okOrErr_err _) (okOrErr_err _))) (okOrErr_err _)

theorem fileTail_okOrErr (img : Img) (secs : List Sec) (rva min align : Nat) :
    OkOrErr (fileTail img secs rva min align) := by
  unfold fileTail
  rcases rangeFile_okOrErr img.bytes.size secs rva min with ⟨⟨o, l⟩, h⟩ | ⟨e, h⟩ <;> rw [h]
  · exact okOrErr_if (okOrErr_ok _) (okOrErr_err _)
  · exact okOrErr_err _

theorem sectionTail_okOrErr (img : Img) (start min align : Nat) : OkOrErr (sectionTail img start min align) :=
  okOrErr_if (okOrErr_ok _) (okOrErr_err _)

theorem shape_ite_err {α} {c : Prop} [Decidable c] {e : Err} {x : Out α} {q : Prop}
    (h : OkOrErr x ∨ (q ∧ ∃ s, x = .panic s)) :
    OkOrErr (if c then .err e else x) ∨ (q ∧ ∃ s, (if c then .err e else x) = .panic s) := by
  split
  · exact .inl (okOrErr_err _)
  · exact h

/-- the only panic is the `debug_assert!` on a non-power-of-two alignment -/
theorem gate_shape {site : String} {p : Prop} [Decidable p] {align : Nat} {t : Out Ref} (ht : OkOrErr t) :
    OkOrErr (gate site align p t) ∨ (isPow2 align = false ∧ ∃ s, gate site align p t = .panic s) := by
  by_cases hp : isPow2 align = true
  · rw [gate_pow2 hp]
    exact .inl (okOrErr_if ht (okOrErr_err _))
  · rw [gate_not_pow2 hp]
    exact .inr ⟨by simpa using hp, _, rfl⟩

theorem View.at_shape (v : View) (a : Addr) (min align : Nat) :
    OkOrErr (v.at a min align) ∨ (isPow2 align = false ∧ ∃ s, v.at a min align = .panic s) := by
  cases a with
  | rva r =>
    cases hk : v.kind
    · rw [View.at, View.slice_file hk, sliceFile_eq_tail]
      exact shape_ite_err (gate_shape (fileTail_okOrErr ..))
    · rw [View.at, View.slice_view hk, sliceSection_eq_tail]
      exact shape_ite_err (gate_shape (sectionTail_okOrErr ..))
  | va x =>
    cases hk : v.kind
    · rw [View.at, View.read_file hk, readFile_eq_tail]
      exact shape_ite_err (shape_ite_err (gate_shape (fileTail_okOrErr ..)))
    · rw [View.at, View.read_view hk, readSection_eq_tail]
      exact shape_ite_err (shape_ite_err (gate_shape (sectionTail_okOrErr ..)))

theorem at_okOrErr (v : View) (a : Addr) (min align : Nat) (hp : isPow2 align = true) :
    OkOrErr (v.at a min align) :=
  (v.at_shape a min align).resolve_right fun h => by rw [hp] at h; cases h.1

theorem slice_okOrErr (v : View) (r min a : Nat) (hp : isPow2 a = true) : OkOrErr (v.slice r min a) :=
  at_okOrErr v (.rva r) min a hp

/-! ### the loop of `derva_slice_f` in closed form -/

theorem sliceFLoopI_eq (b : Bytes) (off blen size : Nat) (stop : Nat → Nat → Bool) :
    ∀ fuel len, sliceFLoopI b off blen size stop fuel len =
      match (List.range' len fuel).find? fun i => decide (i * size + size > blen) || stop i (leN b (off + i * size) size) with
      | some n => if n * size + size > blen then .err .bounds else .ok n
      | none => .diverge := by
  intro fuel
  induction fuel with
  | zero => intro len; rfl
  | succ fuel ih =>
    intro len
    rw [sliceFLoopI, List.range'_succ, List.find?_cons]
    by_cases hb : len * size + size > blen
    · simp only [hb, decide_true, Bool.true_or, if_true]
    · by_cases hst : stop len (leN b (off + len * size) size) = true
      · simp only [hb, hst, decide_false, Bool.or_true, if_false, if_true]
      · simp only [hb, hst, decide_false, Bool.or_false, if_false, ih (len + 1), Bool.false_eq_true]

theorem sliceFLoopI_ok {b : Bytes} {off blen size : Nat} {stop : Nat → Nat → Bool} (fuel len n : Nat)
    (h : sliceFLoopI b off blen size stop fuel len = .ok n) :
    len ≤ n ∧ (n + 1) * size ≤ blen ∧ stop n (leN b (off + n * size) size) = true ∧
      (∀ j, len ≤ j → j < n → stop j (leN b (off + j * size) size) = false) ∧ n < len + fuel := by
  rw [sliceFLoopI_eq] at h
  split at h
  · rename_i m hm
    obtain ⟨h1, h2, h3⟩ := List.find?_range'_eq_some.1 hm
    rw [List.mem_range'_1] at h2
    split at h <;> cases h
    rename_i hfit
    simp only [hfit, decide_false, Bool.false_or] at h1
    refine ⟨h2.1, by rw [Nat.succ_mul]; omega, h1, fun j a c => ?_, h2.2⟩
    have := h3 j a c
    simp only [Bool.not_or, Bool.and_eq_true, Bool.not_eq_eq_eq_not, Bool.not_true] at this
    exact this.2
  · cases h

theorem sliceFLoopI_finds {b : Bytes} {off blen size : Nat} {stop : Nat → Nat → Bool} (fuel len n : Nat)
    (h1 : len ≤ n) (h2 : (n + 1) * size ≤ blen) (h3 : n + 1 ≤ fuel + len)
    (hst : stop n (leN b (off + n * size) size) = true)
    (hns : ∀ j, len ≤ j → j < n → stop j (leN b (off + j * size) size) = false) :
    sliceFLoopI b off blen size stop fuel len = .ok n := by
  have hfit : ∀ j, j ≤ n → ¬ j * size + size > blen := fun j hj => by
    have := Nat.mul_le_mul_right size (show j + 1 ≤ n + 1 by omega)
    rw [Nat.succ_mul] at this; omega
  rw [sliceFLoopI_eq, (List.find?_range'_eq_some (p := fun i => decide (i * size + size > blen) ||
      stop i (leN b (off + i * size) size))).2 ⟨by simp [hst], List.mem_range'_1.2 ⟨h1, by omega⟩,
    fun j a c => by simp [hfit j (by omega), hns j a c]⟩]
  exact if_neg (hfit n (Nat.le_refl _))

theorem sliceFLoopI_mono {b : Bytes} {off blen blen' size : Nat} {stop : Nat → Nat → Bool}
    (hl : blen ≤ blen') (fuel fuel' len n : Nat) (hf : fuel ≤ fuel')
    (h : sliceFLoopI b off blen size stop fuel len = .ok n) :
    sliceFLoopI b off blen' size stop fuel' len = .ok n := by
  obtain ⟨a1, a2, a3, a4, a5⟩ := sliceFLoopI_ok fuel len n h
  exact sliceFLoopI_finds fuel' len n a1 (by omega) (by omega) a3 a4

/-- the model's fuel: element `blen / size ≤ blen` is the first that cannot fit, so `blen / size + 1` rounds decide
(`sliceFLoopI_iterations`, Thm/C03) and `blen + 2` leaves one to spare -/
theorem sliceFLoopI_eq_find {b : Bytes} {off blen size : Nat} {stop : Nat → Nat → Bool} (hs : 1 ≤ size) :
    sliceFLoopI b off blen size stop (blen + 2) 0 =
      Out.ofOption .bounds ((List.range (blen / size)).find? fun i => stop i (leN b (off + i * size) size)) := by
  have hdiv : blen / size ≤ blen := Nat.div_le_self _ _
  have hfit : ∀ j, j < blen / size → (j + 1) * size ≤ blen := fun j hj => (Nat.le_div_iff_mul_le (by omega)).1 hj
  cases h : (List.range (blen / size)).find? fun i => stop i (leN b (off + i * size) size) with
  | some n =>
    obtain ⟨h1, h2, h3⟩ := List.find?_range_eq_some.1 h
    rw [List.mem_range] at h2
    exact sliceFLoopI_finds _ 0 n (Nat.zero_le _) (hfit n h2) (by omega) h1 fun j _ c => by simpa using h3 j c
  | none =>
    have hover : blen / size * size + size > blen := by
      rw [← Nat.succ_mul, gt_iff_lt, ← Nat.div_lt_iff_lt_mul (by omega)]; omega
    have hnone := List.find?_eq_none.1 h
    rw [sliceFLoopI_eq, (List.find?_range'_eq_some (i := blen / size) (p := fun i => decide (i * size + size > blen) ||
        stop i (leN b (off + i * size) size))).2 ⟨by simp [hover], List.mem_range'_1.2 ⟨Nat.zero_le _, by omega⟩,
      fun j _ c => by
        have := hfit j c
        rw [Nat.succ_mul] at this
        simpa [show ¬ j * size + size > blen by omega] using hnone j (List.mem_range.2 c)⟩]
    exact if_pos hover

theorem sliceFLoop_eq_I (b : Bytes) (off blen size : Nat) (stop : Nat → Bool) :
    ∀ (fuel len : Nat), sliceFLoop b off blen size stop fuel len =
      sliceFLoopI b off blen size (fun _ x => stop x) fuel len := by
  intro fuel
  induction fuel with
  | zero => intro len; rfl
  | succ fuel ih => intro len; rw [sliceFLoop, sliceFLoopI, ih]

theorem sliceFLoop_ok {b : Bytes} {off blen size : Nat} {stop : Nat → Bool} (fuel len n : Nat)
    (h : sliceFLoop b off blen size stop fuel len = .ok n) :
    len ≤ n ∧ (n + 1) * size ≤ blen ∧ stop (leN b (off + n * size) size) = true ∧
      (∀ j, len ≤ j → j < n → stop (leN b (off + j * size) size) = false) ∧ n < len + fuel :=
  sliceFLoopI_ok fuel len n (sliceFLoop_eq_I .. ▸ h)

theorem sliceFLoop_finds {b : Bytes} {off blen size : Nat} {stop : Nat → Bool} (fuel len n : Nat)
    (h1 : len ≤ n) (h2 : (n + 1) * size ≤ blen) (h3 : n + 1 ≤ fuel + len)
    (hst : stop (leN b (off + n * size) size) = true)
    (hns : ∀ j, len ≤ j → j < n → stop (leN b (off + j * size) size) = false) :
    sliceFLoop b off blen size stop fuel len = .ok n :=
  sliceFLoop_eq_I .. ▸ sliceFLoopI_finds fuel len n h1 h2 h3 hst hns

theorem sliceFLoop_mono {b : Bytes} {off blen blen' size : Nat} {stop : Nat → Bool} (hl : blen ≤ blen')
    (fuel fuel' len n : Nat) (hf : fuel ≤ fuel') (h : sliceFLoop b off blen size stop fuel len = .ok n) :
    sliceFLoop b off blen' size stop fuel' len = .ok n :=
  sliceFLoop_eq_I .. ▸ sliceFLoopI_mono hl fuel fuel' len n hf (sliceFLoop_eq_I .. ▸ h)

/-! ### NUL search: `List.find?` over `List.range'`, which core characterises -/

theorem findNul_eq (b : Bytes) (off : Nat) : ∀ n i,
    findNul b off n i = (List.range' i n).find? fun j => byteAt b (off + j) == 0
  | 0, _ => rfl
  | n + 1, i => by
    rw [findNul, List.range'_succ, List.find?_cons, findNul_eq b off n]
    by_cases h : byteAt b (off + i) = 0
    · rw [if_pos h, beq_iff_eq.2 h]
    · rw [if_neg h, beq_eq_false_iff_ne.2 h]

theorem findNul_eq_some {b : Bytes} {off n i k : Nat} :
    findNul b off n i = some k ↔
      i ≤ k ∧ k < i + n ∧ byteAt b (off + k) = 0 ∧ ∀ j, i ≤ j → j < k → byteAt b (off + j) ≠ 0 := by
  rw [findNul_eq, List.find?_range'_eq_some]
  simp only [List.mem_range'_1, beq_iff_eq, Bool.not_eq_true', beq_eq_false_iff_ne]
  exact ⟨fun ⟨h1, ⟨h2, h3⟩, h4⟩ => ⟨h2, h3, h1, h4⟩, fun ⟨h2, h3, h1, h4⟩ => ⟨h1, ⟨h2, h3⟩, h4⟩⟩

theorem findNul_eq_none {b : Bytes} {off n i : Nat} :
    findNul b off n i = none ↔ ∀ j, i ≤ j → j < i + n → byteAt b (off + j) ≠ 0 := by
  rw [findNul_eq, List.find?_range'_eq_none]
  simp only [Bool.not_eq_true', beq_eq_false_iff_ne]

theorem cstrFromBytes_eq_some {b : Bytes} {off len : Nat} {r : Ref} :
    cstrFromBytes b off len = some r ↔
      ∃ n, r = ⟨off, n + 1, 1⟩ ∧ n + 1 ≤ len ∧ byteAt b (off + n) = 0 ∧ ∀ j, j < n → byteAt b (off + j) ≠ 0 := by
  unfold cstrFromBytes
  cases h : findNul b off len 0 with
  | none =>
    refine ⟨nofun, fun ⟨n, _, h2, h3, _⟩ => absurd h3 (findNul_eq_none.1 h n (Nat.zero_le _) (by omega))⟩
  | some k =>
    obtain ⟨-, h2, h3, h4⟩ := findNul_eq_some.1 h
    refine ⟨fun e => ⟨k, (Option.some.inj e).symm, by omega, h3, fun j => h4 j (Nat.zero_le _)⟩, ?_⟩
    rintro ⟨n, rfl, g2, g3, g4⟩
    have := findNul_eq_some.2 ⟨Nat.zero_le _, (by omega : n < 0 + len), g3, fun j _ => g4 j⟩
    rw [Option.some.inj (h.symm.trans this)]

theorem cstrFromBytes_eq_none {b : Bytes} {off len : Nat} :
    cstrFromBytes b off len = none ↔ ∀ j, j < len → byteAt b (off + j) ≠ 0 := by
  unfold cstrFromBytes
  cases h : findNul b off len 0 with
  | none => simpa using fun j hj => findNul_eq_none.1 h j (Nat.zero_le _) (by omega)
  | some n =>
    obtain ⟨-, h2, h3, -⟩ := findNul_eq_some.1 h
    simpa using ⟨n, by omega, h3⟩

/-- the little-endian value of the `size` bytes at `off`, for EVERY size (specification side) -/
def leValue (b : Bytes) (off : Nat) : Nat → Nat
  | 0 => 0
  | n+1 => byteAt b off + 256 * leValue b (off + 1) n

theorem leN_eq_leValue (b : Bytes) (off size : Nat) (h : size = 1 ∨ size = 2 ∨ size = 4 ∨ size = 8) :
    leN b off size = leValue b off size := by
  rcases h with rfl | rfl | rfl | rfl
  · simp [leN, leValue]
  · simp [leN, leValue, le16]
  · simp only [leN, leValue, le32, Nat.add_assoc, Nat.reduceAdd]; omega
  · simp only [leN, leValue, le64, le32, Nat.add_assoc, Nat.reduceAdd]; omega

theorem leN_other (b : Bytes) (off size : Nat) (h : ¬ (size = 1 ∨ size = 2 ∨ size = 4 ∨ size = 8)) :
    leN b off size = 0 := by
  unfold leN
  split <;> first | rfl | (exfalso; apply h; simp)

theorem leN_toNat (b : Bytes) (o n : Nat) :
    leN b o n = if n = 1 ∨ n = 2 ∨ n = 4 ∨ n = 8 then b.toNat / 256 ^ o % 256 ^ n else 0 := by
  unfold leN
  split
  case h_5 h1 h2 h4 h8 => exact (if_neg fun h => by rcases h with h | h | h | h <;> contradiction).symm
  all_goals simp only [byteAt_toNat, le16_toNat, le32_toNat, le64_toNat]; rfl

theorem leValue_lt (b : Bytes) : ∀ (size off : Nat), leValue b off size < 256 ^ size := by
  intro size
  induction size with
  | zero => intro off; simp [leValue]
  | succ n ih =>
    intro off
    have := ih (off + 1)
    have := byteAt_lt b off
    rw [leValue, Nat.pow_succ]
    omega

theorem elem_fits {size len i : Nat} (hi : i < len) : i * size + size ≤ size * len := by
  have : (i + 1) * size ≤ len * size := Nat.mul_le_mul_right size (by omega)
  rw [Nat.mul_comm size len]; rw [Nat.add_mul] at this; omega

theorem elem_off_mod {size align : Nat} (hal : size % align = 0) (i : Nat) : (i * size) % align = 0 := by
  rw [Nat.mul_mod, hal]; simp

theorem _root_.Pelite.PtrT.elemAt_ok {w va size i p : Nat} (h : PtrT.elemAt w va size i = .ok p) :
    p = va + i * size % 2 ^ w ∧ p < 2 ^ w := by
  unfold PtrT.elemAt at h
  split at h
  · dsimp only at h
    split at h
    · cases h; exact ⟨rfl, ‹_›⟩
    · cases h
  · cases h

theorem map_range_eq_iff {α : Type} (f : Nat → α) (len : Nat) (out : List α) :
    (List.range len).map f = out ↔ out.length = len ∧ ∀ i, i < len → out[i]? = some (f i) := by
  constructor
  · rintro rfl
    refine ⟨by simp, ?_⟩
    intro i hi
    simp [hi]
  · rintro ⟨h1, h2⟩
    apply List.ext_getElem?
    intro i
    by_cases hi : i < len
    · rw [h2 i hi]; simp [hi]
    · have e1 : out[i]? = none := List.getElem?_eq_none (by omega)
      rw [e1]
      simp [hi]

/-! ### the typed reads are `at` followed by a cast or a scan -/

theorem refOK_prefix {img : Img} {s : Ref} {n a : Nat} (h : RefOK img s) (hn : n ≤ s.len) (ha : s.align = a) :
    RefOK img ⟨s.off, n, a⟩ := by
  unfold RefOK at *
  subst ha
  exact ⟨by simp only; omega, h.2⟩

/-- `dervaSlice` with the overflow test first: because `at` answers Null for a zero address by itself, the
early Null test only matters in the overflow branch. -/
theorem dervaSlice_unfold (v : View) (a : Addr) (size align len : Nat) :
    v.dervaSlice a size align len =
      if size * len ≥ 18446744073709551616 then .err (if a.isZero then .null else .overflow)
      else match v.at a (size * len) align with
        | .ok r => .ok ⟨r.off, size * len, align⟩
        | .err e => .err e | .panic s => .panic s | .ub s => .ub s | .diverge => .diverge := by
  unfold View.dervaSlice
  by_cases hz : a.isZero = true
  · rw [if_pos hz, at_zero_null v a hz, hz]
    by_cases ho : size * len ≥ 18446744073709551616
    · rw [if_pos ho]; simp
    · rw [if_neg ho]
  · rw [if_neg hz]
    have hz' : a.isZero = false := by simpa using hz
    rw [hz']
    by_cases ho : size * len ≥ 18446744073709551616
    · rw [if_pos ho, if_pos ho]; simp
    · rw [if_neg ho, if_neg ho]
      cases v.at a (size * len) align <;> rfl

theorem derva_eq_bind (v : View) (a : Addr) (size align : Nat) :
    v.derva a size align = (v.at a size align).bind fun s => .ok ⟨s.off, size, align⟩ := by
  unfold View.derva
  cases v.at a size align <;> rfl

theorem derva_okOrErr (v : View) (a : Addr) (size align : Nat) (hp : isPow2 align = true) :
    OkOrErr (v.derva a size align) := by
  rw [derva_eq_bind]
  exact okOrErr_bind (at_okOrErr v a size align hp) fun _ => okOrErr_ok _

theorem derva_sound (v : View) {a : Addr} {size align : Nat} {r : Ref} (h : v.derva a size align = .ok r) :
    RefOK v.img r ∧ r.len = size ∧ r.align = align := by
  rw [derva_eq_bind] at h
  obtain ⟨s, hs, h⟩ := Out.bind_eq_ok h
  cases h
  obtain ⟨h1, h2, h3⟩ := v.at_sound a size align s hs
  exact ⟨refOK_prefix h1 h2 h3, rfl, rfl⟩

theorem dervaSlice_okOrErr (v : View) (a : Addr) (size align len : Nat) (hp : isPow2 align = true) :
    OkOrErr (v.dervaSlice a size align len) := by
  rw [dervaSlice_unfold]
  exact okOrErr_if (okOrErr_err _) (derva_okOrErr v a (size * len) align hp)

theorem dervaSlice_sound (v : View) {a : Addr} {size align len : Nat} {r : Ref}
    (h : v.dervaSlice a size align len = .ok r) : RefOK v.img r ∧ r.len = size * len ∧ r.align = align := by
  rw [dervaSlice_unfold] at h
  split at h
  · cases h
  · exact derva_sound v h

theorem dervaCStr_eq_bind (v : View) (a : Addr) :
    v.dervaCStr a = (v.at a 0 1).bind fun s => Out.ofOption .encoding (cstrFromBytes v.b s.off s.len) := by
  unfold View.dervaCStr
  cases v.at a 0 1 with
  | ok s => dsimp only [Out.bind]; cases cstrFromBytes v.b s.off s.len <;> rfl
  | _ => rfl

theorem dervaCStr_okOrErr (v : View) (a : Addr) : OkOrErr (v.dervaCStr a) := by
  rw [dervaCStr_eq_bind]
  exact okOrErr_bind (at_okOrErr v a 0 1 (by decide)) fun _ => okOrErr_ofOption ..

theorem dervaCStr_sound (v : View) {a : Addr} {ref : Ref} (h : v.dervaCStr a = .ok ref) :
    RefOK v.img ref ∧ 1 ≤ ref.len ∧ ref.align = 1 ∧ byteAt v.b (ref.off + (ref.len - 1)) = 0 ∧
    ∀ j, j + 1 < ref.len → byteAt v.b (ref.off + j) ≠ 0 := by
  rw [dervaCStr_eq_bind] at h
  obtain ⟨s, hs, h⟩ := Out.bind_eq_ok h
  obtain ⟨n, rfl, h2, h3, h4⟩ := cstrFromBytes_eq_some.1 (ofOption_eq_ok.1 h)
  obtain ⟨h1, _, h5⟩ := v.at_sound a 0 1 s hs
  exact ⟨refOK_prefix h1 h2 h5, by simp, rfl, by simpa using h3, fun j hj => h4 j (by simpa using hj)⟩

theorem dervaWStr_eq_bind (v : View) (a : Addr) :
    v.dervaWStr a = (v.at a 2 2).bind fun s => Out.ofOption .encoding (wstrFromBytes v.b s.off s.len) := by
  unfold View.dervaWStr
  cases v.at a 2 2 with
  | ok s => dsimp only [Out.bind]; cases wstrFromBytes v.b s.off s.len <;> rfl
  | _ => rfl

theorem dervaWStr_okOrErr (v : View) (a : Addr) : OkOrErr (v.dervaWStr a) := by
  rw [dervaWStr_eq_bind]
  exact okOrErr_bind (at_okOrErr v a 2 2 (by decide)) fun _ => okOrErr_ofOption ..

theorem dervaWStr_sound (v : View) {a : Addr} {ref : Ref} (h : v.dervaWStr a = .ok ref) : RefOK v.img ref := by
  rw [dervaWStr_eq_bind] at h
  obtain ⟨s, hs, h⟩ := Out.bind_eq_ok h
  obtain ⟨h1, -, h3⟩ := v.at_sound a 2 2 s hs
  have hw := ofOption_eq_ok.1 h
  unfold wstrFromBytes at hw
  dsimp only at hw
  split at hw <;> cases hw
  exact refOK_prefix h1 (by omega) h3

theorem View.dervaSliceF_eq_I (v : View) (a : Addr) (size align : Nat) (stop : Nat → Bool) :
    v.dervaSliceF a size align stop = v.dervaSliceFI a size align (fun _ x => stop x) := by
  unfold View.dervaSliceF View.dervaSliceFI
  cases v.at a 0 align with
  | ok r => dsimp only; rw [sliceFLoop_eq_I]
  | _ => rfl

theorem View.dervaSliceS_eq_I (v : View) (a : Addr) (size align sentinel : Nat) :
    v.dervaSliceS a size align sentinel = v.dervaSliceFI a size align (fun _ x => x == sentinel) :=
  v.dervaSliceF_eq_I ..

theorem dervaSliceFI_eq (v : View) (a : Addr) {size : Nat} (align : Nat) (stop : Nat → Nat → Bool) (hs : 1 ≤ size) :
    v.dervaSliceFI a size align stop = (v.at a 0 align).bind fun s =>
      (Out.ofOption .bounds ((List.range (s.len / size)).find? fun i => stop i (leN v.b (s.off + i * size) size))).bind
        fun n => .ok ⟨s.off, n * size, align⟩ := by
  unfold View.dervaSliceFI
  cases v.at a 0 align with
  | ok s =>
    dsimp only [Out.bind]
    rw [sliceFLoopI_eq_find hs]
    cases List.find? _ _ <;> rfl
  | _ => rfl

theorem dervaSliceFI_okOrErr (v : View) (a : Addr) (size align : Nat) (stop : Nat → Nat → Bool) (hs : 1 ≤ size)
    (hp : isPow2 align = true) : OkOrErr (v.dervaSliceFI a size align stop) := by
  rw [dervaSliceFI_eq v a align stop hs]
  exact okOrErr_bind (at_okOrErr v a 0 align hp) fun s => okOrErr_bind (okOrErr_ofOption ..) fun _ => okOrErr_ok _

theorem dervaSliceFI_sound (v : View) {a : Addr} {size align : Nat} {stop : Nat → Nat → Bool} {r : Ref}
    (h : v.dervaSliceFI a size align stop = .ok r) : RefOK v.img r ∧ r.len % size = 0 ∧ r.align = align := by
  -- from the loop, not from `dervaSliceFI_eq`: that form needs `1 ≤ size`, which `C01_slice_f_ref` does not assume
  unfold View.dervaSliceFI at h
  cases hat : v.at a 0 align with
  | ok s =>
    rw [hat] at h
    dsimp only at h
    cases hL : sliceFLoopI v.b s.off s.len size stop (s.len + 2) 0 with
    | ok n =>
      rw [hL] at h
      cases h
      obtain ⟨-, h2, -⟩ := sliceFLoopI_ok _ _ _ hL
      obtain ⟨h1, -, h3⟩ := v.at_sound a 0 align s hat
      rw [Nat.succ_mul] at h2
      exact ⟨refOK_prefix h1 (by omega) h3, Nat.mul_mod_left .., rfl⟩
    | _ => rw [hL] at h; cases h
  | _ => rw [hat] at h; cases h

theorem dervaSliceS_at_err (v : View) (a : Addr) (size align sentinel : Nat) (e : Err)
    (hat : v.at a 0 align = .err e) : v.dervaSliceS a size align sentinel = .err e := by
  unfold View.dervaSliceS View.dervaSliceF
  rw [hat]

/-! ### closed forms for evaluated examples

The side conditions are one decidable fact, and since `sliceFile` / `readFile` look at the buffer
only through its size, a zero buffer of the same length stands in for a file's; the scans read their elements as digits of `Bytes.toNat`. -/

theorem View.at_rva_view {v : View} (hk : v.kind = .view) {n : Nat} (hn : v.b.size = n) (x min align : Nat)
    (h : x ≠ 0 ∧ isPow2 align = true ∧ (v.img.base + x) % align = 0 ∧ x + min ≤ n) :
    v.at (.rva x) min align = .ok ⟨x, n - x, align⟩ := by
  have hn' : v.img.bytes.size = n := hn
  rw [View.at, View.slice_view hk, sliceSection_ok_iff, hn']
  exact ⟨h.1, h.2.1, h.2.2.1, by omega, by omega, rfl⟩

theorem View.at_va_view {v : View} (hk : v.kind = .view) {n soi : Nat} (hn : v.b.size = n) (hs : sizeOfImage v.b = soi)
    (x min align : Nat)
    (h : x ≠ 0 ∧ v.imageBase ≤ x ∧ x - v.imageBase ≤ soi ∧ isPow2 align = true ∧
      (v.img.base + (x - v.imageBase)) % align = 0 ∧ x - v.imageBase + min ≤ n) :
    v.at (.va x) min align = .ok ⟨x - v.imageBase, n - (x - v.imageBase), align⟩ := by
  have hn' : v.img.bytes.size = n := hn
  rw [View.at, View.read_view hk, readSection_ok_iff, hn', hs]
  exact ⟨h.1, h.2.1, h.2.2.1, h.2.2.2.1, h.2.2.2.2.1, by omega, by omega, rfl⟩

theorem View.at_rva_file {v : View} (hk : v.kind = .file) {n : Nat} {secs : List Sec} (hn : v.b.size = n)
    (hs : v.secs = secs) (x min align : Nat) :
    v.at (.rva x) min align = sliceFile ⟨Array.replicate n 0, v.img.base⟩ secs x min align := by
  have hn' : v.img.bytes.size = n := hn
  rw [View.at, View.slice_file hk]
  simp only [sliceFile, hs, hn', Array.size_replicate]

theorem View.at_va_file {v : View} (hk : v.kind = .file) {n soi : Nat} {secs : List Sec} (hn : v.b.size = n)
    (hs : v.secs = secs) (ho : sizeOfImage v.b = soi) (x min align : Nat) :
    v.at (.va x) min align = readFile ⟨Array.replicate n 0, v.img.base⟩ secs v.imageBase soi x min align := by
  have hn' : v.img.bytes.size = n := hn
  rw [View.at, View.read_file hk]
  simp only [readFile, hs, hn', ho, Array.size_replicate]

theorem View.derva_of_at {v : View} {a : Addr} {size align : Nat} {s : Ref} (h : v.at a size align = .ok s) :
    v.derva a size align = .ok ⟨s.off, size, align⟩ := by
  rw [derva_eq_bind, h]; rfl

theorem View.dervaSliceS_of_at {v : View} {a : Addr} {size align sentinel : Nat} {s : Ref} (n : Nat) (hs : 1 ≤ size)
    (hat : v.at a 0 align = .ok s)
    (h : (n + 1) * size ≤ s.len ∧ leN v.b (s.off + n * size) size = sentinel ∧
      ∀ j, j < n → leN v.b (s.off + j * size) size ≠ sentinel) :
    v.dervaSliceS a size align sentinel = .ok ⟨s.off, n * size, align⟩ := by
  rw [View.dervaSliceS_eq_I, dervaSliceFI_eq v a align _ hs, hat, Out.bind, ofOption_bind_eq_ok]
  exact ⟨n, List.find?_range_eq_some.2 ⟨by simpa using h.2.1,
    List.mem_range.2 ((Nat.le_div_iff_mul_le (by omega)).2 h.1), fun j hj => by simpa using h.2.2 j hj⟩, rfl⟩

theorem View.dervaSliceS_bounds_of_at {v : View} {a : Addr} {size align sentinel : Nat} {s : Ref} (hs : 1 ≤ size)
    (hat : v.at a 0 align = .ok s)
    (h : ∀ j, j < s.len / size → leN v.b (s.off + j * size) size ≠ sentinel) :
    v.dervaSliceS a size align sentinel = .err .bounds := by
  rw [View.dervaSliceS_eq_I, dervaSliceFI_eq v a align _ hs, hat, Out.bind,
    List.find?_eq_none.2 fun j hj => by simpa using h j (List.mem_range.1 hj)]
  rfl

theorem View.dervaCStr_of_at {v : View} {a : Addr} {s : Ref} (n : Nat) (hat : v.at a 0 1 = .ok s)
    (h : n + 1 ≤ s.len ∧ byteAt v.b (s.off + n) = 0 ∧ ∀ j, j < n → byteAt v.b (s.off + j) ≠ 0) :
    v.dervaCStr a = .ok ⟨s.off, n + 1, 1⟩ := by
  rw [dervaCStr_eq_bind, hat, Out.bind, cstrFromBytes_eq_some.2 ⟨n, rfl, h⟩]
  rfl

/-! ### non-vacuity: a hand-built PE32+ FILE (256 bytes, one section), accepted by the model and by the
real `pe64::PeFile::from_bytes` / `pelite::PeFile::from_bytes` (checked with the harness) -/

/-- DOS header with `e_lfanew = 64`; PE32+ NT headers (Machine 0x8664, one section, SizeOfOptionalHeader 112,
Magic 0x20b, ImageBase 0x1_4000_0000, SizeOfImage 288, SizeOfHeaders 240, no data directories); section
`.data`: VirtualSize 24, VirtualAddress 256, SizeOfRawData 16, PointerToRawData 240; raw data at 240:
`"hi\0"`, a pad byte, the u16 table `7, 9, 0xffff` (file offset 244 = rva 260) and the length-prefixed
wide string `2, 'a', 'b'` (file offset 250 = rva 266).  RVAs 272..280 are the zero-filled tail. -/
def demo64Img : Img := ⟨#[
    -- 0: "MZ" … e_lfanew = 64
    77, 90, 0, 0, 0, 0, 0, 0, 0, 0, 0, 0, 0, 0, 0, 0, 0, 0, 0, 0, 0, 0, 0, 0, 0, 0, 0, 0, 0, 0, 0, 0, 0, 0, 0, 0, 0, 0, 0, 0, 0, 0, 0, 0, 0, 0, 0, 0, 0, 0, 0, 0, 0, 0, 0, 0, 0, 0, 0, 0, 64, 0, 0, 0,
    -- 64: "PE\0\0", file header
    80, 69, 0, 0, 100, 134, 1, 0, 0, 0, 0, 0, 0, 0, 0, 0, 0, 0, 0, 0, 112, 0, 0, 0,
    -- 88: optional header (PE32+, 112 bytes)
    11, 2, 0, 0, 0, 0, 0, 0, 0, 0, 0, 0, 0, 0, 0, 0, 0, 0, 0, 0, 0, 0, 0, 0, 0, 0, 0, 64, 1, 0, 0, 0, 0, 0, 0, 0, 0, 0, 0, 0, 0, 0, 0, 0, 0, 0, 0, 0, 0, 0, 0, 0, 0, 0, 0, 0,
    32, 1, 0, 0, 240, 0, 0, 0, 0, 0, 0, 0, 0, 0, 0, 0, 0, 0, 0, 0, 0, 0, 0, 0, 0, 0, 0, 0, 0, 0, 0, 0, 0, 0, 0, 0, 0, 0, 0, 0, 0, 0, 0, 0, 0, 0, 0, 0, 0, 0, 0, 0, 0, 0, 0, 0,
    -- 200: section header ".data"
    46, 100, 97, 116, 97, 0, 0, 0, 24, 0, 0, 0, 0, 1, 0, 0, 16, 0, 0, 0, 240, 0, 0, 0, 0, 0, 0, 0, 0, 0, 0, 0, 0, 0, 0, 0, 0, 0, 0, 0,
    -- 240: raw data
    104, 105, 0, 0, 7, 0, 9, 0, 255, 255, 2, 0, 97, 0, 98, 0], 0⟩

def demo64File : View := ⟨demo64Img, .pe64, .file, 0x140000000⟩

theorem demo64Img_accept : Accept .pe64 demo64Img ∧ imageBaseField .pe64 demo64Img.bytes = 0x140000000 := by
  simp only [Accept, hdr_toNat, le16_toNat, le32_toNat]
  decide +kernel

theorem demo64File_ok : fromBytes .pe64 .file demo64Img = .ok demo64File :=
  fromBytes_ok_of demo64Img_accept.1 demo64Img_accept.2

theorem demo64File_layout : HdrIs demo64File [⟨0x7461642e, 0x61, 24, 256, 16, 240, 0⟩] 240 288 256 200 1 200 0 :=
  .of_and ⟨demo64Img_accept.1, by simp only [View.secs, sections, secAt, hdr_toNat, le32_toNat]; decide +kernel⟩

theorem demo64File_at_rva (x min align : Nat) : demo64File.at (.rva x) min align =
    sliceFile ⟨Array.replicate 256 0, 0⟩ [⟨0x7461642e, 0x61, 24, 256, 16, 240, 0⟩] x min align :=
  View.at_rva_file rfl demo64File_layout.size demo64File_layout.secs x min align

theorem demo64File_at_va (x min align : Nat) : demo64File.at (.va x) min align =
    readFile ⟨Array.replicate 256 0, 0⟩ [⟨0x7461642e, 0x61, 24, 256, 16, 240, 0⟩] 0x140000000 288 x min align :=
  View.at_va_file rfl demo64File_layout.size demo64File_layout.secs demo64File_layout.soi x min align

end Pelite.Pe
