import PeliteModel.Lemmas.ResGroup
/-!
C12: `GroupResource::write` into a sink that accepts fewer bytes than offered (`Group.writeChunked`): every piece is
handed over with `write_all`, so a sink that accepts at least one byte per call receives what a `Vec<u8>` receives.
-/
namespace Pelite.Resources
open Pelite

theorem writeAllChunked_complete {n : Nat} (hn : 0 < n) :
    ∀ (fuel : Nat) (sink buf : List UInt8), buf.length ≤ fuel →
      writeAllChunked n fuel sink buf = .ok ⟨sink ++ buf, false⟩ := by
  intro fuel
  induction fuel with
  | zero =>
    intro sink buf h
    cases buf with
    | nil => simp [writeAllChunked]
    | cons b bs => simp at h
  | succ fuel ih =>
    intro sink buf h
    cases buf with
    | nil => simp [writeAllChunked]
    | cons b bs =>
      unfold writeAllChunked
      rw [if_neg (by omega)]
      rw [ih _ _ (by simp only [List.length_drop, List.length_cons] at h ⊢; omega)]
      rw [List.append_assoc, List.take_append_drop]

theorem writeAllChunked_zero (fuel : Nat) (sink : List UInt8) (b : UInt8) (bs : List UInt8) :
    writeAllChunked 0 (fuel + 1) sink (b :: bs) = .ok ⟨sink, true⟩ := by
  simp [writeAllChunked]

theorem feedCalls_complete {n : Nat} (hn : 0 < n) :
    ∀ (calls : List (List UInt8)) (sink : List UInt8), feedCalls n calls sink = .ok ⟨sink ++ calls.flatten, false⟩
  | [], sink => by simp [feedCalls]
  | buf :: rest, sink => by
    unfold feedCalls
    rw [writeAllChunked_complete hn _ _ _ (Nat.le_refl _)]
    dsimp only
    rw [if_neg (by decide), feedCalls_complete hn rest]
    simp [List.append_assoc]

theorem writeEntryCalls_flatten (r : Resources) :
    ∀ (es : List GroupEntry) (off : Nat), (writeEntryCalls r es off).flatten = writeEntries r es off
  | [], _ => rfl
  | e :: rest, off => by
    simp only [writeEntryCalls, writeEntries, List.flatten_cons, writeEntryCalls_flatten r rest, List.append_assoc]

theorem writeImageCalls_flatten (r : Resources) (g : Group) :
    ∀ es : List GroupEntry, List.flatten <$> writeImageCalls r g es = writeImages r g es
  | [] => rfl
  | e :: rest => by
    unfold writeImageCalls writeImages
    rw [← writeImageCalls_flatten r g rest]
    cases g.image r e.nId with
    | ok res => cases writeImageCalls r g rest <;> cases res <;> rfl
    | _ => rfl

theorem writeCalls_flatten (r : Resources) (g : Group) : List.flatten <$> g.writeCalls r = g.write r := by
  unfold Group.writeCalls Group.write
  cases g.entries r with
  | ok es =>
    dsimp only
    rw [← writeImageCalls_flatten r g es]
    cases writeImageCalls r g es <;> simp [Functor.map, Out.bind, writeEntryCalls_flatten]
  | _ => rfl

theorem writeChunked_eq (r : Resources) (g : Group) {n : Nat} (hn : 0 < n) :
    g.writeChunked r n = (fun out => (⟨out, false⟩ : SinkState)) <$> g.write r := by
  rw [← writeCalls_flatten]
  unfold Group.writeChunked
  cases g.writeCalls r with
  | ok calls => simp [Functor.map, Out.bind, feedCalls_complete hn]
  | err x => rfl
  | panic x => rfl
  | ub x => rfl
  | diverge => rfl

/-- a sink that accepts nothing: the first piece — the six header bytes — fails with `WriteZero`, nothing was received -/
theorem writeChunked_zero {r : Resources} (hb : Aligned r) {g : Group} (hg : GroupOK r g) :
    g.writeChunked r 0 = .ok ⟨[], true⟩ := by
  obtain ⟨out, ho⟩ := write_ok hb hg
  have hf := writeCalls_flatten r g
  rw [ho] at hf
  unfold Group.writeChunked
  cases hc : g.writeCalls r with
  | ok calls =>
    dsimp only
    unfold Group.writeCalls at hc
    rw [groupEntries_eq hg] at hc
    dsimp only at hc
    cases hi : writeImageCalls r g (groupEntriesFrom r (g.off + 6) g.count) with
    | ok images =>
      rw [hi] at hc
      cases hc
      rw [feedCalls, show bytesAt r.sec g.off 6 = _ :: _ from rfl, List.length_cons, writeAllChunked_zero]
      rfl
    | _ => rw [hi] at hc; cases hc
  | _ => rw [hc] at hf; cases hf

end Pelite.Resources
