import PeliteModel.Lemmas.Version
/-!
C13: the parse tree of a block, `visit` as a structural walk over it, the
event list as its flattening, and every visitor's result as a fold of the event list.
-/
set_option linter.unusedSimpArgs false
set_option linter.unnecessarySimpa false

namespace Pelite.Version

/-! ### the parse tree -/

structure PTable where
  node : Tlv
  strings : List Tlv

inductive PKind where
  | tables (ts : List PTable)
  | vars (vs : List Tlv)
  | other

structure PInfo where
  node : Tlv
  kind : PKind

structure PRoot where
  node : Tlv
  infos : List PInfo

def pTable (st : Tlv) : PTable := ⟨st, items .words st.children⟩

def pInfo (fi : Tlv) : PInfo :=
  ⟨fi, if fi.key.ws = strStringFileInfo then .tables ((items .zero fi.children).map pTable)
       else if fi.key.ws = strVarFileInfo then .vars (items .bytes fi.children)
       else .other⟩

theorem pInfo_spec (fi : Tlv) :
    (fi.key.ws = strStringFileInfo ∧ pInfo fi = ⟨fi, .tables ((items .zero fi.children).map pTable)⟩) ∨
    (fi.key.ws = strVarFileInfo ∧ pInfo fi = ⟨fi, .vars (items .bytes fi.children)⟩) ∨
    (fi.key.ws ≠ strStringFileInfo ∧ fi.key.ws ≠ strVarFileInfo ∧ pInfo fi = ⟨fi, .other⟩) := by
  unfold pInfo
  by_cases h1 : fi.key.ws = strStringFileInfo
  · exact Or.inl ⟨h1, by rw [if_pos h1]⟩
  · by_cases h2 : fi.key.ws = strVarFileInfo
    · exact Or.inr (Or.inl ⟨h2, by rw [if_neg h1, if_pos h2]⟩)
    · exact Or.inr (Or.inr ⟨h1, h2, by rw [if_neg h1, if_neg h2]⟩)

def pRoot (vi : Tlv) : PRoot := ⟨vi, (items .zero vi.children).map pInfo⟩

/-- the root nodes `visit` iterates over (it stops at the first one a visitor accepts) -/
def pRoots (w : Sl) : List PRoot := (items .bytes w).map pRoot

/-- `Some(fixed)` iff the value is 52 bytes -/
def fixedSl (v : Sl) : Option Sl := if v.len = 26 then some v else none

theorem fixedOf_eq {v : Sl} (h : v.Al) : fixedOf v = .ok (fixedSl v) := by
  unfold fixedOf fixedSl
  by_cases h0 : v.len * 2 = 0
  · have : ¬ v.len = 26 := by omega
    simp [h0, this]
  · by_cases h52 : v.len * 2 = 52
    · have hoff : v.off % 2 = 0 := h (by omega)
      have h26 : v.len = 26 := by omega
      simp [h52, hoff, h26]
    · have : ¬ v.len = 26 := by omega
      simp [h0, h52, this]

/-! ### the structural walk -/

section walk
variable {σ : Type} (V : Visitor σ)

def walkStrings (strs : List Tlv) (s : σ) : σ :=
  strs.foldl (fun s str => V.string s str.key (stripNul str.value)) s

def walkTable (s : σ) (t : PTable) : σ :=
  match V.stringTable s t.node.key with
  | (s, false) => s
  | (s, true) => V.exitScope (walkStrings V t.strings (V.enterScope s 2)) 2

def walkVars (vs : List Tlv) (s : σ) : σ := vs.foldl (fun s v => V.var s v.key v.value) s

def walkKind (k : PKind) (s : σ) : σ :=
  match k with
  | .tables ts => ts.foldl (walkTable V) s
  | .vars vs => walkVars V vs s
  | .other => s

def walkInfo (s : σ) (i : PInfo) : σ :=
  match V.fileInfo s i.node.key with
  | (s, false) => s
  | (s, true) => V.exitScope (walkKind V i.kind (V.enterScope s 1)) 1

/-- one root node: the new state and whether `visit` goes on to the next root -/
def walkRoot (r : PRoot) (s : σ) : σ × Bool :=
  match V.versionInfo s r.node.key (fixedSl r.node.value) with
  | (s, false) => (s, true)
  | (s, true) => (V.exitScope (r.infos.foldl (walkInfo V) (V.enterScope s 0)) 0, false)

def walkRoots : List PRoot → σ → σ
  | [], s => s
  | r :: rs, s =>
    match walkRoot V r s with
    | (s, true) => walkRoots rs s
    | (s, false) => s

theorem runSteps_foldl (f : σ → Tlv → σ) (step : Tlv → σ → Out (σ × Bool))
    (h : ∀ t s, step t s = .ok (f s t, true)) (l : List Tlv) (s : σ) :
    runSteps step l s = .ok (l.foldl f s) := by
  induction l generalizing s with
  | nil => rfl
  | cons t l ih => simp only [runSteps, h, List.foldl_cons]; exact ih _

theorem visitStrings_eq (c : Sl) (s : σ) :
    visitStrings V c s = .ok (walkStrings V (items .words c) s) := by
  unfold visitStrings walkStrings
  rw [forEach_eq_runSteps]
  exact runSteps_foldl _ _ (fun t s => by simp only [stripNulChk_eq]) _ _

theorem visitVars_eq (c : Sl) (s : σ) :
    visitVars V c s = .ok (walkVars V (items .bytes c) s) := by
  unfold visitVars walkVars
  rw [forEach_eq_runSteps]
  exact runSteps_foldl _ _ (fun _ _ => rfl) _ _

theorem visitTables_eq (c : Sl) (s : σ) :
    visitTables V c s = .ok (((items .zero c).map pTable).foldl (walkTable V) s) := by
  unfold visitTables
  rw [forEach_eq_runSteps, List.foldl_map]
  refine runSteps_foldl (fun s t => walkTable V s (pTable t)) _ ?_ _ _
  intro st s
  simp only [walkTable, pTable]
  rcases hst : V.stringTable s st.key with ⟨s', b⟩
  cases b
  · rfl
  · simp only [visitStrings_eq]

theorem visitInfos_eq (c : Sl) (s : σ) :
    visitInfos V c s = .ok (((items .zero c).map pInfo).foldl (walkInfo V) s) := by
  unfold visitInfos
  rw [forEach_eq_runSteps, List.foldl_map]
  refine runSteps_foldl (fun s t => walkInfo V s (pInfo t)) _ ?_ _ _
  intro fi s
  rcases pInfo_spec fi with ⟨h1, hi⟩ | ⟨h2, hi⟩ | ⟨h1, h2, hi⟩ <;> rw [hi] <;> simp only [walkInfo] <;>
    rcases hfi : V.fileInfo s fi.key with ⟨s', b⟩ <;> cases b <;> try rfl
  · simp only [h1, if_true, visitTables_eq, walkKind]
  · have hne : strVarFileInfo ≠ strStringFileInfo := by decide
    simp only [h2, hne, if_true, if_false, visitVars_eq, walkKind]
  · simp only [h1, h2, if_false, walkKind]

theorem visit_eq_walk (w : Sl) (hw : w.Al) (s : σ) :
    visit V w s = .ok (walkRoots V (pRoots w) s) := by
  unfold visit pRoots
  rw [forEach_eq_runSteps]
  have hal := fun t ht => (items_al .bytes w hw t ht).1
  generalize items .bytes w = l at hal
  induction l generalizing s with
  | nil => rfl
  | cons vi l ih =>
    simp only [runSteps, List.map_cons, walkRoots, walkRoot, pRoot, fixedOf_eq (hal vi (List.mem_cons_self ..))]
    rcases hvi : V.versionInfo s vi.key (fixedSl vi.value) with ⟨s', b⟩
    cases b
    · exact ih s' fun t ht => hal t (List.mem_cons_of_mem _ ht)
    · simp only [visitInfos_eq]

end walk

/-! ### the event list is the flattened tree -/

def flatStrings (strs : List Tlv) : List Event := strs.map fun x => .string x.key (stripNul x.value)

def flatTable (t : PTable) : List Event :=
  [.stringTable t.node.key, .enter 2] ++ flatStrings t.strings ++ [.exit 2]

def flatKind : PKind → List Event
  | .tables ts => ts.flatMap flatTable
  | .vars vs => vs.map fun x => .var x.key x.value
  | .other => []

def flatInfo (i : PInfo) : List Event := [.fileInfo i.node.key, .enter 1] ++ flatKind i.kind ++ [.exit 1]

def flatRoot (r : PRoot) : List Event :=
  [.versionInfo r.node.key (fixedSl r.node.value), .enter 0] ++ r.infos.flatMap flatInfo ++ [.exit 0]

/-- only the first root is reported -/
def flatRoots : List PRoot → List Event
  | [] => []
  | r :: _ => flatRoot r

/-- interpreting one recorded callback with a visitor `V`.  The second component is `some d` while
the events belong to a subtree that `V` declined (its callback returned `false`): they are skipped
up to and including the subtree's `exit d`. -/
def replay {σ : Type} (V : Visitor σ) : σ × Option Nat → Event → σ × Option Nat
  | (s, none), .versionInfo k f => ((V.versionInfo s k f).1, none)
  | (s, none), .fileInfo k => match V.fileInfo s k with | (s, true) => (s, none) | (s, false) => (s, some 1)
  | (s, none), .stringTable k => match V.stringTable s k with | (s, true) => (s, none) | (s, false) => (s, some 2)
  | (s, none), .string k v => (V.string s k v, none)
  | (s, none), .var k v => (V.var s k v, none)
  | (s, none), .enter d => (V.enterScope s d, none)
  | (s, none), .exit d => (V.exitScope s d, none)
  | (s, some d), .exit d' => if d' = d then (s, none) else (s, some d)
  | (s, some d), _ => (s, some d)

section replay
variable {σ : Type} (V : Visitor σ)

theorem replay_skip (d : Nat) (l : List Event) (h : Event.exit d ∉ l) (s : σ) :
    l.foldl (replay V) (s, some d) = (s, some d) :=
  l.foldlRecOn (motive := (· = (s, some d))) _ rfl fun _ hb e he => by
    subst hb
    cases e <;> simp only [replay]
    rename_i d'
    have : d' ≠ d := fun h' => h (h' ▸ he)
    simp [this]

theorem replay_strings (strs : List Tlv) (s : σ) :
    (flatStrings strs).foldl (replay V) (s, none) = (walkStrings V strs s, none) := by
  unfold flatStrings walkStrings
  rw [List.foldl_map]
  exact List.foldl_hom (·, none) fun _ _ => rfl

theorem replay_table (t : PTable) (s : σ) :
    (flatTable t).foldl (replay V) (s, none) = (walkTable V s t, none) := by
  unfold flatTable walkTable
  simp only [List.cons_append, List.nil_append, List.foldl_cons, replay]
  rcases hst : V.stringTable s t.node.key with ⟨s', b⟩
  cases b
  · simp only [replay, List.foldl_append, List.foldl_cons, List.foldl_nil]
    rw [replay_skip V 2 _ (by simp [flatStrings])]
    simp [replay]
  · simp only [replay, List.foldl_append, List.foldl_cons, List.foldl_nil, replay_strings]

theorem replay_tables (ts : List PTable) (s : σ) :
    (ts.flatMap flatTable).foldl (replay V) (s, none) = (ts.foldl (walkTable V) s, none) := by
  rw [List.foldl_flatMap]
  exact List.foldl_hom (·, none) fun s t => replay_table V t s

theorem replay_vars (vs : List Tlv) (s : σ) :
    (vs.map fun x => Event.var x.key x.value).foldl (replay V) (s, none) = (walkVars V vs s, none) := by
  unfold walkVars
  rw [List.foldl_map]
  exact List.foldl_hom (·, none) fun _ _ => rfl

theorem replay_kind (k : PKind) (s : σ) :
    (flatKind k).foldl (replay V) (s, none) = (walkKind V k s, none) := by
  cases k with
  | tables ts => exact replay_tables V ts s
  | vars vs => exact replay_vars V vs s
  | other => rfl

theorem replay_info (i : PInfo) (s : σ) :
    (flatInfo i).foldl (replay V) (s, none) = (walkInfo V s i, none) := by
  unfold flatInfo walkInfo
  simp only [List.cons_append, List.nil_append, List.foldl_cons, replay]
  rcases hfi : V.fileInfo s i.node.key with ⟨s', b⟩
  cases b
  · simp only [replay, List.foldl_append, List.foldl_cons, List.foldl_nil]
    rw [replay_skip V 1 _ (by cases i.kind <;> simp [flatKind, flatTable, flatStrings])]
    simp [replay]
  · simp only [replay, List.foldl_append, List.foldl_cons, List.foldl_nil, replay_kind]

theorem replay_infos (is : List PInfo) (s : σ) :
    (is.flatMap flatInfo).foldl (replay V) (s, none) = (is.foldl (walkInfo V) s, none) := by
  rw [List.foldl_flatMap]
  exact List.foldl_hom (·, none) fun s i => replay_info V i s

/-- a visitor whose `version_info` callback always returns `true` (all visitors of the crate) -/
def Visitor.AcceptsRoot (V : Visitor σ) : Prop := ∀ s k f, (V.versionInfo s k f).2 = true

theorem replay_roots (hV : V.AcceptsRoot) (rs : List PRoot) (s : σ) :
    (flatRoots rs).foldl (replay V) (s, none) = (walkRoots V rs s, none) := by
  cases rs with
  | nil => rfl
  | cons r l =>
    simp only [flatRoots, flatRoot, walkRoots, walkRoot, List.cons_append, List.nil_append, List.foldl_cons, replay]
    have h := hV s r.node.key (fixedSl r.node.value)
    rcases hvi : V.versionInfo s r.node.key (fixedSl r.node.value) with ⟨s', b⟩
    rw [hvi] at h
    cases h
    simp only [replay, List.foldl_append, List.foldl_cons, List.foldl_nil, replay_infos]

end replay

theorem walk_recorder_strings (strs : List Tlv) (s : List Event) :
    walkStrings recorder strs s = s ++ flatStrings strs := by
  unfold walkStrings flatStrings
  induction strs generalizing s with
  | nil => simp
  | cons x l ih => simp only [List.foldl_cons, List.map_cons]; rw [ih]; simp [recorder]

theorem replay_append {α : Type} (V : Visitor (List α)) (g : Event → List α)
    (h : ∀ s e, replay V (s, none) e = (s ++ g e, none)) (es : List Event) (s : List α) :
    es.foldl (replay V) (s, none) = (s ++ es.flatMap g, none) := by
  induction es generalizing s with
  | nil => simp
  | cons e l ih => rw [List.foldl_cons, h, ih]; simp

theorem visit_eq_replay {σ : Type} (V : Visitor σ) (hV : V.AcceptsRoot) (w : Sl) (hw : w.Al) (s : σ) :
    visit V w s = .ok ((flatRoots (pRoots w)).foldl (replay V) (s, none)).1 := by
  rw [visit_eq_walk V w hw, replay_roots V hV]

theorem events_eq_flat (w : Sl) (hw : w.Al) : events w = .ok (flatRoots (pRoots w)) := by
  unfold events
  rw [visit_eq_replay recorder (fun _ _ _ => rfl) w hw,
    replay_append recorder (fun e => [e]) fun s e => by cases e <;> rfl]
  simp

end Pelite.Version
