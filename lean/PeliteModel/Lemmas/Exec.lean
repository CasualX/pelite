import PeliteModel.Spec.Scan
import PeliteModel.Lemmas.Typed
/-!
The interpreter model `Exec.exec`: what a step does (`step_some`), invariants of an execution (`exec_inv`),
totality and fuel, the prefix lemma, two executions in lock step (`exec_sim`), the two implementations of
`trait Scan` (`ofView_wf`, `ofRaw_wf`), their reads as digits of one number (`ofView_toNat`, for evaluation), and — in
`namespace Pelite.PatSem`, where the definition is fixed — that their `slice` and `read` see the same bytes (`Coherent`).
-/
namespace Pelite.Exec
open Pelite.Pattern

/-- What the interpreter needs from an implementation of `trait Scan` to be panic free: a successful
one-byte read lies strictly below `u32::MAX`, so that `self.cursor += 1` cannot overflow. -/
structure ScanI.WF (S : ScanI) : Prop where
  read1 : ∀ rva v, S.read 1 rva = some v → rva + 1 < 4294967296 ∧ v < 256
  read_lt : ∀ w rva v, S.read w rva = some v → v < 256 ^ w
  pointer_lt : ∀ va r, S.pointer va = some r → r < 4294967296

/-! ### one loop iteration -/

theorem vtypeName_lt {S : ScanI} {c r : Nat} (h : vtypeName S c = some r) : r < 4294967296 := by
  unfold vtypeName at h
  split at h <;> split at h <;> try (cases h; done)
  all_goals
    simp only [Option.bind_eq_bind, Option.bind_eq_some_iff, Option.some.injEq] at h
    obtain ⟨_, _, _, _, h⟩ := h
    first
    | (obtain ⟨_, _, _, _, h⟩ := h; subst h; unfold wadd32; omega)
    | (obtain ⟨_, _, h⟩ := h; subst h; unfold wadd32; omega)

theorem saveSet_size (save : Array Nat) (slot v : Nat) : (saveSet save slot v).size = save.size := by
  simp [saveSet]

theorem sext8_lt {v : Nat} (h : v < 256) : sext8 v < 4294967296 := by unfold sext8; split <;> omega
theorem sext16_lt {v : Nat} (h : v < 65536) : sext16 v < 4294967296 := by unfold sext16; split <;> omega

/-- the save slot an atom writes; `Pir` and `Check` only read theirs -/
def wslot : Atom → Option Nat
  | .save s | .zero s | .readI8 s | .readI16 s | .readI32 s | .readU8 s | .readU16 s | .readU32 s => some s
  | _ => none

theorem step_some {S : ScanI} {a : Atom} {st : St} {m e : Nat} {st' : St} {m' e' : Nat}
    (h : step S a st m e = .ok (some (st', m', e'))) :
    st'.pc = st.pc ∧
    (st'.save = st.save ∨ ∃ k v, wslot a = some k ∧ st'.save = saveSet st.save k v ∧
      (S.WF → st.cursor < 4294967296 → v < 4294967296)) ∧
    (S.WF → st.cursor < 4294967296 → st'.cursor < 4294967296) := by
  have hv8 : ∀ {v : Nat}, v < 256 ^ 1 → sext8 v < 4294967296 := fun h => sext8_lt (by simpa using h)
  have hv16 : ∀ {v : Nat}, v < 256 ^ 2 → sext16 v < 4294967296 := fun h => sext16_lt (by simpa using h)
  cases a <;> simp only [step] at h <;> (repeat' split at h) <;>
    simp only [Out.ok.injEq, Option.some.injEq, Prod.mk.injEq, reduceCtorEq] at h <;>
    (try (obtain ⟨rfl, _⟩ := h)) <;> (try (cases h; done)) <;>
    refine ⟨rfl, ?_, fun hS hc => ?_⟩ <;>
    first
    -- the save array: untouched | `Save` | `Zero` | `ReadI8` | `ReadI16` | the unsigned reads and `ReadI32`
    | exact .inl rfl
    | exact .inr ⟨_, _, rfl, rfl, fun _ hc => hc⟩
    | exact .inr ⟨_, _, rfl, rfl, fun _ _ => by decide⟩
    | exact .inr ⟨_, _, rfl, rfl, fun hS _ => hv8 (hS.read_lt _ _ _ ‹_›)⟩
    | exact .inr ⟨_, _, rfl, rfl, fun hS _ => hv16 (hS.read_lt _ _ _ ‹_›)⟩
    | exact .inr ⟨_, _, rfl, rfl, fun hS _ => by have := hS.read_lt _ _ _ ‹_›; simp at this; omega⟩
    -- the cursor: unchanged | a wrapping sum | `VTypeName` | `Ptr` | `Byte` (the checked `cursor + 1`)
    | exact hc
    | (simp only [wadd32, wsub32]; omega)
    | exact vtypeName_lt ‹_›
    | (rcases Option.bind_eq_some_iff.1 ‹_› with ⟨_, _, hp⟩; exact hS.pointer_lt _ _ hp)
    | assumption

theorem step_pc {S : ScanI} {a : Atom} {st : St} {m e : Nat} {st' : St} {m' e' : Nat}
    (h : step S a st m e = .ok (some (st', m', e'))) : st'.pc = st.pc := (step_some h).1

/-- no iteration panics: the only checked arithmetic is `cursor += 1` after a successful read -/
theorem step_ok {S : ScanI} (hS : S.WF) (a : Atom) (st : St) (m e : Nat) :
    ∃ o, step S a st m e = .ok o := by
  cases a <;> simp only [step] <;> (repeat' split) <;> simp_all
  next h _ _ => have := (hS.read1 _ _ h).1; omega

/-! ### `exec_many` -/

theorem manyLoop_inv {mem : Bytes} {ex : St → Out (Bool × St)} {cursor pc off : Nat} {peek : Option Nat}
    {P : St → Prop} (hreset : ∀ st i, P st → P { st with cursor := wadd32 cursor i, pc := pc })
    (hex : ∀ s b s', ex s = .ok (b, s') → s.pc = pc → P s → P s') :
    ∀ k i st b st', manyLoop mem ex cursor pc off peek k i st = .ok (b, st') → P st → P st' := by
  intro k
  induction k with
  | zero => intro i st b st' h hp; simp only [manyLoop] at h; cases h; exact hp
  | succ k ih =>
    intro i st b st' h hp
    simp only [manyLoop] at h
    split at h
    · have hw := hreset st i hp
      split at h
      · next s'' hs => cases h; exact hex _ _ _ hs rfl hw
      · next s'' hs => exact ih _ _ _ _ h (hex _ _ _ hs rfl hw)
      · next hn1 hn2 =>
        cases b with
        | false => exact (hn2 _ h).elim
        | true => exact (hn1 _ h).elim
    · exact ih _ _ _ _ h hp

theorem manyLoop_total {mem : Bytes} {ex : St → Out (Bool × St)} {cursor pc off : Nat} {peek : Option Nat}
    (hex : ∀ s, s.pc = pc → ∃ r, ex s = .ok r) :
    ∀ k i st, ∃ r, manyLoop mem ex cursor pc off peek k i st = .ok r := by
  intro k
  induction k with
  | zero => intro i st; exact ⟨_, rfl⟩
  | succ k ih =>
    intro i st
    simp only [manyLoop]
    split
    · obtain ⟨⟨b, s'⟩, hr⟩ := hex { st with cursor := wadd32 cursor i, pc := pc } rfl
      rw [hr]
      cases b
      · exact ih _ _
      · exact ⟨_, rfl⟩
    · exact ih _ _

theorem execMany_none {S : ScanI} {pat : List Atom} {ex : St → Out (Bool × St)} {st : St} {limit : Nat}
    (hs : S.slice st.cursor = none) : execMany S pat ex st limit = .ok (false, st) := by
  simp [execMany, hs]

theorem execMany_some {S : ScanI} {pat : List Atom} {ex : St → Out (Bool × St)} {st : St} {limit off len : Nat}
    (hs : S.slice st.cursor = some (off, len)) (hle : st.pc ≤ pat.length) :
    execMany S pat ex st limit =
      manyLoop S.mem ex st.cursor st.pc off (peekByte (pat.drop st.pc))
        (if limit = 0 then len else min limit len) 0 st := by
  simp [execMany, hs, hle]

/-! ### invariants of an execution -/

/-- What running the atoms of `pat` can do to the three components of the interpreter state, as one
predicate per component: `P` on `pc`, `C` on the cursor, `Q` on the save array.  `exec` only ever
combines components of states it has already been in (a `Push` puts an earlier cursor back, a failed
`Case` an earlier cursor and a later `pc`, `exec_many` an earlier `pc`), so an invariant that is a
product of the three survives every such recombination. -/
structure Inv (S : ScanI) (pat : List Atom) (P C : Nat → Prop) (Q : Array Nat → Prop) : Prop where
  next : ∀ j a, pat[j]? = some a → P j → P (j + 1)
  jump : ∀ j n, pat[j]? = some (.case n) ∨ pat[j]? = some (.brk n) → P j → P (j + 1 + n)
  move : ∀ c k, C c → C (wadd32 c k)
  step : ∀ j a, pat[j]? = some a → P j → ∀ st m e st' m' e', step S a st m e = .ok (some (st', m', e')) →
    C st.cursor → Q st.save → C st'.cursor ∧ Q st'.save

def St.Sat (P C : Nat → Prop) (Q : Array Nat → Prop) (st : St) : Prop := P st.pc ∧ C st.cursor ∧ Q st.save

theorem exec_inv {S : ScanI} {pat : List Atom} {P C : Nat → Prop} {Q : Array Nat → Prop} (I : Inv S pat P C Q) :
    ∀ fuel st mask ext b st', exec S pat fuel st mask ext = .ok (b, st') → st.Sat P C Q → st'.Sat P C Q := by
  intro fuel st mask ext
  -- the cases of `exec.induct`, here and in the other inductions over `exec`: 1 no fuel, 2 end of pattern,
  -- 3/4 `Push` (nested call true / anything else), 5 `Pop`, 6 `Many`, 7/8/9 `Case` (true / false / other),
  -- 10 `Break`, 11/12 `step` gives `none` / `some`, 13–16 `step` fails (err, panic, ub, diverge)
  fun_induction exec S pat fuel st mask ext with
  | case1 => intro b st' h; cases h
  | case2 => intro b st' h hs; cases h; exact hs
  | case3 fuel st0 mask ext st skip cursor st1 h1 hp ih2 ih1 =>
    intro b st' h hs
    exact ih1 _ _ h ⟨(ih2 _ _ h1 ⟨I.next _ _ hp hs.1, hs.2⟩).1, I.move _ _ hs.2.1, (ih2 _ _ h1 ⟨I.next _ _ hp hs.1, hs.2⟩).2.2⟩
  | case4 fuel st0 mask ext st skip hp hne ih1 => intro b st' h hs; exact ih1 _ _ h ⟨I.next _ _ hp hs.1, hs.2⟩
  | case5 fuel st0 mask ext st hp => intro b st' h hs; cases h; exact ⟨I.next _ _ hp hs.1, hs.2⟩
  | case6 fuel st0 mask ext st limit hp ih1 =>
    intro b st' h hs
    have hs1 : st.Sat P C Q := ⟨I.next _ _ hp hs.1, hs.2⟩
    obtain ⟨hlt, _⟩ := List.getElem?_eq_some_iff.1 hp
    cases hsl : S.slice st.cursor with
    | none => rw [execMany_none hsl] at h; cases h; exact hs1
    | some ol =>
      obtain ⟨off, len⟩ := ol
      rw [execMany_some hsl (by simp only [st]; omega)] at h
      exact manyLoop_inv (P := St.Sat P C Q) (fun s i hq => ⟨hs1.1, I.move _ _ hs1.2.1, hq.2.2⟩)
        (fun s b s' hx _ => ih1 s b s' hx) _ _ _ _ _ h hs1
  | case7 fuel st0 mask ext st next st1 h1 hp ih2 ih1 =>
    intro b st' h hs
    exact ih1 _ _ h (ih2 _ _ h1 ⟨I.next _ _ hp hs.1, hs.2⟩)
  | case8 fuel st0 mask ext st next st1 h1 hp ih2 ih1 =>
    intro b st' h hs
    exact ih1 _ _ h ⟨I.jump _ _ (.inl hp) hs.1, hs.2.1, (ih2 _ _ h1 ⟨I.next _ _ hp hs.1, hs.2⟩).2.2⟩
  | case9 fuel st0 mask ext st next hp hn1 hn2 ih1 => intro b st' h hs; exact ih1 _ _ h ⟨I.next _ _ hp hs.1, hs.2⟩
  | case10 fuel st0 mask ext st next hp => intro b st' h hs; cases h; exact ⟨I.jump _ _ (.inr hp) hs.1, hs.2⟩
  | case11 fuel st0 mask ext st a _ _ _ _ _ hs hp => intro b st' h hs; cases h; exact ⟨I.next _ _ hp hs.1, hs.2⟩
  | case12 fuel st0 mask ext st a _ _ _ _ _ st1 m1 e1 hst hp ih1 =>
    intro b st' h hs
    refine ih1 _ _ h ⟨?_, I.step _ _ hp hs.1 _ _ _ _ _ _ hst hs.2.1 hs.2.2⟩
    rw [step_pc hst]; exact I.next _ _ hp hs.1
  | case13 => intro b st' h; cases h
  | case14 => intro b st' h; cases h
  | case15 => intro b st' h; cases h
  | case16 => intro b st' h; cases h

theorem exec_pc_mono (S : ScanI) (pat : List Atom) (fuel : Nat) (st : St) (mask ext : Nat) (b : Bool) (st' : St)
    (h : exec S pat fuel st mask ext = .ok (b, st')) : st.pc ≤ st'.pc :=
  (exec_inv (P := (st.pc ≤ ·)) (C := fun _ => True) (Q := fun _ => True)
    ⟨fun _ _ _ h => Nat.le_succ_of_le h, fun _ _ _ h => by omega, fun _ _ _ => trivial,
     fun _ _ _ _ _ _ _ _ _ _ _ _ _ => ⟨trivial, trivial⟩⟩ fuel st mask ext b st' h ⟨Nat.le_refl _, trivial, trivial⟩).1

/-- `self.pc` never exceeds `pat.len() + 255` (a `Break` / failed `Case` may move it past the end by
at most its `u8` argument, after which the loop ends): the `usize` additions cannot overflow. -/
theorem exec_pc_le (S : ScanI) (pat : List Atom) (hok : pat.all Atom.ok = true) (fuel : Nat) (st : St) (mask ext : Nat)
    (b : Bool) (st' : St) (h : exec S pat fuel st mask ext = .ok (b, st')) (hpc : st.pc ≤ pat.length + 255) :
    st'.pc ≤ pat.length + 255 :=
  (exec_inv (P := (· ≤ pat.length + 255)) (C := fun _ => True) (Q := fun _ => True)
    ⟨fun j _ hp _ => by have := (List.getElem?_eq_some_iff.1 hp).1; omega,
     fun j n hp _ => by
      have hn : n < 256 := by
        rcases hp with hp | hp <;> simpa [Atom.ok] using List.all_eq_true.1 hok _ (List.mem_of_getElem? hp)
      have : j < pat.length := by rcases hp with hp | hp <;> exact (List.getElem?_eq_some_iff.1 hp).1
      omega,
     fun _ _ _ => trivial, fun _ _ _ _ _ _ _ _ _ _ _ _ _ => ⟨trivial, trivial⟩⟩
    fuel st mask ext b st' h ⟨hpc, trivial, trivial⟩).1

def SaveOK (save : Array Nat) : Prop := ∀ (i v : Nat), save[i]? = some v → v < 4294967296

theorem saveSet_ok {save : Array Nat} (hs : SaveOK save) (slot : Nat) {v : Nat} (hv : v < 4294967296) :
    SaveOK (saveSet save slot v) := by
  intro i x hx
  simp only [saveSet, Array.getElem?_setIfInBounds] at hx
  split at hx
  · split at hx
    · cases hx; exact hv
    · cases hx
  · exact hs i x hx

def StoreStable (Q : Array Nat → Prop) : Prop := ∀ s k v, Q s → v < 4294967296 → Q (saveSet s k v)

def St.Keeps (Q : Array Nat → Prop) (st : St) : Prop := st.cursor < 4294967296 ∧ Q st.save

/-- `exec` stores only `u32`s: `Q` is any property of the save array that survives such stores
(`True`; "every slot is a `u32` and the length is `n`"). -/
theorem exec_keeps {S : ScanI} (hS : S.WF) (pat : List Atom) {Q : Array Nat → Prop} (hQ : StoreStable Q)
    (fuel : Nat) (st : St) (mask ext : Nat) (b : Bool) (st' : St)
    (h : exec S pat fuel st mask ext = .ok (b, st')) (hk : st.Keeps Q) : st'.Keeps Q :=
  (exec_inv (P := fun _ => True) (C := (· < 4294967296)) (Q := Q)
    ⟨fun _ _ _ _ => trivial, fun _ _ _ _ => trivial, fun _ _ _ => by simp only [wadd32]; omega,
     fun _ _ _ _ _ _ _ _ _ _ hs hc hq => by
      refine ⟨(step_some hs).2.2 hS hc, ?_⟩
      rcases (step_some hs).2.1 with h | ⟨k, v, _, h, hv⟩ <;> rw [h]
      · exact hq
      · exact hQ _ _ _ hq (hv hS hc)⟩
    fuel st mask ext b st' h ⟨trivial, hk⟩).2

theorem exec_cursor_lt {S : ScanI} (hS : S.WF) (pat : List Atom) :
    ∀ fuel st mask ext b st', exec S pat fuel st mask ext = .ok (b, st') →
      st.cursor < 4294967296 → st'.cursor < 4294967296 :=
  fun fuel st mask ext b st' h hc =>
    (exec_keeps hS pat (Q := fun _ => True) (fun _ _ _ _ _ => trivial) fuel st mask ext b st' h ⟨hc, trivial⟩).1

/-! ### totality -/

/-- The fuel is handed down to the nested calls and the loop continuation alike, so it bounds the depth
of the chain of active frames: every frame starts at a strictly larger `pc` than its caller's
current atom (`exec_pc_mono`), i.e. the Rust recursion depth is at most `pat.len() + 1`. -/
theorem exec_total {S : ScanI} (hS : S.WF) (pat : List Atom) :
    ∀ fuel st mask ext, pat.length - st.pc < fuel →
      ∃ r, exec S pat fuel st mask ext = .ok r := by
  intro fuel st mask ext
  fun_induction exec S pat fuel st mask ext with
  | case1 => intro h; omega
  | case2 => intro _; exact ⟨_, rfl⟩
  | case3 fuel st0 mask ext st skip cursor st1 h1 hp ih2 ih1 =>
    intro hf
    obtain ⟨hlt, _⟩ := List.getElem?_eq_some_iff.1 hp
    have := exec_pc_mono S pat _ _ _ _ _ _ h1
    exact ih1 (by simp only [st] at *; omega)
  | case4 fuel st0 mask ext st skip hp hne ih1 =>
    intro hf
    obtain ⟨hlt, _⟩ := List.getElem?_eq_some_iff.1 hp
    exact ih1 (by simp only [st] at *; omega)
  | case5 => intro _; exact ⟨_, rfl⟩
  | case6 fuel st0 mask ext st limit hp ih1 =>
    intro hf
    obtain ⟨hlt, _⟩ := List.getElem?_eq_some_iff.1 hp
    cases hsl : S.slice st.cursor with
    | none => rw [execMany_none hsl]; exact ⟨_, rfl⟩
    | some ol =>
      obtain ⟨off, len⟩ := ol
      rw [execMany_some hsl (by simp only [st]; omega)]
      apply manyLoop_total
      intro s hs
      exact ih1 _ (by rw [hs]; simp only [st]; omega)
  | case7 fuel st0 mask ext st next st1 h1 hp ih2 ih1 =>
    intro hf
    obtain ⟨hlt, _⟩ := List.getElem?_eq_some_iff.1 hp
    have := exec_pc_mono S pat _ _ _ _ _ _ h1
    exact ih1 (by simp only [st] at *; omega)
  | case8 fuel st0 mask ext st next st1 h1 hp ih2 ih1 =>
    intro hf
    obtain ⟨hlt, _⟩ := List.getElem?_eq_some_iff.1 hp
    exact ih1 (by simp only [st] at *; omega)
  | case9 fuel st0 mask ext st next hp hn1 hn2 ih1 =>
    intro hf
    obtain ⟨hlt, _⟩ := List.getElem?_eq_some_iff.1 hp
    obtain ⟨⟨b, s'⟩, hr⟩ := ih1 (by simp only [st]; omega)
    cases b
    · exact absurd hr (hn2 s')
    · exact absurd hr (hn1 s')
  | case10 => intro _; exact ⟨_, rfl⟩
  | case11 => intro _; exact ⟨_, rfl⟩
  | case12 fuel st0 mask ext st a _ _ _ _ _ st1 m1 e1 hs hp ih1 =>
    intro hf
    obtain ⟨hlt, _⟩ := List.getElem?_eq_some_iff.1 hp
    have := step_pc hs
    exact ih1 (by simp only [st] at *; omega)
  | case13 fuel st0 mask ext st a _ _ _ _ _ e hs => obtain ⟨o, ho⟩ := step_ok hS a st mask ext; rw [ho] at hs; cases hs
  | case14 fuel st0 mask ext st a _ _ _ _ _ e hs => obtain ⟨o, ho⟩ := step_ok hS a st mask ext; rw [ho] at hs; cases hs
  | case15 fuel st0 mask ext st a _ _ _ _ _ e hs => obtain ⟨o, ho⟩ := step_ok hS a st mask ext; rw [ho] at hs; cases hs
  | case16 fuel st0 mask ext st a _ _ _ _ _ hs => obtain ⟨o, ho⟩ := step_ok hS a st mask ext; rw [ho] at hs; cases hs

theorem run_exec {S : ScanI} {pat : List Atom} {c : Nat} {save save' : Array Nat} {b : Bool}
    (h : run S pat c save = .ok (b, save')) :
    ∃ st', exec S pat (fuelFor pat) ⟨0, c, save⟩ 0xff 0 = .ok (b, st') ∧ st'.save = save' := by
  unfold run at h
  split at h <;> try (cases h; done)
  next b' st hex =>
    simp only [Out.ok.injEq, Prod.mk.injEq] at h
    obtain ⟨rfl, rfl⟩ := h
    exact ⟨st, hex, rfl⟩

theorem run_total {S : ScanI} (hS : S.WF) (pat : List Atom) (c : Nat) (save : Array Nat) :
    ∃ b s, run S pat c save = .ok (b, s) := by
  obtain ⟨⟨b, st⟩, h⟩ := exec_total hS pat (fuelFor pat) ⟨0, c, save⟩ 0xff 0 (by simp [fuelFor])
  exact ⟨b, st.save, by simp only [run, h]⟩

/-! ### unfolding `exec` one atom at a time -/

/-- the atoms `exec` handles itself (recursive calls / early `return true`) -/
def isCtl : Atom → Bool
  | .push _ | .pop | .many _ | .case _ | .brk _ => true
  | _ => false

theorem exec_zero (S : ScanI) (pat : List Atom) (st : St) (m e : Nat) : exec S pat 0 st m e = .diverge := rfl

theorem exec_none {S : ScanI} {pat : List Atom} {fuel : Nat} {st : St} {m e : Nat}
    (hp : pat[st.pc]? = none) : exec S pat (fuel + 1) st m e = .ok (true, st) := by
  rw [exec]; simp only [hp]

theorem exec_push {S : ScanI} {pat : List Atom} {fuel : Nat} {st : St} {m e skip : Nat}
    (hp : pat[st.pc]? = some (.push skip)) :
    exec S pat (fuel + 1) st m e =
      match exec S pat fuel { st with pc := st.pc + 1 } 0xff 0 with
      | .ok (true, st') => exec S pat fuel { st' with cursor := wadd32 st.cursor (skipAmt S e skip) } 0xff 0
      | o => o := by
  rw [exec]; simp only [hp] <;> rfl

theorem exec_pop {S : ScanI} {pat : List Atom} {fuel : Nat} {st : St} {m e : Nat}
    (hp : pat[st.pc]? = some .pop) :
    exec S pat (fuel + 1) st m e = .ok (true, { st with pc := st.pc + 1 }) := by
  rw [exec]; simp only [hp]

theorem exec_many {S : ScanI} {pat : List Atom} {fuel : Nat} {st : St} {m e limit : Nat}
    (hp : pat[st.pc]? = some (.many limit)) :
    exec S pat (fuel + 1) st m e =
      execMany S pat (fun s => exec S pat fuel s 0xff 0) { st with pc := st.pc + 1 } (e + limit) := by
  rw [exec]; simp only [hp]

theorem exec_case {S : ScanI} {pat : List Atom} {fuel : Nat} {st : St} {m e next : Nat}
    (hp : pat[st.pc]? = some (.case next)) :
    exec S pat (fuel + 1) st m e =
      match exec S pat fuel { st with pc := st.pc + 1 } 0xff 0 with
      | .ok (true, st') => exec S pat fuel st' m e
      | .ok (false, st') => exec S pat fuel { st' with pc := st.pc + 1 + next, cursor := st.cursor } m e
      | o => o := by
  rw [exec]; simp only [hp] <;> rfl

theorem exec_brk {S : ScanI} {pat : List Atom} {fuel : Nat} {st : St} {m e next : Nat}
    (hp : pat[st.pc]? = some (.brk next)) :
    exec S pat (fuel + 1) st m e = .ok (true, { st with pc := st.pc + 1 + next }) := by
  rw [exec]; simp only [hp]

theorem exec_simple {S : ScanI} {pat : List Atom} {fuel : Nat} {st : St} {m e : Nat} {a : Atom}
    (hp : pat[st.pc]? = some a) (ha : isCtl a = false) :
    exec S pat (fuel + 1) st m e =
      match step S a { st with pc := st.pc + 1 } m e with
      | .ok none => .ok (false, { st with pc := st.pc + 1 })
      | .ok (some (st', m', e')) => exec S pat fuel st' m' e'
      | .err x => .err x
      | .panic s => .panic s
      | .ub s => .ub s
      | .diverge => .diverge := by
  rw [exec]; simp only [hp]
  cases a <;> first | (simp [isCtl] at ha; done) | rfl

/-! ### the prefix lemma -/

theorem and255 (v : Nat) : v &&& 255 = v % 256 := Nat.and_two_pow_sub_one_eq_mod v 8

/-- by induction on the fuel, not on `exec`: only the four atoms `setupGo` looks through (`Byte`, `Save`, `Aligned`,
`Nop`) matter, each through `exec_simple`; any other atom ends the prefix -/
theorem exec_prefix {S : ScanI} (hS : S.WF) (pat : List Atom) (hok : pat.all Atom.ok = true) :
    ∀ fuel st room e st', exec S pat fuel st 0xff e = .ok (true, st') →
      ∀ i b, (Scan.setupGo (pat.drop st.pc) room)[i]? = some b → S.read 1 (st.cursor + i) = some b := by
  intro fuel
  induction fuel with
  | zero => intro st room e st' h; cases h
  | succ fuel ih =>
    intro st room e st' h i b hb
    cases hp : pat[st.pc]? with
    | none =>
      rw [List.drop_eq_nil_of_le (List.getElem?_eq_none_iff.1 hp)] at hb
      simp [Scan.setupGo] at hb
    | some a =>
      obtain ⟨hlt, hget⟩ := List.getElem?_eq_some_iff.1 hp
      have haok : Atom.ok a = true := List.all_eq_true.1 hok a (List.mem_of_getElem? hp)
      rw [List.drop_eq_getElem_cons hlt, hget] at hb
      cases a with
      | byte b0 =>
        rw [exec_simple hp rfl] at h
        simp only [step] at h
        simp only [Scan.setupGo] at hb
        split at hb
        · simp at hb
        · cases hr : S.read 1 st.cursor with
          | none => simp [hr] at h
          | some v =>
            obtain ⟨hv1, hv2⟩ := hS.read1 _ _ hr
            by_cases hand : v &&& 255 = b0 &&& 255
            · simp only [hr, hand, if_true, hv1] at h
              simp only [and255] at hand
              have hb0 : b0 < 256 := by simpa [Atom.ok] using haok
              have hvb : v = b0 := by omega
              cases i with
              | zero =>
                simp only [List.getElem?_cons_zero, Option.some.injEq] at hb
                rw [Nat.add_zero, hr, hvb, hb]
              | succ j =>
                simp only [List.getElem?_cons_succ] at hb
                have := ih _ _ _ _ h j b hb
                simpa [Nat.add_assoc, Nat.add_comm 1 j] using this
            · simp [hr, hand] at h
      | save slot =>
        rw [exec_simple hp rfl] at h
        simp only [step] at h
        simp only [Scan.setupGo] at hb
        exact ih _ _ _ _ h i b hb
      | aligned n =>
        rw [exec_simple hp rfl] at h
        simp only [step] at h
        simp only [Scan.setupGo] at hb
        by_cases hal : n < 32 ∧ st.cursor % 2 ^ n ≠ 0
        · simp [hal] at h
        · simp only [hal, if_false] at h
          exact ih _ _ _ _ h i b hb
      | nop =>
        rw [exec_simple hp rfl] at h
        simp only [step] at h
        simp only [Scan.setupGo] at hb
        exact ih _ _ _ _ h i b hb
      | _ => simp [Scan.setupGo] at hb

/-- what makes strategies 1 and 2 complete: where `Scanner::exec` succeeds the image holds `qsbuf[..qslen]` -/
theorem run_prefix {S : ScanI} (hS : S.WF) (pat : List Atom) (hok : pat.all Atom.ok = true)
    (c : Nat) (save s' : Array Nat) (h : run S pat c save = .ok (true, s')) :
    ∀ i b, (Scan.setup pat)[i]? = some b → S.read 1 (c + i) = some b := by
  obtain ⟨st, hex, _⟩ := run_exec h
  intro i b hb
  exact exec_prefix hS pat hok _ ⟨0, c, save⟩ Scan.QS_BUF_LEN 0 st hex i b (by simpa [Scan.setup] using hb)

/-! ### two executions in lock step -/

abbrev St.on (st : St) (t : Array Nat) : St := { st with save := t }

def StepSim (S : ScanI) (pat : List Atom) (R : Array Nat → Array Nat → Prop) : Prop :=
  ∀ a ∈ pat, ∀ (st : St) t m e o, R st.save t → step S a st m e = .ok o →
    match o with
    | none => step S a (st.on t) m e = .ok none
    | some (u, m', e') => ∃ t', step S a (st.on t) m e = .ok (some (u.on t', m', e')) ∧ R u.save t'

theorem isCtl_false {a : Atom} (h1 : ∀ n, a = .push n → False) (h2 : a = .pop → False) (h3 : ∀ n, a = .many n → False)
    (h4 : ∀ n, a = .case n → False) (h5 : ∀ n, a = .brk n → False) : isCtl a = false := by
  cases a <;>
    first | rfl | exact (h1 _ rfl).elim | exact (h2 rfl).elim | exact (h3 _ rfl).elim | exact (h4 _ rfl).elim | exact (h5 _ rfl).elim

theorem manyLoop_sim {R : Array Nat → Array Nat → Prop} {mem : Bytes} {ex1 ex2 : St → Out (Bool × St)}
    {cursor pc off : Nat} {peek : Option Nat}
    (hex : ∀ s t b u, ex1 s = .ok (b, u) → R s.save t → ∃ t', ex2 (s.on t) = .ok (b, u.on t') ∧ R u.save t') :
    ∀ k i s t b u, manyLoop mem ex1 cursor pc off peek k i s = .ok (b, u) → R s.save t →
      ∃ t', manyLoop mem ex2 cursor pc off peek k i (s.on t) = .ok (b, u.on t') ∧ R u.save t' := by
  intro k
  induction k with
  | zero => intro i s t b u h hs; cases h; exact ⟨t, rfl, hs⟩
  | succ k ih =>
    intro i s t b u h hs
    simp only [manyLoop] at h ⊢
    split
    · next hpk =>
      rw [if_pos hpk] at h
      cases hx : ex1 { s with cursor := wadd32 cursor i, pc := pc } with
      | ok v =>
        obtain ⟨b1, w1⟩ := v
        obtain ⟨t', hw2, hws⟩ := hex _ t _ _ hx hs
        rw [hx] at h
        simp only [St.on] at hw2 ⊢
        rw [hw2]
        cases b1
        · exact ih _ _ _ _ _ h hws
        · cases h; exact ⟨t', rfl, hws⟩
      | _ => rw [hx] at h; cases h
    · next hpk => rw [if_neg hpk] at h; exact ih _ _ _ _ _ h hs

/-- The two uses: `R = Eq` (every pattern; what is left is that more fuel changes nothing) and patterns
without `Check` / `Pir` with any `R` stable under equal stores (the save array is not looked at). -/
theorem exec_sim {S : ScanI} {pat : List Atom} {R : Array Nat → Array Nat → Prop} (hS : StepSim S pat R) :
    ∀ fuel st m e b u, exec S pat fuel st m e = .ok (b, u) → ∀ d t, R st.save t →
      ∃ t', exec S pat (fuel + d) (st.on t) m e = .ok (b, u.on t') ∧ R u.save t' := by
  intro fuel st m e
  fun_induction exec S pat fuel st m e with
  | case1 => intro b u h; cases h
  | case2 fuel st0 mask ext hp =>
    intro b u h d t hs
    rw [Nat.succ_add]
    cases h
    exact ⟨t, exec_none (st := st0.on t) hp, hs⟩
  | case3 fuel st0 mask ext st skip cursor st1 h1 hp ih2 ih1 =>
    intro b u h d t hs
    rw [Nat.succ_add]
    obtain ⟨t1, hw2, hws⟩ := ih2 _ _ h1 d t hs
    rw [exec_push (st := st0.on t) hp]
    simp only [St.on] at hw2 ⊢
    rw [hw2]
    exact ih1 _ _ h d t1 hws
  | case4 fuel st0 mask ext st skip hp hne ih1 =>
    intro b u h d t hs
    rw [Nat.succ_add]
    cases b with
    | true => exact absurd h (hne u)
    | false =>
      obtain ⟨t1, hw2, hws⟩ := ih1 _ _ h d t hs
      rw [exec_push (st := st0.on t) hp]
      simp only [St.on] at hw2 ⊢
      rw [hw2]; exact ⟨t1, rfl, hws⟩
  | case5 fuel st0 mask ext st hp =>
    intro b u h d t hs
    rw [Nat.succ_add]
    cases h
    exact ⟨t, exec_pop (st := st0.on t) hp, hs⟩
  | case6 fuel st0 mask ext st limit hp ih1 =>
    intro b u h d t hs
    rw [Nat.succ_add]
    rw [exec_many (st := st0.on t) hp]
    obtain ⟨hlt, _⟩ := List.getElem?_eq_some_iff.1 hp
    cases hsl : S.slice st.cursor with
    | none =>
      rw [execMany_none hsl] at h; cases h
      exact ⟨t, execMany_none (st := st.on t) hsl, hs⟩
    | some ol =>
      obtain ⟨off, len⟩ := ol
      rw [execMany_some hsl (by simp only [st]; omega)] at h
      rw [execMany_some (st := st.on t) hsl (by simp only [st]; omega)]
      exact manyLoop_sim (fun s t b u hx hss => ih1 s b u hx d t hss) _ _ _ _ _ _ h hs
  | case7 fuel st0 mask ext st next st1 h1 hp ih2 ih1 =>
    intro b u h d t hs
    rw [Nat.succ_add]
    obtain ⟨t1, hw2, hws⟩ := ih2 _ _ h1 d t hs
    rw [exec_case (st := st0.on t) hp]
    simp only [St.on] at hw2 ⊢
    rw [hw2]
    exact ih1 _ _ h d t1 hws
  | case8 fuel st0 mask ext st next st1 h1 hp ih2 ih1 =>
    intro b u h d t hs
    rw [Nat.succ_add]
    obtain ⟨t1, hw2, hws⟩ := ih2 _ _ h1 d t hs
    rw [exec_case (st := st0.on t) hp]
    simp only [St.on] at hw2 ⊢
    rw [hw2]
    exact ih1 _ _ h d t1 hws
  | case9 fuel st0 mask ext st next hp hn1 hn2 ih1 =>
    intro b u h; cases b
    · exact absurd h (hn2 u)
    · exact absurd h (hn1 u)
  | case10 fuel st0 mask ext st next hp =>
    intro b u h d t hs
    rw [Nat.succ_add]
    cases h
    exact ⟨t, exec_brk (st := st0.on t) hp, hs⟩
  | case11 fuel st0 mask ext st a hc1 hc2 hc3 hc4 hc5 hst hp =>
    intro b u h d t hs
    rw [Nat.succ_add]
    cases h
    have := hS a (List.mem_of_getElem? hp) st t _ _ _ hs hst
    rw [exec_simple (st := st0.on t) hp (isCtl_false hc1 hc2 hc3 hc4 hc5)]
    simp only [St.on] at this ⊢
    rw [this]
    exact ⟨t, rfl, hs⟩
  | case12 fuel st0 mask ext st a hc1 hc2 hc3 hc4 hc5 st1 m1 e1 hst hp ih1 =>
    intro b u h d t hs
    rw [Nat.succ_add]
    obtain ⟨t1, hw2, hws⟩ := hS a (List.mem_of_getElem? hp) st t _ _ _ hs hst
    rw [exec_simple (st := st0.on t) hp (isCtl_false hc1 hc2 hc3 hc4 hc5)]
    simp only [St.on] at hw2 ⊢
    rw [hw2]
    exact ih1 _ _ h d t1 hws
  | case13 => intro b u h; cases h
  | case14 => intro b u h; cases h
  | case15 => intro b u h; cases h
  | case16 => intro b u h; cases h

def SetStable (R : Array Nat → Array Nat → Prop) : Prop :=
  ∀ t1 t2 k v, R t1 t2 → R (saveSet t1 k v) (saveSet t2 k v)

theorem stepSim_of_noRead {S : ScanI} {pat : List Atom} {R : Array Nat → Array Nat → Prop} (hset : SetStable R)
    (hnr : pat.all Scan.noRead = true) : StepSim S pat R := by
  intro a ha st t m e o hR h
  have hn := List.all_eq_true.1 hnr a ha
  cases a <;> simp only [Scan.noRead, reduceCtorEq] at hn <;> simp only [step, St.on] at h ⊢ <;> (repeat' split at h) <;>
    simp only [Out.ok.injEq, reduceCtorEq] at h <;> subst h <;>
    first
    -- `Aligned` when it fails | after rewriting with the reads of the first run: no match, a match that leaves
    -- the save array alone, a match that stores (the same value in the same slot of both)
    | exact if_pos ‹_›
    | ((try simp only [*, if_true, if_false]) <;>
        first | rfl | exact ⟨_, rfl, hR⟩ | exact ⟨_, rfl, hset _ _ _ _ hR⟩)

theorem exec_mono_le (S : ScanI) (pat : List Atom) {fuel fuel' : Nat} (hle : fuel ≤ fuel') {st m e r}
    (h : exec S pat fuel st m e = .ok r) : exec S pat fuel' st m e = .ok r := by
  have hS : StepSim S pat Eq := by
    intro a _ st t m e o hs h
    subst hs
    cases o with
    | none => exact h
    | some u => exact ⟨_, h, rfl⟩
  obtain ⟨d, rfl⟩ := Nat.exists_eq_add_of_le hle
  obtain ⟨t', h2, rfl⟩ := exec_sim hS fuel st m e r.1 r.2 h d _ rfl
  exact h2

theorem exec_total_uniform {S : ScanI} (hS : S.WF) (pat : List Atom) (st : St) (m e : Nat) :
    ∃ r, ∀ fuel, pat.length - st.pc < fuel → exec S pat fuel st m e = .ok r := by
  obtain ⟨r, hr⟩ := exec_total hS pat (pat.length + 1) st m e (by omega)
  refine ⟨r, fun fuel hf => ?_⟩
  obtain ⟨r', hr'⟩ := exec_total hS pat fuel st m e hf
  have h2 := exec_mono_le S pat (Nat.le_max_right fuel (pat.length + 1)) hr
  rw [exec_mono_le S pat (Nat.le_max_left fuel (pat.length + 1)) hr'] at h2
  rw [hr', h2]

theorem run_sim (S : ScanI) (pat : List Atom) (hnr : pat.all Scan.noRead = true)
    {R : Array Nat → Array Nat → Prop} (hset : SetStable R) (c : Nat) {s1 s2 t1 : Array Nat} (hR : R s1 s2)
    {b : Bool} (h : run S pat c s1 = .ok (b, t1)) : ∃ t2, run S pat c s2 = .ok (b, t2) ∧ R t1 t2 := by
  obtain ⟨u1, hex, rfl⟩ := run_exec h
  obtain ⟨t2, h2, hs⟩ := exec_sim (stepSim_of_noRead hset hnr) _ _ _ _ _ _ hex 0 s2 hR
  exact ⟨t2, by simp only [run, St.on, Nat.add_zero] at h2 ⊢; rw [h2], hs⟩

theorem run_save_indep (S : ScanI) (pat : List Atom) (hnr : pat.all Scan.noRead = true)
    (c : Nat) (s1 s2 t1 : Array Nat) (b : Bool) (h : run S pat c s1 = .ok (b, t1)) :
    ∃ t2, run S pat c s2 = .ok (b, t2) :=
  let ⟨t2, h2, _⟩ := run_sim S pat hnr (R := fun _ _ => True) (fun _ _ _ _ _ => trivial) c trivial h
  ⟨t2, h2⟩

def SaveRel (s1 s2 t1 t2 : Array Nat) : Prop :=
  t1.size = t2.size ∧ ∀ i : Nat, t1[i]? = t2[i]? ∨ (t1[i]? = s1[i]? ∧ t2[i]? = s2[i]?)

theorem SaveRel.refl {s1 s2 : Array Nat} (h : s1.size = s2.size) : SaveRel s1 s2 s1 s2 :=
  ⟨h, fun _ => .inr ⟨rfl, rfl⟩⟩

theorem SaveRel.set {s1 s2 t1 t2 : Array Nat} (h : SaveRel s1 s2 t1 t2) (k v : Nat) :
    SaveRel s1 s2 (saveSet t1 k v) (saveSet t2 k v) := by
  refine ⟨by simp [saveSet, h.1], fun i => ?_⟩
  simp only [saveSet, Array.getElem?_setIfInBounds, h.1]
  by_cases hk : k = i
  · simp [hk]
  · simp only [hk, if_false]; exact h.2 i

theorem run_captures_indep (S : ScanI) (pat : List Atom) (hnr : pat.all Scan.noRead = true)
    (c : Nat) (s1 s2 t1 : Array Nat) (hsz : s1.size = s2.size) (b : Bool) (h : run S pat c s1 = .ok (b, t1)) :
    ∃ t2, run S pat c s2 = .ok (b, t2) ∧ SaveRel s1 s2 t1 t2 :=
  run_sim S pat hnr (R := SaveRel s1 s2) (fun _ _ k v h => h.set k v) c (SaveRel.refl hsz) h

/-! ### the two implementations of `trait Scan` -/

theorem leN_eq (b : Bytes) (w off : Nat) : leN b w off = Pe.leN b off w := by unfold leN Pe.leN; rfl

theorem leN_lt (b : Bytes) (w off : Nat) : leN b w off < 256 ^ w := by
  unfold leN
  split
  · exact byteAt_lt _ _
  · exact le16_lt _ _
  · exact le32_lt _ _
  · exact le64_lt _ _
  · exact Nat.pow_pos (by decide)

theorem ofRaw_wf (f : Pe.Fmt) (b : Bytes) (hb : b.size < 4294967296) : (ofRaw f b).WF := by
  refine ⟨?_, ?_, ?_⟩
  · intro rva v h
    simp only [ofRaw] at h
    split at h
    · simp only [Option.some.injEq] at h
      subst h
      exact ⟨by omega, byteAt_lt _ _⟩
    · cases h
  · intro w rva v h
    simp only [ofRaw] at h
    split at h
    · simp only [Option.some.injEq] at h
      subst h
      exact leN_lt _ _ _
    · cases h
  · intro va r h
    simp only [ofRaw, Option.some.injEq] at h
    omega

open Pelite.Pe in
theorem ofView_read_view {v : Pe.View} (hk : v.kind = .view) {w rva x : Nat}
    (h : (ofView v).read w rva = some x) : rva ≠ 0 ∧ rva + w ≤ v.b.size ∧ x = leN v.b w rva := by
  simp only [ofView, View.slice, hk] at h
  split at h
  · next r hr =>
    obtain ⟨h0, -, -, h1, h2, rfl⟩ := (sliceSection_ok_iff ..).1 hr
    cases h
    exact ⟨h0, by show _ ≤ v.img.bytes.size; omega, rfl⟩
  · cases h

open Pelite.Pe in
theorem ofView_read_file {v : Pe.View} (hk : v.kind = .file) {w rva x : Nat}
    (h : (ofView v).read w rva = some x) :
    ∃ s o l, firstV v.secs rva = some s ∧ rangeOne v.b.size s rva w = .ok (o, l) ∧ x = leN v.b w o := by
  simp only [ofView, View.slice, hk] at h
  split at h
  · next r hr =>
    obtain ⟨_, _, _, o, l, hrf, _, rfl⟩ := (sliceFile_ok_iff_range _ _ _ _ _ _).1 hr
    rw [rangeFile_eq] at hrf
    simp only [Option.some.injEq] at h
    cases hf : firstV v.secs rva with
    | none => simp [hf] at hrf
    | some s =>
      simp only [hf] at hrf
      exact ⟨s, o, l, rfl, hrf, h.symm⟩
  · cases h

open Pelite.Pe in
/-- `impl Scan for P: Pe`: a one-byte read that succeeds lies strictly below `u32::MAX` — on file views
because the section's virtual end `va.wrapping_add(max(vs, rs))` is a `u32` above the rva, on mapped views
because the rva is inside the buffer. -/
theorem ofView_wf (v : Pe.View) (hsz : v.b.size < 4294967296) : (ofView v).WF := by
  refine ⟨?_, ?_, ?_⟩
  · intro rva x h
    cases hk : v.kind with
    | view =>
      obtain ⟨_, h2, rfl⟩ := ofView_read_view hk h
      exact ⟨by omega, byteAt_lt _ _⟩
    | file =>
      obtain ⟨s, o, l, hf, _, rfl⟩ := ofView_read_file hk h
      have hc := (containsRva_iff s rva).1 (firstV_some hf).2
      refine ⟨?_, byteAt_lt _ _⟩
      have : wadd32 s.va (max s.vs s.rs) < 4294967296 := by unfold wadd32; omega
      omega
  · intro w rva x h
    simp only [ofView] at h
    split at h
    · simp only [Option.some.injEq] at h
      subst h
      exact leN_lt _ _ _
    · cases h
  · intro va r h
    simp only [ofView, View.vaToRva] at h
    have := le32_lt v.b (optOff v.b + 56)
    split at h
    · next r' hr =>
      split at hr
      · cases hr
      · split at hr
        · cases hr
        · simp only [Out.ok.injEq] at hr
          simp only [Option.some.injEq] at h
          unfold sizeOfImage at *
          omega
    · cases h

/-- the form in which a scan over a hand-built image is evaluated: reads as digits of one number (`Bytes.toNat`) -/
theorem ofView_toNat (v : Pe.View) : ofView v =
    { mem := v.b, fmt := v.fmt,
      read := fun w rva => match v.slice rva w 1 with
        | .ok r => some (if w = 1 ∨ w = 2 ∨ w = 4 ∨ w = 8 then v.b.toNat / 256 ^ r.off % 256 ^ w else 0)
        | _ => none
      pointer := fun va => match v.vaToRva va with
        | .ok r => some r
        | _ => none
      slice := fun rva => match v.slice rva 0 1 with
        | .ok r => some (r.off, r.len)
        | _ => none } := by
  unfold ofView
  congr
  funext w rva
  cases v.slice rva w 1 with
  | ok r => exact congrArg some ((leN_eq ..).trans (Pe.leN_toNat v.b r.off w))
  | _ => rfl

end Pelite.Exec

/-! ### the two implementations of `trait Scan` are coherent -/

namespace Pelite.PatSem
open Pelite.Exec

/-- `slice` and one-byte `read`s see the same bytes (what makes `exec_many`'s `memchr` shortcut sound) -/
def Coherent (S : ScanI) : Prop :=
  ∀ c off len i, S.slice c = some (off, len) → i < len → S.read 1 (wadd32 c i) = some (byteAt S.mem (off + i))

theorem coherent_ofRaw (f : Pe.Fmt) (b : Bytes) (hb : b.size < 4294967296) : Coherent (ofRaw f b) := by
  intro c off len i hs hi
  simp only [ofRaw] at hs ⊢
  split at hs
  · next hle =>
    simp only [Option.some.injEq, Prod.mk.injEq] at hs
    obtain ⟨rfl, rfl⟩ := hs
    have hw : wadd32 c i = c + i := wadd32_eq (by omega)
    rw [hw]
    have : c + i + 1 ≤ b.size := by omega
    simp only [this, if_true, leN]
  · cases hs

open Pelite.Pe in
/-- mapped images (`PeView`): `slice_bytes` and `derva_copy` both index the mapped image by rva -/
theorem coherent_ofView_view (v : Pe.View) (hk : v.kind = .view) (hsz : v.b.size < 4294967296) :
    Coherent (ofView v) := by
  intro c off len i hs hi
  have hsz' : v.img.bytes.size < 4294967296 := hsz
  simp only [ofView, View.slice, hk] at hs ⊢
  split at hs
  · next r hr =>
    obtain ⟨h0, -, -, h1, -, rfl⟩ := (sliceSection_ok_iff ..).1 hr
    cases hs
    dsimp only at hi
    have hw : wadd32 c i = c + i := wadd32_eq (by omega)
    rw [hw, (sliceSection_ok_iff ..).2 ⟨by omega, by decide, Nat.mod_one _, by omega, by omega, rfl⟩]
    rfl
  · cases hs

def SecsDisjoint (secs : List Pe.Sec) : Prop :=
  ∀ s ∈ secs, ∀ t ∈ secs, ∀ x, s.containsRva x = true → t.containsRva x = true → s = t

open Pelite.Pe in
theorem firstV_unique {secs : List Sec} {s : Sec} {x : Nat} (hd : SecsDisjoint secs) (hm : s ∈ secs)
    (hc : s.containsRva x = true) : firstV secs x = some s := by
  cases hf : firstV secs x with
  | none =>
    unfold firstV at hf
    have := List.find?_eq_none.1 hf s hm
    simp [hc] at this
  | some t =>
    obtain ⟨ht1, ht2⟩ := firstV_some hf
    rw [hd t ht1 s hm x ht2 hc]

open Pelite.Pe in
/-- file images (`PeFile`) whose sections do not overlap: both `slice_bytes` and `derva_copy` resolve
the rva through the one section that contains it -/
theorem coherent_ofView_file (v : Pe.View) (hk : v.kind = .file) (hd : SecsDisjoint v.secs) : Coherent (ofView v) := by
  intro c off len i hs hi
  have hin : ∀ s ∈ v.secs, s.InRange := sections_in_range v.b
  simp only [ofView, View.slice, hk] at hs ⊢
  split at hs
  · next r hr =>
    simp only [Option.some.injEq, Prod.mk.injEq] at hs
    obtain ⟨rfl, rfl⟩ := hs
    -- `c + i` lies in the section that resolves `c`, and does not wrap
    obtain ⟨-, -, -, s, hf, -, -, -, -, -, rfl⟩ := (sliceFile_ok_iff _ _ hin ..).1 hr
    obtain ⟨hsm, hsc⟩ := firstV_some hf
    obtain ⟨n1, n2, n3⟩ := containsRva_nowrap (hin s hsm) hsc
    have hi' : i < s.rs - (c - s.va) := hi
    have hm := Nat.le_max_right s.vs s.rs
    have hsc' : s.containsRva (c + i) = true := by
      rw [containsRva_iff, wadd32_eq n3]
      omega
    rw [wadd32_eq (show c + i < 4294967296 by omega),
      sliceFile_shift hin hr (Nat.mod_one _) (Nat.succ_le_of_lt hi) hi ((firstV_unique hd hsm hsc').trans hf.symm)]
    simp only [Exec.leN]
  · cases hs

end Pelite.PatSem
