import PeliteModel.Spec.Imports
import PeliteModel.Lemmas.Typed
/-! C09: the model's scans computed by `firstIdx`, hence model = executable specification (`…_eq_spec`), and the
specification against the layout relations of `Spec/Imports.lean`. -/
namespace Pelite.Imports
open Pelite Pelite.Pe

theorem firstIdx_some {n : Nat} {p : Nat → Bool} {k : Nat} :
    firstIdx n p = some k ↔ k < n ∧ p k = true ∧ ∀ j, j < k → p j = false := by
  unfold firstIdx
  rw [List.find?_range_eq_some]
  simp only [List.mem_range, Bool.not_eq_true']
  exact ⟨fun ⟨a, b, c⟩ => ⟨b, a, c⟩, fun ⟨a, b, c⟩ => ⟨b, a, c⟩⟩

/-- The two counts without their `match`: through these `Out.ofOption`'s lemmas apply, and an evaluation can rewrite the reads
under the `firstIdx` (Prim/Basic, reads as digits of one number). -/
theorem specDescCount_eq (b : Bytes) (off len : Nat) :
    specDescCount b off len = .ofOption .bounds (firstIdx (len / 20) fun i => ftAt b off i == 0) := by
  rw [specDescCount]; cases firstIdx (len / 20) fun i => ftAt b off i == 0 <;> rfl

theorem specThunkCount_eq (b : Bytes) (off len sz : Nat) :
    specThunkCount b off len sz = .ofOption .bounds (firstIdx (len / sz) fun i => leN b (off + i * sz) sz == 0) := by
  rw [specThunkCount]; cases firstIdx (len / sz) fun i => leN b (off + i * sz) sz == 0 <;> rfl

/-! ### the descriptor scan -/

/-- Inside the buffer and 4-aligned the unchecked reference is defined, and the scan is the generic loop of
`derva_slice_f` whose `j`-th call reads the `FirstThunk` field of record `j`. -/
theorem descLoop_eq_I {img : Img} {off blen : Nat} (hw : off + blen ≤ img.bytes.size)
    (ha : (img.base + off) % 4 = 0) : ∀ fuel len, descLoop img off blen fuel len =
      sliceFLoopI img.bytes off blen 20 (fun j _ => ftAt img.bytes off j == 0) fuel len
  | 0, _ => rfl
  | fuel + 1, len => by
    rw [descLoop, sliceFLoopI]
    show (if len * 20 + 20 > blen then _ else _) = _
    split
    · rfl
    · rw [rawRef_eq_ok (by simp only [descSize]; omega) (by simp only [descSize, descAlign]; omega)]
      have e : off + len * descSize + offFT = off + 20 * len + 16 := by simp only [descSize, offFT]; omega
      simp only [isNullAt, ftAt, e, descLoop_eq_I hw ha fuel]
      rfl

theorem descLoop_eq_first {img : Img} {off blen : Nat} (hw : off + blen ≤ img.bytes.size)
    (ha : (img.base + off) % 4 = 0) :
    descLoop img off blen (blen + 2) 0 = specDescCount img.bytes off blen := by
  rw [descLoop_eq_I hw ha, sliceFLoopI_eq_find (by decide), specDescCount_eq]
  rfl

/-! ### model = executable specification -/

theorem vaSize_pos (f : Fmt) : 1 ≤ vaSize f := by cases f <;> decide
theorem vaSize_pow2 (f : Fmt) : isPow2 (vaSize f) = true := by cases f <;> decide

theorem tryFrom_eq_spec (v : View) : tryFrom v = specTryFrom v := by
  unfold tryFrom specTryFrom
  cases hd : v.dataDir dirImport with
  | none => rfl
  | some p =>
    obtain ⟨rva, sz⟩ := p
    simp only [descAlign, descSize]
    cases hat : v.at (.rva rva) 0 4 with
    | ok w =>
      obtain ⟨⟨hw, ha⟩, _, hal⟩ := v.at_sound _ _ _ _ hat
      rw [hal] at ha
      simp only [Out.bind_ok]
      rw [descLoop_eq_first hw ha]
      show _ = match specDescCount v.img.bytes w.off w.len with
        | .ok n => _ | .err e => _ | .panic s => _ | .ub s => _ | .diverge => _
      cases specDescCount v.img.bytes w.off w.len <;> rfl
    | _ => rfl

theorem thunks_eq_spec (v : View) (rva : Nat) :
    v.dervaSliceS (.rva rva) (vaSize v.fmt) (vaSize v.fmt) 0 = specThunks v rva := by
  rw [v.dervaSliceS_eq_I, dervaSliceFI_eq _ _ _ _ (vaSize_pos _)]
  unfold specThunks specThunkCount firstIdx
  cases v.at (.rva rva) 0 (vaSize v.fmt) with
  | ok w => dsimp only [Out.bind]; cases List.find? _ _ <;> rfl
  | _ => rfl

theorem cstr_eq_spec (v : View) (rva : Nat) : v.dervaCStr (.rva rva) = specCStr v rva := by
  rw [dervaCStr_eq_bind]
  unfold specCStr cstrFromBytes firstIdx
  cases v.at (.rva rva) 0 1 with
  | ok w => dsimp only [Out.bind]; rw [findNul_eq, ← List.range_eq_range']; cases List.find? _ _ <;> rfl
  | _ => rfl

theorem thunks_okOrErr (v : View) (rva : Nat) :
    OkOrErr (v.dervaSliceS (.rva rva) (vaSize v.fmt) (vaSize v.fmt) 0) := by
  rw [View.dervaSliceS_eq_I]
  exact dervaSliceFI_okOrErr v _ _ _ _ (vaSize_pos _) (vaSize_pow2 _)

theorem land_two_pow_eq_zero (x n : Nat) : x &&& 2 ^ n = 0 ↔ x.testBit n = false := by
  constructor
  · intro h
    have := congrArg (fun y => Nat.testBit y n) h
    simpa [Nat.testBit_and, Nat.testBit_two_pow_self] using this
  · intro h
    apply Nat.eq_of_testBit_eq
    intro i
    simp only [Nat.testBit_and, Nat.testBit_two_pow, Nat.zero_testBit]
    by_cases hn : n = i
    · subst hn; simp [h]
    · simp [hn]

theorem testBit_top {va n : Nat} (h : va < 2 ^ (n + 1)) : va.testBit n = true ↔ 2 ^ n ≤ va :=
  ⟨Nat.ge_two_pow_of_testBit, fun hle => Nat.testBit_of_two_pow_le_and_two_pow_add_one_gt hle h⟩

/-- `va & IMAGE_ORDINAL_FLAG == 0` tests the most significant bit of the thunk's own width -/
theorem flag_test (f : Fmt) (va : Nat) : (va &&& ordinalFlag f = 0) ↔ isOrdinal f va = false := by
  cases f
  · exact land_two_pow_eq_zero va 31
  · exact land_two_pow_eq_zero va 63

theorem import_eq_spec (v : View) (hsz : v.img.bytes.size < 4294967296) (va : Nat) :
    importFromVa v va = specImport v va := by
  unfold importFromVa specImport decodeThunk
  by_cases hf : va &&& ordinalFlag v.fmt = 0
  · rw [if_pos hf, (flag_test _ _).1 hf]
    simp only [Bool.false_eq_true, if_false]
    rw [derva_eq_bind]
    cases hat : v.at (.rva (va % 4294967296)) 2 2 with
    | ok s =>
      simp only [Out.bind_ok, Out.bind, padd32_ok (v.at_rva_add_lt hsz hat)]
      rw [cstr_eq_spec]
      cases specCStr v (va % 4294967296 + 2) <;> rfl
    | _ => rfl
  · rw [if_neg hf]
    have : isOrdinal v.fmt va = true := by
      cases h : isOrdinal v.fmt va with
      | true => rfl
      | false => exact absurd ((flag_test _ _).2 h) hf
    rw [this]
    rfl

theorem import_name_refok {v : View} {va h : Nat} {nm : Ref}
    (hi : importFromVa v va = .ok (.byName h nm)) : RefOK v.img nm := by
  unfold importFromVa at hi
  split at hi
  · obtain ⟨hint, _, hi⟩ := Out.bind_eq_ok hi
    obtain ⟨rva2, _, hi⟩ := Out.bind_eq_ok hi
    obtain ⟨name, hn, hi⟩ := Out.bind_eq_ok hi
    cases hi
    exact (dervaCStr_sound v hn).1
  · cases hi

theorem iat_eq_spec (v : View) : iatTryFrom v = specIat v := by
  unfold iatTryFrom specIat
  cases hd : v.dataDir dirIAT with
  | none => rfl
  | some p =>
    obtain ⟨rva, size⟩ := p
    obtain ⟨_, hlt⟩ := dataDir_lt hd
    dsimp only
    rw [dervaSlice_unfold]
    have hle : vaSize v.fmt * (size / vaSize v.fmt) ≤ size := Nat.mul_div_le _ _
    rw [if_neg (by omega), Nat.mul_comm]
    cases v.at (.rva rva) (size / vaSize v.fmt * vaSize v.fmt) (vaSize v.fmt) <;> rfl

/-! ### the executable specification against the layout relations -/

theorem specDescCount_ok_iff (b : Bytes) (off len n : Nat) :
    specDescCount b off len = .ok n ↔ IsImportDir b off len n := by
  rw [specDescCount_eq]
  refine ofOption_eq_ok.trans (firstIdx_some.trans ?_)
  simp only [beq_iff_eq, beq_eq_false_iff_ne]
  exact ⟨fun ⟨h1, h2, h3⟩ => ⟨by omega, h3, h2⟩, fun ⟨h1, h2, h3⟩ => ⟨by omega, h3, h2⟩⟩

theorem specDescCount_bounds (b : Bytes) (off len : Nat) (h : ∀ n, ¬ IsImportDir b off len n) :
    specDescCount b off len = .err .bounds := by
  have hn : ∀ n, specDescCount b off len ≠ .ok n := fun n hn => h n ((specDescCount_ok_iff ..).1 hn)
  rw [specDescCount_eq] at hn ⊢
  exact ofOption_eq_err hn

theorem specThunkCount_ok_iff (b : Bytes) (off len sz n : Nat) (hs : 1 ≤ sz) :
    specThunkCount b off len sz = .ok n ↔ IsThunkTable b off len sz n := by
  rw [specThunkCount_eq]
  refine ofOption_eq_ok.trans (firstIdx_some.trans ?_)
  simp only [beq_iff_eq, beq_eq_false_iff_ne]
  have hd := Nat.le_div_iff_mul_le (show 0 < sz by omega) (x := n + 1) (y := len)
  exact ⟨fun ⟨h1, h2, h3⟩ => ⟨hd.1 h1, h3, h2⟩, fun ⟨h1, h2, h3⟩ => ⟨hd.2 h1, h3, h2⟩⟩

theorem specThunkCount_bounds (b : Bytes) (off len sz : Nat) (hs : 1 ≤ sz)
    (h : ∀ n, ¬ IsThunkTable b off len sz n) : specThunkCount b off len sz = .err .bounds := by
  have hn : ∀ n, specThunkCount b off len sz ≠ .ok n := fun n hn => h n ((specThunkCount_ok_iff _ _ _ _ _ hs).1 hn)
  rw [specThunkCount_eq] at hn ⊢
  exact ofOption_eq_err hn

theorem firstNul_some_iff (b : Bytes) (off len n : Nat) :
    firstIdx len (fun i => byteAt b (off + i) == 0) = some n ↔ IsCStr b off len n := by
  constructor
  · intro hf
    obtain ⟨h1, h2, h3⟩ := firstIdx_some.1 hf
    exact ⟨by omega, fun i hi => by simpa using h3 i hi, by simpa using h2⟩
  · rintro ⟨h1, h2, h3⟩
    exact firstIdx_some.2 ⟨by omega, by simpa using h3, fun j hj => by simpa using h2 j hj⟩

theorem answer_ok_iff {P : Nat → Prop} {mk : Nat → Ref} {E : Err} {res : Out Ref}
    (hA : ∀ n, P n → res = .ok (mk n)) (hB : (∀ n, ¬ P n) → res = .err E) (r : Ref) :
    res = .ok r ↔ ∃ n, P n ∧ r = mk n := by
  refine ⟨fun hok => ?_, fun ⟨n, hn, hr⟩ => hr ▸ hA n hn⟩
  by_cases hex : ∃ n, P n
  · obtain ⟨n, hn⟩ := hex
    exact ⟨n, hn, Out.ok.inj (hok.symm.trans (hA n hn))⟩
  · exact nomatch hok.symm.trans (hB fun n hn => hex ⟨n, hn⟩)

theorem specTryFrom_answer (v : View) (rva sz : Nat) (hd : v.dataDir dirImport = some (rva, sz)) :
    ImportDirAnswer v rva (specTryFrom v) := by
  unfold ImportDirAnswer specTryFrom
  rw [hd]
  dsimp only
  obtain ⟨w, h⟩ | ⟨e, h⟩ := at_okOrErr v (.rva rva) 0 4 (by decide)
  · rw [h]
    dsimp only
    refine ⟨?_, ?_⟩
    · intro n hn; rw [(specDescCount_ok_iff ..).2 hn]
    · intro hn; rw [specDescCount_bounds _ _ _ hn]
  · rw [h]

theorem specThunks_answer (v : View) (rva : Nat) : ThunkTableAnswer v rva (specThunks v rva) := by
  unfold ThunkTableAnswer specThunks
  obtain ⟨w, h⟩ | ⟨e, h⟩ := at_okOrErr v (.rva rva) 0 (vaSize v.fmt) (vaSize_pow2 _)
  · rw [h]
    dsimp only
    refine ⟨?_, ?_⟩
    · intro n hn; rw [(specThunkCount_ok_iff _ _ _ _ _ (vaSize_pos _)).2 hn]
    · intro hn; rw [specThunkCount_bounds _ _ _ _ (vaSize_pos _) hn]
  · rw [h]

theorem specCStr_answer (v : View) (rva : Nat) : CStrAnswer v rva (specCStr v rva) := by
  unfold CStrAnswer specCStr
  obtain ⟨w, h⟩ | ⟨e, h⟩ := at_okOrErr v (.rva rva) 0 1 (by decide)
  · rw [h]
    dsimp only
    refine ⟨?_, ?_⟩
    · intro n hn; rw [(firstNul_some_iff ..).2 hn]
    · intro hn
      cases hf : firstIdx w.len (fun i => byteAt v.b (w.off + i) == 0) with
      | some k => exact absurd ((firstNul_some_iff ..).1 hf) (hn k)
      | none => rfl
  · rw [h]

/-! ### the two readings of "terminator" -/

theorem allZero_ft {b : Bytes} {off i : Nat} (h : AllZeroAt b (off + 20 * i)) : ftAt b off i = 0 := h.2.2.2.2

theorem readings_agree (b : Bytes) (off len : Nat) (hwf : WellFormedDir b off len) (n : Nat) :
    IsImportDir b off len n ↔ IsImportDirZ b off len n := by
  constructor
  · rintro ⟨h1, h2, h3⟩
    exact ⟨h1, fun i hi hz => h2 i hi (allZero_ft hz), hwf n h1 h3⟩
  · rintro ⟨h1, h2, h3⟩
    refine ⟨h1, ?_, allZero_ft h3⟩
    intro i hi hz
    exact h2 i hi (hwf i (by omega) hz)

theorem wellFormedDir_iff_bounded (b : Bytes) (off len : Nat) :
    WellFormedDir b off len ↔ ∀ i, i < len / 20 → ftAt b off i = 0 → AllZeroAt b (off + 20 * i) := by
  unfold WellFormedDir
  constructor
  · intro h i hi hz
    exact h i (by omega) hz
  · intro h i hi hz
    exact h i (by omega) hz

instance (b : Bytes) (off len : Nat) : Decidable (WellFormedDir b off len) :=
  decidable_of_iff _ (wellFormedDir_iff_bounded b off len).symm

/-- for a GIVEN count `n` the layout relations quantify over `i < n` only: decidable (for the examples) -/
instance (b : Bytes) (off len n : Nat) : Decidable (IsImportDir b off len n) :=
  decidable_of_iff ((n + 1) * 20 ≤ len ∧ (∀ i, i < n → ftAt b off i ≠ 0) ∧ ftAt b off n = 0)
    ⟨fun ⟨h1, h2, h3⟩ => ⟨h1, h2, h3⟩, fun ⟨h1, h2, h3⟩ => ⟨h1, h2, h3⟩⟩

instance (b : Bytes) (off len n : Nat) : Decidable (IsImportDirZ b off len n) :=
  decidable_of_iff ((n + 1) * 20 ≤ len ∧ (∀ i, i < n → ¬ AllZeroAt b (off + 20 * i)) ∧ AllZeroAt b (off + 20 * n))
    ⟨fun ⟨h1, h2, h3⟩ => ⟨h1, h2, h3⟩, fun ⟨h1, h2, h3⟩ => ⟨h1, h2, h3⟩⟩

/-! ### element references of an array reference -/

theorem thunkRefs_eq (f : Fmt) (off n : Nat) :
    thunkRefs f ⟨off, n * vaSize f, vaSize f⟩ =
      (List.range n).map (fun i => ⟨off + vaSize f * i, vaSize f, vaSize f⟩) := by
  unfold thunkRefs
  simp only
  rw [Nat.mul_div_cancel _ (vaSize_pos f)]

theorem descs_eq (off n : Nat) :
    descs ⟨off, n * 20, 4⟩ = (List.range n).map (fun i => ⟨off + 20 * i, 20, 4⟩) := by
  unfold descs
  simp only [descSize, descAlign]
  rw [Nat.mul_div_cancel _ (by decide)]

theorem thunkRefs_ok {img : Img} {f : Fmt} {arr : Ref} (h : RefOK img arr) (hal : arr.align = vaSize f) :
    ∀ t ∈ thunkRefs f arr, RefOK img t := by
  intro t ht
  unfold thunkRefs at ht
  obtain ⟨i, hi, rfl⟩ := List.mem_map.1 ht
  have hi' := List.mem_range.1 hi
  obtain ⟨h1, h2⟩ := h
  rw [hal] at h2
  have hfit : (i + 1) * vaSize f ≤ arr.len := (Nat.le_div_iff_mul_le (vaSize_pos f)).1 hi'
  unfold RefOK
  cases f
  · simp only [vaSize, Fmt.ptrSize] at *; omega
  · simp only [vaSize, Fmt.ptrSize] at *; omega

/-- the zero-terminated thunk table at `rva` (`int` at `OriginalFirstThunk`, `iat` at `FirstThunk`) -/
theorem thunks_answer (v : View) (rva : Nat) :
    ThunkTableAnswer v rva (v.dervaSliceS (.rva rva) (vaSize v.fmt) (vaSize v.fmt) 0) :=
  thunks_eq_spec v rva ▸ specThunks_answer v rva

theorem thunks_sound {v : View} {rva : Nat} {s : Ref}
    (h : v.dervaSliceS (.rva rva) (vaSize v.fmt) (vaSize v.fmt) 0 = .ok s) :
    RefOK v.img s ∧ ∀ t ∈ thunkRefs v.fmt s, RefOK v.img t :=
  have ⟨hok, _, hal⟩ := dervaSliceFI_sound v ((View.dervaSliceS_eq_I ..).symm.trans h)
  ⟨hok, thunkRefs_ok hok hal⟩

theorem descs_ok {img : Img} {arr : Ref} (h : RefOK img arr) (hal : arr.align = 4) :
    ∀ d ∈ descs arr, RefOK img d := by
  intro d hd
  unfold descs at hd
  obtain ⟨i, hi, rfl⟩ := List.mem_map.1 hd
  have hi' := List.mem_range.1 hi
  obtain ⟨h1, h2⟩ := h
  rw [hal] at h2
  unfold RefOK
  simp only [descSize, descAlign] at *
  omega

theorem first_unique {P : Nat → Prop} {n m : Nat} (l1 : ∀ i, i < n → ¬ P i) (t1 : P n) (l2 : ∀ i, i < m → ¬ P i)
    (t2 : P m) : n = m := by
  by_cases hlt : n < m
  · exact absurd t1 (l2 n hlt)
  · by_cases hgt : m < n
    · exact absurd t2 (l1 m hgt)
    · omega

theorem IsImportDir.unique {b : Bytes} {off len n m : Nat} (h1 : IsImportDir b off len n)
    (h2 : IsImportDir b off len m) : n = m :=
  first_unique (P := fun i => ftAt b off i = 0) h1.live h1.term h2.live h2.term

theorem IsThunkTable.unique {b : Bytes} {off len sz n m : Nat} (h1 : IsThunkTable b off len sz n)
    (h2 : IsThunkTable b off len sz m) : n = m :=
  first_unique (P := fun i => leN b (off + i * sz) sz = 0) h1.live h1.term h2.live h2.term

/-! ### the executable specification as `bind`s -/

theorem specDescCount_okOrErr (b : Bytes) (off len : Nat) : OkOrErr (specDescCount b off len) :=
  specDescCount_eq .. ▸ okOrErr_ofOption _ _

theorem specTryFrom_eq (v : View) : specTryFrom v =
    (Out.ofOption .null (v.dataDir dirImport)).bind fun p => (v.at (.rva p.1) 0 4).bind fun w =>
      (specDescCount v.b w.off w.len).bind fun n => .ok ⟨w.off, n * 20, 4⟩ := by
  unfold specTryFrom
  cases v.dataDir dirImport with
  | none => rfl
  | some p =>
    dsimp only [Out.ofOption, Out.bind]
    cases v.at (.rva p.1) 0 4 with
    | ok w => dsimp only; cases specDescCount v.b w.off w.len <;> rfl
    | _ => rfl

theorem specIat_eq (v : View) : specIat v =
    (Out.ofOption .null (v.dataDir dirIAT)).bind fun p =>
      (v.at (.rva p.1) (p.2 / vaSize v.fmt * vaSize v.fmt) (vaSize v.fmt)).bind fun w =>
        .ok ⟨w.off, p.2 / vaSize v.fmt * vaSize v.fmt, vaSize v.fmt⟩ := by
  unfold specIat
  cases v.dataDir dirIAT with
  | none => rfl
  | some p =>
    dsimp only [Out.ofOption, Out.bind]
    cases v.at (.rva p.1) (p.2 / vaSize v.fmt * vaSize v.fmt) (vaSize v.fmt) <;> rfl

theorem specImport_eq (v : View) (va : Nat) : specImport v va =
    if isOrdinal v.fmt va = true then .ok (.byOrdinal (va % 65536))
    else (v.at (.rva (va % 4294967296)) 2 2).bind fun h =>
      (specCStr v (va % 4294967296 + 2)).bind fun nm => .ok (.byName (le16 v.b h.off) nm) := by
  unfold specImport decodeThunk
  by_cases ho : isOrdinal v.fmt va = true
  · rw [if_pos ho, if_pos ho]
  · rw [if_neg ho, if_neg ho]
    dsimp only
    cases v.at (.rva (va % 4294967296)) 2 2 with
    | ok h => dsimp only [Out.bind]; cases specCStr v (va % 4294967296 + 2) <;> rfl
    | _ => rfl

theorem specTryFrom_okOrErr (v : View) : OkOrErr (specTryFrom v) := by
  rw [specTryFrom_eq]
  exact okOrErr_bind (okOrErr_ofOption _ _) fun _ => okOrErr_bind (at_okOrErr v _ 0 4 (by decide)) fun _ =>
    okOrErr_bind (specDescCount_okOrErr ..) fun _ => okOrErr_ok _

theorem specCStr_okOrErr (v : View) (rva : Nat) : OkOrErr (specCStr v rva) :=
  cstr_eq_spec v rva ▸ dervaCStr_okOrErr v _

theorem specImport_okOrErr (v : View) (va : Nat) : OkOrErr (specImport v va) := by
  rw [specImport_eq]
  exact okOrErr_if (okOrErr_ok _) (okOrErr_bind (at_okOrErr v _ 2 2 (by decide)) fun _ =>
    okOrErr_bind (specCStr_okOrErr v _) fun _ => okOrErr_ok _)

theorem specTryFrom_ok {v : View} {image : Ref} (h : specTryFrom v = .ok image) :
    ∃ rva sz w n, v.dataDir dirImport = some (rva, sz) ∧ v.at (.rva rva) 0 4 = .ok w ∧
      IsImportDir v.b w.off w.len n ∧ image = ⟨w.off, n * 20, 4⟩ := by
  rw [specTryFrom_eq] at h
  obtain ⟨⟨rva, sz⟩, hd, h⟩ := ofOption_bind_eq_ok.1 h
  obtain ⟨w, hw, h⟩ := Out.bind_eq_ok h
  obtain ⟨n, hn, h⟩ := Out.bind_eq_ok h
  cases h
  exact ⟨rva, sz, w, n, hd, hw, (specDescCount_ok_iff ..).1 hn, rfl⟩

end Pelite.Imports
