import PeliteModel.Lemmas.Typed
import PeliteModel.Lemmas.Relocs
import PeliteModel.Model.Strings
/-! Helper lemmas for the cross-cutting properties C01 / C02 / C03. -/
namespace Pelite

namespace Pe

theorem r2fSecs_clean (secs : List Sec) (rva : Nat) : (r2fSecs secs rva).Clean := by
  rw [r2fSecs_eq_spec, clean_iff_okOrErr]
  unfold specR2F
  cases firstV secs rva
  · exact okOrErr_err _
  · exact okOrErr_if (okOrErr_err _) (okOrErr_if (okOrErr_ok _) (okOrErr_if (okOrErr_err _) (okOrErr_err _)))

theorem f2rSecs_clean (secs : List Sec) (fo : Nat) : (f2rSecs secs fo).Clean := by
  rw [f2rSecs_eq_spec, clean_iff_okOrErr]
  unfold specF2R
  cases firstF secs fo
  · exact okOrErr_err _
  · exact okOrErr_if (okOrErr_err _) (okOrErr_if (okOrErr_ok _) (okOrErr_if (okOrErr_err _) (okOrErr_err _)))

theorem View.at_ne_ub (v : View) (a : Addr) (min align : Nat) (s : String) : v.at a min align ≠ .ub s := by
  rcases v.at_shape a min align with h | ⟨_, s', h⟩
  · exact (clean_iff_okOrErr.2 h).ne_ub s
  · rw [h]; intro h'; cases h'

theorem View.at_ne_diverge (v : View) (a : Addr) (min align : Nat) : v.at a min align ≠ .diverge := by
  rcases v.at_shape a min align with h | ⟨_, s', h⟩
  · exact (clean_iff_okOrErr.2 h).ne_diverge
  · rw [h]; intro h'; cases h'

end Pe

theorem Strings.length_le_of_pairwise (N : Nat) : ∀ (fs : List Strings.Found) (lo : Nat),
    (∀ f ∈ fs, lo ≤ f.start ∧ 1 ≤ f.len ∧ f.start + f.len ≤ N) →
    fs.Pairwise (fun a b => a.start + a.len < b.start) → fs.length ≤ N - lo := by
  intro fs
  induction fs with
  | nil => intro lo _ _; simp
  | cons f fs ih =>
    intro lo hall hp
    rw [List.pairwise_cons] at hp
    have hf := hall f (List.mem_cons_self ..)
    have := ih (lo + 1) (fun g hg => by
      have h1 := hall g (List.mem_cons_of_mem _ hg)
      have h2 := hp.1 g hg
      omega) hp.2
    simp only [List.length_cons]
    omega

theorem Relocs.nwords_le {data : Bytes} {b : Relocs.Block} (hmem : b ∈ Relocs.blocks data) :
    2 * b.nwords ≤ data.size := by
  obtain ⟨o, -, -, ho8, rfl⟩ := Relocs.mem_blocksFrom (off := 0) (by rfl) hmem
  simp only [Relocs.blockAt]
  omega

end Pelite
