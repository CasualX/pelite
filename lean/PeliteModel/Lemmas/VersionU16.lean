import PeliteModel.Lemmas.VersionRoundTrip
/-!
C13: the reference writer emits u16 words when the content words are u16 and
the root's length fits (every other length field is smaller).
-/
set_option linter.unusedSimpArgs false
set_option linter.unnecessarySimpa false

namespace Pelite.Version
open Spec

def U16 (l : List Nat) : Prop := ∀ w ∈ l, w < 65536

theorem U16_of_u16s {l : List Nat} (h : u16s l = true) : U16 l := by
  intro w hw
  simp only [u16s, List.all_eq_true, decide_eq_true_eq] at h
  exact h w hw

theorem U16_append {a b : List Nat} : U16 (a ++ b) ↔ U16 a ∧ U16 b := List.forall_mem_append

theorem U16_nil : U16 [] := fun _ h => by cases h

theorem U16_pad (n : Nat) : U16 (pad n) := by
  intro w hw
  simp only [pad, List.mem_replicate] at hw
  omega

theorem encTail_U16 (tight : Bool) (key value body : List Nat) (hv : U16 value) (hb : U16 body) :
    U16 (encTail tight key value body) := by
  unfold encTail
  split
  · split
    · exact U16_nil
    · exact U16_pad _
  · refine U16_append.mpr ⟨U16_append.mpr ⟨U16_pad _, hv⟩, ?_⟩
    split
    · exact U16_nil
    · exact U16_append.mpr ⟨U16_pad _, hb⟩

theorem encNode_length (tight : Bool) (key value : List Nat) (text : Bool) (body : List Nat) :
    (encNode tight key value text body).length = 4 + key.length + (encTail tight key value body).length := by
  rw [encNode_eq]; simp only [List.length_append, List.length_cons, List.length_nil]; omega

theorem encTail_length_ge (tight : Bool) (key value body : List Nat) :
    value.length + body.length ≤ (encTail tight key value body).length := by
  obtain ⟨p1, p2, ht, _, _⟩ := encTail_decomp tight key value body
  rw [ht]; simp only [List.length_append]; omega

theorem encNode_U16 (tight : Bool) (key value : List Nat) (text : Bool) (body : List Nat)
    (hl : 2 * (encNode tight key value text body).length < 65536)
    (hk : U16 key) (hv : U16 value) (hb : U16 body) : U16 (encNode tight key value text body) := by
  have hlen := encNode_length tight key value text body
  have htl := encTail_length_ge tight key value body
  rw [encNode_eq]
  intro w hw
  simp only [List.cons_append, List.nil_append, List.mem_cons, List.mem_append] at hw
  rcases hw with h | h | h | h | h | h
  · omega
  · subst h; split <;> omega
  · subst h; split <;> omega
  · exact hk w h
  · omega
  · exact encTail_U16 tight key value body hv hb w h

theorem encSiblings_length_mem {n : List Nat} {ns : List (List Nat)} (h : n ∈ ns) :
    n.length ≤ (encSiblings ns).length := by
  induction ns with
  | nil => cases h
  | cons m ms ih =>
    simp only [encSiblings, List.length_append]
    rcases List.mem_cons.mp h with h | h
    · subst h; omega
    · have := ih h
      have hne : ms.isEmpty = false := by
        cases ms with
        | nil => cases h
        | cons _ _ => rfl
      simp only [hne, Bool.false_eq_true, if_false, List.length_append]
      omega

theorem encSiblings_U16 {ns : List (List Nat)} (h : ∀ n ∈ ns, U16 n) : U16 (encSiblings ns) := by
  induction ns with
  | nil => exact U16_nil
  | cons m ms ih =>
    simp only [encSiblings]
    refine U16_append.mpr ⟨h m (List.mem_cons_self ..), ?_⟩
    split
    · exact U16_nil
    · exact U16_append.mpr ⟨U16_pad _, ih (fun n hn => h n (List.mem_cons_of_mem _ hn))⟩

/-- siblings: each is u16 as soon as its own length fits, and it does because the whole fits -/
theorem siblings_U16 {α : Type} (f : α → List Nat) (xs : List α)
    (h : ∀ x ∈ xs, 2 * (f x).length < 65536 → U16 (f x))
    (hl : 2 * (encSiblings (xs.map f)).length < 65536) : U16 (encSiblings (xs.map f)) := by
  apply encSiblings_U16
  intro n hn
  obtain ⟨x, hx, rfl⟩ := List.mem_map.mp hn
  have := encSiblings_length_mem hn
  exact h x hx (by omega)

theorem node_U16 (tight : Bool) (key value : List Nat) (text : Bool) (children : List Node)
    (hk : U16 key) (hv : U16 value)
    (hc : ∀ c ∈ children, 2 * (Spec.encode tight c).length < 65536 → U16 (Spec.encode tight c))
    (hl : 2 * (Spec.encode tight (.mk key value text children)).length < 65536) :
    U16 (Spec.encode tight (.mk key value text children)) := by
  rw [encode_mk] at hl ⊢
  have hlen := encNode_length tight key value text (encSiblings (children.map (Spec.encode tight)))
  have htl := encTail_length_ge tight key value (encSiblings (children.map (Spec.encode tight)))
  exact encNode_U16 tight key value text _ hl hk hv (siblings_U16 _ children hc (by omega))

theorem encode_U16 (tight : Bool) (v : VInfo) (hu : v.u16 = true) (hf : v.fits tight = true) :
    U16 (v.encode tight) := by
  simp only [VInfo.u16, Bool.and_eq_true, List.all_eq_true] at hu
  simp only [VInfo.fits, decide_eq_true_eq] at hf
  obtain ⟨⟨hk, hv⟩, hb⟩ := hu
  unfold VInfo.encode VInfo.node at *
  refine node_U16 tight _ _ _ _ (U16_of_u16s hk) (U16_of_u16s hv) ?_ hf
  intro c hc
  obtain ⟨b, hbm, rfl⟩ := List.mem_map.mp hc
  have hbu := hb b hbm
  cases b with
  | stringInfo ts =>
    simp only [VBlock.u16, List.all_eq_true] at hbu
    unfold VBlock.node
    refine node_U16 tight _ _ _ _ (U16_of_u16s (by decide)) U16_nil ?_
    intro c hc
    obtain ⟨t, htm, rfl⟩ := List.mem_map.mp hc
    have htu := hbu t htm
    simp only [VTable.u16, Bool.and_eq_true, List.all_eq_true] at htu
    unfold VTable.node
    refine node_U16 tight _ _ _ _ (U16_of_u16s htu.1) U16_nil ?_
    intro c hc
    obtain ⟨s, hsm, rfl⟩ := List.mem_map.mp hc
    have hsu := htu.2 s hsm
    simp only [VStr.u16, Bool.and_eq_true] at hsu
    unfold VStr.node
    exact node_U16 tight _ _ _ _ (U16_of_u16s hsu.1) (U16_of_u16s hsu.2) (fun c hc => by cases hc)
  | varInfo vs =>
    simp only [VBlock.u16, List.all_eq_true] at hbu
    unfold VBlock.node
    refine node_U16 tight _ _ _ _ (U16_of_u16s (by decide)) U16_nil ?_
    intro c hc
    obtain ⟨x, hxm, rfl⟩ := List.mem_map.mp hc
    have hxu := hbu x hxm
    simp only [VVar.u16, Bool.and_eq_true] at hxu
    unfold VVar.node
    exact node_U16 tight _ _ _ _ (U16_of_u16s hxu.1) (U16_of_u16s hxu.2) (fun c hc => by cases hc)

end Pelite.Version
