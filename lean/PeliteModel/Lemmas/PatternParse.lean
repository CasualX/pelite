import PeliteModel.Spec.PatternSem
import PeliteModel.Lemmas.Pattern
import PeliteModel.Lemmas.PatternInd
/-!
# T1: the parser model agrees with the reference compiler on every rendered well-formed tree

`parse_render : WF p = true → parse (render sty p) = .ok (compile p)`, for every tree and every spelling style.

The lemmas about items and their composition (`item_*R`, `seq_consR`, `alts_consR`) speak of an arbitrary input and the rest
the parser leaves of it; here they are run along the renderer, in `Lemmas/PatternGrammar.lean` along the reference reader.
For whole patterns the second run subsumes the first (`Thm/C11Grammar.lean:C11_parse_render_of_grammar`); the first stays
because it proves more per item: `itemGoal` / `altsGoal` let ANY bytes follow the rendered item, also bytes with which the
reader would read a different item (`%` before `{`, white space before white space).  A new item kind needs its `item_*R`
lemma, a case in each of the two recursions, and the reader's side in `PatternGrammarRT`.

`Steps` runs `parseLoop` over a prefix of the input (any fuel that suffices, any `*pat`); `Rel` ties the parser state to the
arguments of `comp`; after an item the parser stands at what `compItem` (Lemmas/PatternInd) says the item contributes; for
alternatives the goal is generalised over the prefix `P` already emitted, whose `Break(0)` placeholders `patch` fills in.
-/
namespace Pelite.PatSem
open Pelite.Pattern

/-! ## Running the loop over a prefix of the input -/

def Steps (inp : List UInt8) (st : PSt) (inp' : List UInt8) (st' : PSt) : Prop :=
  ∀ fuel pat, inp.length + 1 ≤ fuel →
    ∃ fuel' pat', parseLoop fuel inp pat st = parseLoop fuel' inp' pat' st' ∧ inp'.length + 1 ≤ fuel'

theorem Steps.refl (inp : List UInt8) (st : PSt) : Steps inp st inp st :=
  fun fuel pat h => ⟨fuel, pat, rfl, h⟩

theorem Steps.trans {a b c : List UInt8} {s t u : PSt} (h1 : Steps a s b t) (h2 : Steps b t c u) :
    Steps a s c u := by
  intro fuel pat h
  obtain ⟨f1, p1, e1, l1⟩ := h1 fuel pat h
  obtain ⟨f2, p2, e2, l2⟩ := h2 f1 p1 l1
  exact ⟨f2, p2, e1.trans e2, l2⟩

theorem Steps.tok {c : UInt8} {rest rest' : List UInt8} {st st' : PSt} {upd : Bool}
    (h : Pelite.Pattern.tok c.toNat rest st = .ok ⟨st', rest', upd⟩) (hl : rest'.length ≤ rest.length) :
    Steps (c :: rest) st rest' st' := by
  intro fuel pat hf
  cases fuel with
  | zero => simp at hf
  | succ f =>
    refine ⟨f, if upd then rest' else pat, ?_, ?_⟩
    · rw [parseLoop]; simp only [h]
    · simp at hf; omega

theorem digit_toNat : ∀ n, n < 10 → ((48 + n).toUInt8).toNat = 48 + n := by decide

theorem isWsByte_cases {c : UInt8} (h : isWsByte c = true) : c.toNat = 32 ∨ c.toNat = 9 ∨ c.toNat = 10 ∨ c.toNat = 13 := by
  simp [isWsByte] at h
  rcases h with ((h | h) | h) | h <;> subst h <;> simp

theorem tok_ws {c : UInt8} (h : isWsByte c = true) (rest : List UInt8) (st : PSt) :
    Pelite.Pattern.tok c.toNat rest st = .ok ⟨st, rest, true⟩ := by
  rcases isWsByte_cases h with h | h | h | h <;> rw [h] <;> simp [Pelite.Pattern.tok, classify]

theorem steps_ws : ∀ (s : List UInt8) (tail : List UInt8) (st : PSt), s.all isWsByte = true →
    Steps (s ++ tail) st tail st
  | [], tail, st, _ => Steps.refl _ _
  | c :: s, tail, st, h => by
    simp only [List.all_cons, Bool.and_eq_true] at h
    exact (Steps.tok (tok_ws h.1 (s ++ tail) st) (Nat.le_refl _)).trans (steps_ws s tail st h.2)


/-- `st` stands at `comp`'s arguments: `base` emitted, `pend` the operand of a `Skip` that `?` may still extend.
`last` is the `sub_end` guard of the arm `?` seen from `comp`: with nothing pending `comp` starts a new `Skip(1)`, and the
parser does so too only if it cannot merge, i.e. `sub_end` stands at the end of the vector (a `)` has just closed) or the
vector does not end in a `Skip`. -/
structure Rel (st : PSt) (base : List Atom) (pend : Option Nat) : Prop where
  res : st.result = (base ++ flush pend).toArray
  sub_le : st.subEnd ≤ base.length
  last : pend = none → st.subEnd = base.length ∨ ∀ n, base.getLast? ≠ some (.skip n)

theorem Rel.emit {st st1 : PSt} {base pend} (h : Rel st base pend) {as : List Atom} {pend' : Option Nat}
    (hr : st1.result = (base ++ as ++ flush pend').toArray) (hse : st1.subEnd = st.subEnd)
    (hl : pend' = none → (as = [] ∧ pend = none) ∨ ∀ n, (base ++ as).getLast? ≠ some (.skip n)) :
    Rel st1 (base ++ as) pend' := by
  refine ⟨hr, by rw [hse]; have := h.sub_le; simp; omega, fun hp => ?_⟩
  rcases hl hp with ⟨rfl, rfl⟩ | hl
  · rw [List.append_nil, hse]; exact h.last rfl
  · exact .inr hl

/-- the list-level effect of `fillBrks`: every recorded placeholder at index `i` becomes `Break(sz - i - 1)` -/
def patch (sz : Nat) (l : List Atom) (brks : List Nat) : List Atom :=
  brks.foldl (fun l i => l.set i (Atom.brk (sz - i - 1))) l

theorem patch_length (sz : Nat) : ∀ (brks : List Nat) (l : List Atom), (patch sz l brks).length = l.length
  | [], l => rfl
  | i :: brks, l => by
    have := patch_length sz brks (l.set i (Atom.brk (sz - i - 1)))
    simpa [patch] using this

theorem patch_append (sz : Nat) (l2 : List Atom) : ∀ (brks : List Nat) (l1 : List Atom),
    (∀ i ∈ brks, i < l1.length) → patch sz (l1 ++ l2) brks = patch sz l1 brks ++ l2
  | [], l1, _ => rfl
  | i :: brks, l1, h => by
    have hi : i < l1.length := h i (by simp)
    have := patch_append sz l2 brks (l1.set i (Atom.brk (sz - i - 1)))
      (fun i' hi' => by rw [List.length_set]; exact h i' (by simp [hi']))
    simpa [patch, List.set_append_left _ _ hi] using this

theorem patch_snoc (sz : Nat) (l : List Atom) (brks : List Nat) (j : Nat) :
    patch sz l (brks ++ [j]) = (patch sz l brks).set j (Atom.brk (sz - j - 1)) := by
  simp [patch, List.foldl_append]

/-! ## The goals -/

def ItemGoalR (it : Item) (inp rest : List UInt8) : Prop :=
  ∀ (st : PSt) (base : List Atom) (pend : Option Nat),
    wfItem st.depth it = true → slotsItem st.save it ≤ 255 → offsItem st.save it = true →
    Rel st base pend →
    ∃ st1, Steps inp st rest st1 ∧ Rel st1 (base ++ (compItem st.save pend it).1) (compItem st.save pend it).2 ∧
      st1.save = slotsItem st.save it ∧ st1.depth = st.depth ∧ st1.subs = st.subs

def SeqGoalR (items : List Item) (inp rest : List UInt8) : Prop :=
  ∀ (st : PSt) (base : List Atom) (pend : Option Nat),
    wfItems st.depth items = true → slotsItems st.save items ≤ 255 → offsItems st.save items = true →
    Rel st base pend →
    ∃ st1, Steps inp st rest st1 ∧
      st1.result = (base ++ comp st.save pend items).toArray ∧
      st1.save = slotsItems st.save items ∧ st1.depth = st.depth ∧ st1.subs = st.subs ∧
      st1.subEnd ≤ st1.result.size

/-- `inp` = `b1 | … | bn )` followed by `rest`, read with the `Case(0)` of `b1` just pushed.  `P` is everything emitted
before that `Case(0)`: it already holds the finished alternatives, each with a `Break(0)` placeholder at an index recorded
in `sub.brks`.  The bound `P.length + |compAlts …| < i + 257` is the `SubOverflow` test of `)` (`len - brk - 1 < 256`) for
the FINAL length, which is why `offsAlts` gives it up front; the conclusion patches all placeholders of `P` at once. -/
def AltsGoalR (bodies : List (List Item)) (inp rest : List UInt8) : Prop :=
  ∀ (st : PSt) (P : List Atom) (sub : Sub) (subs0 : List Sub),
    bodies ≠ [] → wfAlts st.depth bodies = true → slotsAlts st.save bodies ≤ 255 →
    offsAlts st.save bodies = true →
    st.result = (P ++ [Atom.case 0]).toArray → st.subs = sub :: subs0 → sub.case = P.length →
    (∀ i ∈ sub.brks, i < P.length ∧ P.length + (compAlts st.save bodies).length < i + 257) →
    sub.save = st.save → sub.depth = st.depth → st.subEnd ≤ P.length + 1 →
    ∃ st1, Steps inp st rest st1 ∧
      st1.result = (patch (P.length + (compAlts st.save bodies).length) P sub.brks
                      ++ compAlts st.save bodies).toArray ∧
      st1.save = max sub.saveNext (slotsAlts st.save bodies) ∧ st1.depth = st.depth ∧ st1.subs = subs0 ∧
      st1.subEnd = st1.result.size

/- The goals in two forms.  The `…R` forms above are the ones the proofs use.  The forms below speak of rendered text only
(`itemGoal`, `altsGoal`, `SeqGoal.toR` are stated with them): `SeqGoal sty items` is
`∀ tail, SeqGoalR items (render sty items ++ tail) tail` with the quantifier moved, likewise `AltsGoal`; `ItemGoal sty it` is
`∀ tail, ItemGoalR it (renderItem sty it ++ tail) tail` with `comp_cons` written out -/

def ItemGoal (sty : Style) (it : Item) : Prop :=
  ∀ (st : PSt) (base : List Atom) (pend : Option Nat) (tail : List UInt8),
    wfItem st.depth it = true → slotsItem st.save it ≤ 255 → offsItem st.save it = true →
    Rel st base pend →
    ∃ st1 base1 pend1, Steps (renderItem sty it ++ tail) st tail st1 ∧ Rel st1 base1 pend1 ∧
      st1.save = slotsItem st.save it ∧ st1.depth = st.depth ∧ st1.subs = st.subs ∧
      ∀ r, base ++ comp st.save pend (it :: r) = base1 ++ comp (slotsItem st.save it) pend1 r

def SeqGoal (sty : Style) (items : List Item) : Prop :=
  ∀ (st : PSt) (base : List Atom) (pend : Option Nat) (tail : List UInt8),
    wfItems st.depth items = true → slotsItems st.save items ≤ 255 → offsItems st.save items = true →
    Rel st base pend →
    ∃ st1, Steps (render sty items ++ tail) st tail st1 ∧
      st1.result = (base ++ comp st.save pend items).toArray ∧
      st1.save = slotsItems st.save items ∧ st1.depth = st.depth ∧ st1.subs = st.subs ∧
      st1.subEnd ≤ st1.result.size

def AltsGoal (sty : Style) (bodies : List (List Item)) : Prop :=
  ∀ (st : PSt) (P : List Atom) (sub : Sub) (subs0 : List Sub) (tail : List UInt8),
    bodies ≠ [] → wfAlts st.depth bodies = true → slotsAlts st.save bodies ≤ 255 →
    offsAlts st.save bodies = true →
    st.result = (P ++ [Atom.case 0]).toArray → st.subs = sub :: subs0 → sub.case = P.length →
    (∀ i ∈ sub.brks, i < P.length ∧ P.length + (compAlts st.save bodies).length < i + 257) →
    sub.save = st.save → sub.depth = st.depth → st.subEnd ≤ P.length + 1 →
    ∃ st1, Steps (renderAlts sty bodies ++ 41 :: tail) st tail st1 ∧
      st1.result = (patch (P.length + (compAlts st.save bodies).length) P sub.brks
                      ++ compAlts st.save bodies).toArray ∧
      st1.save = max sub.saveNext (slotsAlts st.save bodies) ∧ st1.depth = st.depth ∧ st1.subs = subs0 ∧
      st1.subEnd = st1.result.size

theorem ItemGoal.ofR {sty : Style} {it : Item} (h : ∀ tail, ItemGoalR it (renderItem sty it ++ tail) tail) :
    ItemGoal sty it :=
  fun st base pend tail hwf hsl hoff hrel =>
    let ⟨st1, hs, hr, h1, h2, h3⟩ := h tail st base pend hwf hsl hoff hrel
    ⟨st1, _, _, hs, hr, h1, h2, h3, fun r => by rw [comp_cons, List.append_assoc]⟩

theorem AltsGoal.ofR {sty : Style} {bodies : List (List Item)}
    (h : ∀ tail, AltsGoalR bodies (renderAlts sty bodies ++ 41 :: tail) tail) : AltsGoal sty bodies :=
  fun st P sub subs0 tail => h tail st P sub subs0

theorem SeqGoal.toR {sty : Style} {items : List Item} (h : SeqGoal sty items) (tail : List UInt8) :
    SeqGoalR items (render sty items ++ tail) tail :=
  fun st base pend => h st base pend tail

theorem ItemGoalR.of_eq {it : Item} {inp inp' rest : List UInt8} (h : ItemGoalR it inp' rest) (e : inp = inp') :
    ItemGoalR it inp rest := e ▸ h

theorem simpleAtom_ne_skip {k : Nat} {it : Item} {a : Atom} (h : simpleAtom k it = some a) (n : Nat) : a ≠ .skip n := by
  cases it <;> simp only [simpleAtom, Option.some.injEq, reduceCtorEq] at h <;> subst h
  case jump j => cases j <;> simp [Jump.atom]
  case readI | readU => unfold readAtom; split <;> simp
  all_goals simp

theorem itemGoalR_push {it : Item} {inp rest : List UInt8} (a : Nat → Atom)
    (hsteps : ∀ (st : PSt), wfItem st.depth it = true → slotsItem st.save it ≤ 255 →
      ∃ st1, Steps inp st rest st1 ∧ st1.result = st.result.push (a st.save) ∧
        st1.save = slotsItem st.save it ∧ st1.depth = st.depth ∧ st1.subs = st.subs ∧ st1.subEnd = st.subEnd)
    (hsimple : ∀ k, simpleAtom k it = some (a k)) : ItemGoalR it inp rest := by
  intro st base pend hwf hsl _ hrel
  obtain ⟨st1, hs, hr, hsv, hd, hsb, hse⟩ := hsteps st hwf hsl
  rw [compItem_simple (hsimple _)]
  refine ⟨st1, hs, hrel.emit (by rw [hr, hrel.res]; simp [flush]) hse fun _ => .inr fun n => ?_, hsv, hd, hsb⟩
  simpa [← List.append_assoc] using simpleAtom_ne_skip (hsimple _) n

/-! ## Items without sub-patterns -/

theorem item_wsR (s rest : List UInt8) : ItemGoalR (.ws s) (s ++ rest) rest := by
  intro st base pend hwf _ _ hrel
  exact ⟨st, steps_ws s rest st (by simpa [wfItem] using hwf), by simpa [compItem] using hrel, by simp [slotsItem], rfl, rfl⟩

/-- what the parser computes from a hex digit of value `v` -/
def hexSpec (c : UInt8) (v : Nat) : Prop :=
  v < 16 ∧ classify c.toNat = .hex ∧
  ¬ (c.toNat < 97 ∧ c.toNat < 65 ∧ c.toNat < 48) ∧
  (if c.toNat ≥ 97 then c.toNat - 97 + 10 else if c.toNat ≥ 65 then c.toNat - 65 + 10 else c.toNat - 48) = v ∧
  (if c.toNat ≥ 97 ∧ c.toNat ≤ 102 then some (c.toNat - 97 + 10)
    else if c.toNat ≥ 65 ∧ c.toNat ≤ 70 then some (c.toNat - 65 + 10)
    else if c.toNat ≥ 48 ∧ c.toNat ≤ 57 then some (c.toNat - 48)
    else none) = some v

instance (c : UInt8) (v : Nat) : Decidable (hexSpec c v) := by unfold hexSpec; infer_instance

theorem hexVal_all : ∀ n, n < 256 →
    (hexVal (UInt8.ofNat n)).all (fun v => decide (hexSpec (UInt8.ofNat n) v)) = true := by
  decide +kernel

theorem hexVal_spec {c : UInt8} {v : Nat} (h : hexVal c = some v) : hexSpec c v := by
  have := hexVal_all c.toNat c.toNat_lt
  rw [UInt8.ofNat_toNat, h] at this
  simpa using this

theorem tok_hex_val {c d : UInt8} {hi lo : Nat} (hc : hexVal c = some hi) (hd : hexVal d = some lo)
    (tail : List UInt8) (st : PSt) :
    Pelite.Pattern.tok c.toNat (d :: tail) st = .ok ⟨pushA st (.byte (hi * 16 + lo)), tail, true⟩ := by
  obtain ⟨hhi, h1, h2, h3, _⟩ := hexVal_spec hc
  obtain ⟨hlo, _, _, _, h4⟩ := hexVal_spec hd
  simp only [Pelite.Pattern.tok, h1, opHex]
  rw [if_neg h2]
  rw [h3, h4]
  dsimp only
  rw [if_neg (by omega), if_neg (by omega)]
  have e : hi * 16 % 256 + lo = hi * 16 + lo := by omega
  rw [e]

theorem item_byteR {c d : UInt8} {hi lo : Nat} (hc : hexVal c = some hi) (hd : hexVal d = some lo)
    (rest : List UInt8) : ItemGoalR (.byte (hi * 16 + lo)) (c :: d :: rest) rest := by
  apply itemGoalR_push (fun _ => .byte (hi * 16 + lo))
  · intro st _ _
    refine ⟨pushA st (.byte (hi * 16 + lo)), ?_, rfl, by simp [slotsItem, pushA], rfl, rfl, rfl⟩
    exact Steps.tok (tok_hex_val hc hd rest st) (by simp)
  · exact fun _ => rfl

theorem quoted_spec : ∀ (bs : List UInt8) (tail : List UInt8) (l : List Atom), bs.all (· ≠ 34) = true →
    quoted (bs ++ 34 :: tail) l.toArray = some ((l ++ bs.map (fun c => Atom.byte c.toNat)).toArray, tail)
  | [], tail, l, _ => by simp [quoted]
  | c :: bs, tail, l, h => by
    simp only [List.all_cons, Bool.and_eq_true, decide_eq_true_eq] at h
    have hc : c.toNat ≠ 34 := fun e => h.1 (UInt8.toNat_inj.mp (by simpa using e))
    simp only [List.cons_append, quoted, if_pos hc, List.push_toArray]
    rw [quoted_spec bs tail _ h.2]; simp

theorem item_strR (bs rest : List UInt8) : ItemGoalR (.str bs) (34 :: (bs ++ 34 :: rest)) rest := by
  intro st base pend hwf _ _ hrel
  have hq : bs.all (· ≠ 34) = true := by simpa [wfItem] using hwf
  have htok : Pelite.Pattern.tok (34 : UInt8).toNat (bs ++ 34 :: rest) st
      = .ok ⟨{ st with result := (base ++ flush pend ++ bs.map (fun c => Atom.byte c.toNat)).toArray }, rest, true⟩ := by
    simp [Pelite.Pattern.tok, classify, opQuote, hrel.res, quoted_spec bs rest _ hq]
  refine ⟨_, Steps.tok htok (by simp; omega), hrel.emit ?_ rfl ?_, by simp [slotsItem], rfl, rfl⟩
  · by_cases hbs : bs = [] <;> simp [compItem, hbs, flush]
  · by_cases hbs : bs = [] <;> simp +contextual [compItem, hbs]

theorem setLast_append_singleton (l : List Atom) (a b : Atom) :
    setLast (l ++ [a]).toArray b = (l ++ [b]).toArray := by
  simp [setLast]

theorem opSkip_rel {st : PSt} {base : List Atom} {pend : Option Nat} (k : Nat) (hrel : Rel st base pend) :
    (opSkip st).1 = { st with result := (base ++ (compItem k pend .any).1 ++ flush (compItem k pend .any).2).toArray } := by
  unfold opSkip
  cases pend with
  | some n =>
    have hr : st.result = (base ++ [Atom.skip n]).toArray := by simpa [flush] using hrel.res
    have hb : st.result.back? = some (.skip n) := by rw [hr]; simp
    have hs := hrel.sub_le
    rw [if_pos (by rw [hr]; simp; omega), hb]
    dsimp only [compItem]
    split <;> simp [hr, setLast_append_singleton, pushA, flush]
  | none =>
    have hr : st.result = base.toArray := by simpa [flush] using hrel.res
    have hl : st.result.size > st.subEnd → ∀ n, st.result.back? ≠ some (.skip n) := fun hgt n => by
      rcases hrel.last rfl with hl | hl
      · rw [hr] at hgt; simp at hgt; omega
      · rw [hr]; simpa using hl n
    have e : pushA st (.skip 1) = { st with result := (base ++ (compItem k none .any).1 ++ flush (compItem k none .any).2).toArray } := by
      simp [pushA, hr, compItem, flush]
    split
    · next hgt =>
      split
      · next n hb => exact absurd hb (hl hgt n)
      · exact e
    · exact e

theorem item_anyR (rest : List UInt8) : ItemGoalR .any (63 :: rest) rest := by
  intro st base pend _ _ _ hrel
  have htok : Pelite.Pattern.tok (63 : UInt8).toNat rest st = .ok ⟨(opSkip st).1, rest, (opSkip st).2⟩ := by
    simp [Pelite.Pattern.tok, classify]
  rw [opSkip_rel st.save hrel] at htok
  refine ⟨_, Steps.tok htok (Nat.le_refl _), hrel.emit rfl rfl ?_, by simp [slotsItem], rfl, rfl⟩
  cases pend with
  | none => exact nofun
  | some n => simp only [compItem]; split <;> exact nofun

theorem tok_jump (j : Jump) (tail : List UInt8) (st : PSt) :
    Pelite.Pattern.tok j.chr.toNat tail st = .ok ⟨pushA st j.atom, tail, true⟩ := by
  cases j <;> simp [Pelite.Pattern.tok, classify, Jump.chr, Jump.atom]

theorem item_jumpR (j : Jump) (rest : List UInt8) : ItemGoalR (.jump j) (j.chr :: rest) rest := by
  apply itemGoalR_push (fun _ => j.atom)
  · intro st _ _
    exact ⟨pushA st j.atom, Steps.tok (tok_jump j rest st) (Nat.le_refl _), rfl, by simp [slotsItem, pushA], rfl, rfl, rfl⟩
  · exact fun _ => rfl

theorem itemGoalR_slot {it : Item} {inp rest : List UInt8} (mk : Nat → Atom)
    (htok : ∀ st : PSt, wfItem st.depth it = true → st.save < 255 →
      Steps inp st rest { st with result := st.result.push (mk st.save), save := st.save + 1 })
    (hsl : ∀ k, slotsItem k it = k + 1) (hsimple : ∀ k, simpleAtom k it = some (mk k)) :
    ItemGoalR it inp rest := by
  refine itemGoalR_push mk (fun st hwf hle => ?_) hsimple
  rw [hsl] at hle
  exact ⟨_, htok st hwf (by omega), rfl, (hsl _).symm, rfl, rfl, rfl⟩

theorem item_saveR (rest : List UInt8) : ItemGoalR .save (39 :: rest) rest :=
  itemGoalR_slot (fun k => .save k)
    (fun st _ hk => Steps.tok (upd := true) (by simp [Pelite.Pattern.tok, classify, opSlot_eq, hk, liftSt]) (Nat.le_refl _))
    (fun _ => rfl) (fun _ => rfl)

theorem item_zeroR (rest : List UInt8) : ItemGoalR .zero (122 :: rest) rest :=
  itemGoalR_slot (fun k => .zero k)
    (fun st _ hk => Steps.tok (upd := true) (by simp [Pelite.Pattern.tok, classify, opSlot_eq, hk, liftSt]) (Nat.le_refl _))
    (fun _ => rfl) (fun _ => rfl)

/-- `i?` (`signed`) and `u?` -/
theorem item_readR (signed : Bool) (w : Nat) (rest : List UInt8) :
    ItemGoalR (cond signed (.readI w) (.readU w)) (cond signed 105 117 :: (48 + w).toUInt8 :: rest) rest :=
  itemGoalR_slot (fun k => readAtom signed w k)
    (fun st hwf hk => by
      have hw : w = 1 ∨ w = 2 ∨ w = 4 := by cases signed <;> simpa [wfItem, or_assoc] using hwf
      cases signed <;> rcases hw with rfl | rfl | rfl <;>
      exact Steps.tok (upd := true) (by simp [Pelite.Pattern.tok, classify, opRead, opSlot_eq, hk, readAtom]) (Nat.le_succ _))
    (fun _ => by cases signed <;> rfl) (fun _ => by cases signed <;> rfl)

/-- what the parser computes from an `@` operand of value `n` -/
def alignSpec (c : UInt8) (n : Nat) : Prop :=
  n < 36 ∧
  ((c.toNat ≥ 48 ∧ c.toNat ≤ 57 ∧ c.toNat - 48 = n) ∨
   (¬ (c.toNat ≥ 48 ∧ c.toNat ≤ 57) ∧ c.toNat ≥ 65 ∧ c.toNat ≤ 90 ∧ 10 + (c.toNat - 65) = n) ∨
   (¬ (c.toNat ≥ 48 ∧ c.toNat ≤ 57) ∧ ¬ (c.toNat ≥ 65 ∧ c.toNat ≤ 90) ∧ c.toNat ≥ 97 ∧ c.toNat ≤ 122 ∧
      10 + (c.toNat - 97) = n))

instance (c : UInt8) (n : Nat) : Decidable (alignSpec c n) := by unfold alignSpec; infer_instance

theorem alignVal_all : ∀ n, n < 256 →
    (alignVal (UInt8.ofNat n)).all (fun v => decide (alignSpec (UInt8.ofNat n) v)) = true := by
  decide +kernel

theorem alignVal_spec {c : UInt8} {n : Nat} (h : alignVal c = some n) : alignSpec c n := by
  have := alignVal_all c.toNat c.toNat_lt
  rw [UInt8.ofNat_toNat, h] at this
  simpa using this

theorem opAligned_val {o : UInt8} {n : Nat} (h : alignVal o = some n) (tail : List UInt8) (st : PSt) :
    opAligned st (o :: tail) = .ok ⟨pushA st (.aligned n), tail, true⟩ := by
  obtain ⟨_, hs⟩ := alignVal_spec h
  unfold opAligned
  dsimp only
  rcases hs with ⟨h1, h2, h3⟩ | ⟨h0, h1, h2, h3⟩ | ⟨h0, h0', h1, h2, h3⟩
  · rw [if_pos ⟨h1, h2⟩, h3]
  · rw [if_neg h0, if_pos ⟨h1, h2⟩, if_neg (by omega), h3]
  · rw [if_neg h0, if_neg h0', if_pos ⟨h1, h2⟩, if_neg (by omega), h3]

theorem item_alignedR {o : UInt8} {n : Nat} (h : alignVal o = some n) (rest : List UInt8) :
    ItemGoalR (.aligned n) (64 :: o :: rest) rest := by
  apply itemGoalR_push (fun _ => .aligned n)
  · intro st _ _
    refine ⟨pushA st (.aligned n), ?_, rfl, by simp [slotsItem, pushA], rfl, rfl, rfl⟩
    exact Steps.tok (upd := true) (by simp [Pelite.Pattern.tok, classify, opAligned_val h]) (Nat.le_succ _)
  · exact fun _ => rfl

theorem readDec_facts : ∀ (cs : List UInt8) (n : Nat) (seen : Bool) (m : Nat) (rest : List UInt8),
    readDec cs n seen = some (m, rest) → n ≤ m ∧ rest.length ≤ cs.length
  | [], _, _, _, _, h => by simp [readDec] at h
  | c :: cs, n, seen, m, rest, h => by
    rw [readDec] at h
    split at h
    · split at h
      · have := readDec_facts cs _ true m rest h
        simp only [List.length_cons]
        exact ⟨by omega, by omega⟩
      · simp at h
    · split at h
      · simp only [Option.some.injEq, Prod.mk.injEq] at h
        obtain ⟨rfl, rfl⟩ := h
        simp
      · simp at h

theorem digit_cond {c : UInt8} : (48 ≤ c ∧ c ≤ 57) ↔ (48 ≤ c.toNat ∧ c.toNat ≤ 57) := by
  simp [UInt8.le_iff_toNat_le]

theorem manyLower_of_readDec : ∀ (cs : List UInt8) (n : Nat) (seen : Bool) (m : Nat) (d : UInt8) (rest : List UInt8),
    readDec cs n seen = some (m, d :: rest) → m < 16384 → (d = 93 ∨ d = 45) →
    manyLower cs n seen = .ok (m, true, d.toNat, rest)
  | [], _, _, _, _, _, h, _, _ => by simp [readDec] at h
  | c :: cs, n, seen, m, d, rest, h, hm, hd => by
    have hmono := (readDec_facts _ _ _ _ _ h).1
    rw [readDec] at h
    rw [manyLower]
    dsimp only
    split at h
    · next hdig =>
      have hdig' := digit_cond.mp hdig
      split at h
      · have hmono2 := (readDec_facts _ _ _ _ _ h).1
        rw [if_neg (by omega), if_pos hdig', if_neg (by omega), if_neg (by omega), if_neg (by omega)]
        exact manyLower_of_readDec cs _ true m d rest h hm hd
      · simp at h
    · next hdig =>
      split at h
      · next hseen =>
        simp only [Option.some.injEq, Prod.mk.injEq, List.cons.injEq] at h
        obtain ⟨rfl, rfl, rfl⟩ := h
        have hc : c.toNat = 45 ∨ c.toNat = 93 := by
          rcases hd with rfl | rfl
          · right; rfl
          · left; rfl
        rw [if_pos hc, hseen]
      · simp at h

theorem manyUpper_of_readDec : ∀ (cs : List UInt8) (n : Nat) (seen : Bool) (m : Nat) (rest : List UInt8),
    readDec cs n seen = some (m, 93 :: rest) → m < 16384 →
    manyUpper cs n = .ok (m, rest)
  | [], _, _, _, _, h, _ => by simp [readDec] at h
  | c :: cs, n, seen, m, rest, h, hm => by
    have hmono := (readDec_facts _ _ _ _ _ h).1
    rw [readDec] at h
    rw [manyUpper]
    dsimp only
    split at h
    · next hdig =>
      have hdig' := digit_cond.mp hdig
      split at h
      · have hmono2 := (readDec_facts _ _ _ _ _ h).1
        rw [if_neg (by omega), if_pos hdig', if_neg (by omega), if_neg (by omega), if_neg (by omega)]
        exact manyUpper_of_readDec cs _ true m rest h hm
      · simp at h
    · next hdig =>
      split at h
      · simp only [Option.some.injEq, Prod.mk.injEq, List.cons.injEq] at h
        obtain ⟨rfl, rfl, rfl⟩ := h
        rw [if_pos (show (93 : UInt8).toNat = 93 from rfl)]
      · simp at h

theorem emitRange_toArray (l : List Atom) (n : Nat) (mk : Nat → Atom) (hn : n < 65536) :
    emitRange l.toArray n mk = (l ++ rangext n ++ [mk (n % 256)]).toArray := by
  unfold emitRange rangext
  have e : n / 256 % 256 = n / 256 := by omega
  split <;> simp [e]

theorem opMany_skip_read (st : PSt) {cs : List UInt8} {n : Nat} {rest : List UInt8}
    (h : readDec cs 0 false = some (n, 93 :: rest)) (hn : n < 16384) :
    opMany st cs
      = .ok ⟨{ st with result := if n > 0 then emitRange st.result n .skip else st.result }, rest, false⟩ := by
  unfold opMany
  rw [manyLower_of_readDec cs 0 false n 93 rest h hn (Or.inl rfl)]
  simp

theorem opMany_range_read (st : PSt) {cs mid rest : List UInt8} {a b : Nat}
    (h1 : readDec cs 0 false = some (a, 45 :: mid)) (h2 : readDec mid 0 false = some (b, 93 :: rest))
    (hab : a < b) (hb : b < 16384) :
    opMany st cs
      = .ok ⟨{ st with result := emitRange (if a > 0 then emitRange st.result a .skip else st.result) (b - a) .many },
          rest, true⟩ := by
  unfold opMany
  rw [manyLower_of_readDec cs 0 false a 45 mid h1 (by omega) (Or.inr rfl)]
  simp [manyUpper_of_readDec mid 0 false b rest h2 hb, hab]
  omega

theorem item_skipR {cs : List UInt8} {n : Nat} {rest : List UInt8}
    (h : readDec cs 0 false = some (n, 93 :: rest)) : ItemGoalR (.skip n) (91 :: cs) rest := by
  intro st base pend hwf _ _ hrel
  have hn : n < 16384 := by simpa [wfItem] using hwf
  have hlen := (readDec_facts _ _ _ _ _ h).2
  have htok : Pelite.Pattern.tok (91 : UInt8).toNat cs st = opMany st cs := by
    simp [Pelite.Pattern.tok, classify]
  rw [opMany_skip_read st h hn] at htok
  refine ⟨_, Steps.tok htok (by simp at hlen; omega), hrel.emit ?_ rfl ?_, by simp [slotsItem], rfl, rfl⟩
  · by_cases h0 : n = 0 <;>
      simp [compItem, h0, hrel.res, emitRange_toArray _ _ _ (show n < 65536 by omega), flush, Nat.pos_iff_ne_zero]
  · by_cases h0 : n = 0 <;> simp +contextual [compItem, h0]

theorem item_rangeR {cs mid rest : List UInt8} {a b : Nat}
    (h1 : readDec cs 0 false = some (a, 45 :: mid)) (h2 : readDec mid 0 false = some (b, 93 :: rest)) :
    ItemGoalR (.range a b) (91 :: cs) rest := by
  intro st base pend hwf _ _ hrel
  have hab : a < b ∧ b < 16384 := by simpa [wfItem] using hwf
  have hlen1 := (readDec_facts _ _ _ _ _ h1).2
  have hlen2 := (readDec_facts _ _ _ _ _ h2).2
  have htok : Pelite.Pattern.tok (91 : UInt8).toNat cs st = opMany st cs := by
    simp [Pelite.Pattern.tok, classify]
  rw [opMany_range_read st h1 h2 hab.1 hab.2] at htok
  refine ⟨_, Steps.tok htok (by simp at hlen1 hlen2; omega), hrel.emit ?_ rfl fun _ => .inr fun n => ?_,
    by simp [slotsItem], rfl, rfl⟩
  · by_cases h0 : a = 0 <;>
      simp [compItem, h0, hrel.res, emitRange_toArray _ _ _ (show b < 65536 by omega),
        emitRange_toArray _ _ _ (show a < 65536 by omega), emitRange_toArray _ _ _ (show b - a < 65536 by omega), flush,
        Nat.pos_iff_ne_zero]
  · simp [compItem, ← List.append_assoc]

/-! ## Sequences -/

theorem slotsItem_ge : ∀ (it : Item) (k : Nat), k ≤ slotsItem k it :=
  fun it k => slotsItem_le k it

theorem slotsAlts_ge : ∀ (bs : List (List Item)) (k : Nat), k ≤ slotsAlts k bs :=
  fun bs k => slotsAlts_le k bs

theorem seq_nilR (inp : List UInt8) : SeqGoalR [] inp inp := by
  intro st base pend _ _ _ hrel
  refine ⟨st, Steps.refl _ _, by simp [comp, hrel.res], by simp [slotsItems], rfl, rfl, ?_⟩
  have := hrel.sub_le; rw [hrel.res]; simp; omega

theorem seq_consR {it : Item} {r : List Item} {inp mid rest : List UInt8}
    (hi : ItemGoalR it inp mid) (hr : SeqGoalR r mid rest) : SeqGoalR (it :: r) inp rest := by
  intro st base pend hwf hsl hoff hrel
  simp only [wfItems, Bool.and_eq_true] at hwf
  simp only [slotsItems] at hsl
  simp only [offsItems, Bool.and_eq_true] at hoff
  have hsl1 : slotsItem st.save it ≤ 255 := Nat.le_trans (slotsItems_le _ r) hsl
  obtain ⟨st1, hs1, hrel1, hsv1, hd1, hsb1⟩ := hi st base pend hwf.1 hsl1 hoff.1 hrel
  obtain ⟨st2, hs2, hres2, hsv2, hd2, hsb2, hse2⟩ :=
    hr st1 _ _ (by rw [hd1]; exact hwf.2) (by rw [hsv1]; exact hsl) (by rw [hsv1]; exact hoff.2) hrel1
  refine ⟨st2, hs1.trans hs2, ?_, ?_, by rw [hd2, hd1], by rw [hsb2, hsb1], hse2⟩
  · rw [hres2, hsv1, comp_cons, List.append_assoc]
  · rw [hsv2, hsv1, slotsItems]

/-! ## `j { body }` -/

theorem opOpen_ok {st : PSt} {l : List Atom} (j : Jump) (hr : st.result = l.toArray)
    (hd : st.depth < 255) :
    opOpen (pushA st j.atom)
      = .ok { st with depth := st.depth + 1, result := (l ++ [Atom.push j.push, j.atom]).toArray } := by
  unfold opOpen
  have hb : (pushA st j.atom).result.back? = some j.atom := by simp [pushA]
  have hd' : (pushA st j.atom).depth = st.depth := rfl
  rw [if_neg (by omega), if_neg (by omega), hb]
  cases j <;> simp [Jump.atom, Jump.push, pushA, hr, setLast_append_singleton]

theorem item_groupR {j : Jump} {gap : List UInt8} {body : List Item} {inp rest : List UInt8}
    (hb : SeqGoalR body inp (125 :: rest)) :
    ItemGoalR (.group j gap body) (j.chr :: (gap ++ 123 :: inp)) rest := by
  intro st base pend hwf hsl hoff hrel
  simp only [wfItem, Bool.and_eq_true, decide_eq_true_eq] at hwf
  obtain ⟨⟨hgap, hd⟩, hwfb⟩ := hwf
  simp only [slotsItem] at hsl ⊢
  simp only [offsItem] at hoff
  have s1 := Steps.tok (tok_jump j (gap ++ 123 :: inp) st) (Nat.le_refl _)
  have s2 := steps_ws gap (123 :: inp) (pushA st j.atom) hgap
  have hopen := opOpen_ok (st := st) (l := base ++ flush pend) j hrel.res hd
  have s3 := Steps.tok (c := 123) (rest := inp) (st := pushA st j.atom) (upd := true)
    (st' := { st with depth := st.depth + 1, result := (base ++ flush pend ++ [Atom.push j.push, j.atom]).toArray })
    (by simp [Pelite.Pattern.tok, classify, hopen, liftSt]) (Nat.le_refl _)
  have hrelb : Rel { st with depth := st.depth + 1, result := (base ++ flush pend ++ [Atom.push j.push, j.atom]).toArray }
      (base ++ flush pend ++ [Atom.push j.push, j.atom]) none := by
    rw [List.append_assoc]
    refine hrel.emit (by simp [flush]) rfl fun _ => .inr fun n => ?_
    cases j <;> simp [Jump.atom]
  obtain ⟨st4, s4, hres4, hsv4, hd4, hsb4, hse4⟩ :=
    hb { st with depth := st.depth + 1, result := (base ++ flush pend ++ [Atom.push j.push, j.atom]).toArray }
      _ none hwfb hsl hoff hrelb
  simp only at hres4 hsv4 hd4 hsb4
  have hclose : opClose st4 = .ok { st4 with depth := st4.depth - 1, result := st4.result.push .pop } := by
    rw [opClose_eq, if_pos (by omega)]
  have s5 := Steps.tok (c := 125) (rest := rest) (st := st4) (upd := true)
    (st' := { st4 with depth := st4.depth - 1, result := st4.result.push .pop })
    (by simp [Pelite.Pattern.tok, classify, hclose, liftSt]) (Nat.le_refl _)
  refine ⟨_, (((s1.trans s2).trans s3).trans s4).trans s5, ?_, hsv4, by simp [hd4], hsb4⟩
  simp only [compItem]
  rw [show base ++ (flush pend ++ Atom.push j.push :: j.atom :: (comp st.save none body ++ [Atom.pop]))
      = base ++ flush pend ++ [Atom.push j.push, j.atom] ++ comp st.save none body ++ [Atom.pop] by simp]
  refine ⟨by simp [hres4, flush], ?_, fun _ => Or.inr (fun n => by rw [List.getLast?_concat]; simp)⟩
  rw [hres4] at hse4; simp at hse4 ⊢; omega

/-! ## `( b1 | … | bn )` -/

theorem fillBrks_spec : ∀ (brks : List Nat) (l : List Atom),
    (∀ i ∈ brks, i < l.length ∧ l.length < i + 257) →
    fillBrks l.toArray brks = .ok (patch l.length l brks).toArray
  | [], l, _ => by simp [fillBrks, patch]
  | i :: brks, l, h => by
    obtain ⟨h1, h2⟩ := h i (by simp)
    have ih := fillBrks_spec brks (l.set i (Atom.brk (l.length - i - 1)))
      (fun i' hi' => by rw [List.length_set]; exact h i' (by simp [hi']))
    rw [List.length_set] at ih
    rw [fillBrks]
    simp only [List.size_toArray]
    rw [if_neg (by omega), if_neg (by omega), if_neg (by omega)]
    simpa [patch] using ih

theorem opSubEnd_ok {st : PSt} {sub : Sub} {subs0 : List Sub} {P : List Atom} {c : Atom} {rest : List Atom}
    (hs : st.subs = sub :: subs0) (hr : st.result = (P ++ c :: rest).toArray) (hc : sub.case = P.length)
    (hb : ∀ i ∈ sub.brks, i < P.length ∧ P.length + 1 + rest.length < i + 257) :
    opSubEnd st = .ok { result := (patch (P.length + 1 + rest.length) P sub.brks ++ Atom.nop :: rest).toArray,
                        save := max sub.saveNext st.save, depth := sub.depth, subs := subs0,
                        subEnd := P.length + 1 + rest.length } := by
  unfold opSubEnd
  rw [hs]; dsimp only
  rw [if_neg (by rw [hr, hc]; simp)]
  have e : st.result.setIfInBounds sub.case Atom.nop = (P ++ Atom.nop :: rest).toArray := by
    rw [hr, hc]; simp
  have hlen : (P ++ Atom.nop :: rest).length = P.length + 1 + rest.length := by simp; omega
  rw [e, fillBrks_spec sub.brks _ (by rw [hlen]; intro i hi; have := hb i hi; omega)]
  dsimp only
  rw [hlen, patch_append _ _ _ _ (fun i hi => (hb i hi).1)]
  simp [patch_length]; omega

theorem rel_case {st : PSt} {P : List Atom} (hr : st.result = (P ++ [Atom.case 0]).toArray)
    (hse : st.subEnd ≤ P.length + 1) : Rel st (P ++ [Atom.case 0]) none :=
  ⟨by simp [hr, flush], by simp; omega, fun _ => Or.inr (fun n => by rw [List.getLast?_concat]; simp)⟩

theorem alts_lastR {b : List Item} {inp rest : List UInt8} (hb : SeqGoalR b inp (41 :: rest)) :
    AltsGoalR [b] inp rest := by
  intro st P sub subs0 _ hwf hsl hoff hres hsubs hcase hbrks hsave hdepth hse
  simp only [wfAlts, Bool.and_eq_true, and_true] at hwf
  simp only [offsAlts] at hoff
  have hmono := slotsItems_le st.save b
  have hsl' : slotsAlts st.save [b] = slotsItems st.save b := by simp [slotsAlts]; omega
  rw [hsl'] at hsl ⊢
  simp only [compAlts, List.length_cons] at hbrks ⊢
  obtain ⟨st2, s2, hres2, hsv2, hd2, hsb2, hse2⟩ :=
    hb st (P ++ [Atom.case 0]) none hwf hsl hoff (rel_case hres hse)
  have hres2' : st2.result = (P ++ Atom.case 0 :: comp st.save none b).toArray := by rw [hres2]; simp
  have hend := opSubEnd_ok (st := st2) (hsb2.trans hsubs) hres2' hcase
    (by intro i hi; have := hbrks i hi; omega)
  have s3 := Steps.tok (c := 41) (rest := rest) (st := st2) (upd := true) (st' := _)
    (by simp only [Pelite.Pattern.tok, classify]; simp [hend, liftSt]; rfl) (Nat.le_refl _)
  refine ⟨_, s2.trans s3, ?_, by simp [hsv2], by simp [hdepth], rfl, ?_⟩
  · rw [show P.length + ((comp st.save none b).length + 1) = P.length + 1 + (comp st.save none b).length by omega]
  · simp [patch_length]; omega

/-- for `alts_consR`: `P` = atoms before the alternatives (placeholders at `brks`), `cb` = the alternative just
finished, `ca` = code of those to come; left what the parser holds at `)`, right how `compAlts` spells it -/
theorem patch_step (P cb ca : List Atom) (brks : List Nat) (hb : ∀ i ∈ brks, i < P.length) :
    (patch ((P ++ Atom.case (cb.length + 1) :: cb ++ [Atom.brk 0]).length + ca.length)
        (P ++ Atom.case (cb.length + 1) :: cb ++ [Atom.brk 0]) brks).set (P.length + 1 + cb.length)
        (Atom.brk ((P ++ Atom.case (cb.length + 1) :: cb ++ [Atom.brk 0]).length + ca.length
          - (P.length + 1 + cb.length) - 1)) ++ ca
      = patch (P.length + (cb.length + (ca.length + 1) + 1)) P brks
          ++ Atom.case (cb.length + 1) :: (cb ++ Atom.brk ca.length :: ca) := by
  have hl : (P ++ Atom.case (cb.length + 1) :: cb ++ [Atom.brk 0]).length = P.length + cb.length + 2 := by
    simp; omega
  rw [hl]
  have e1 : P.length + cb.length + 2 + ca.length = P.length + (cb.length + (ca.length + 1) + 1) := by omega
  have e2 : P.length + (cb.length + (ca.length + 1) + 1) - (P.length + 1 + cb.length) - 1 = ca.length := by omega
  rw [e1, e2]
  rw [show P ++ Atom.case (cb.length + 1) :: cb ++ [Atom.brk 0]
      = P ++ ((Atom.case (cb.length + 1) :: cb) ++ [Atom.brk 0]) by simp]
  rw [patch_append _ _ _ _ hb, List.set_append_right _ _ (by rw [patch_length]; omega), patch_length]
  have e3 : P.length + 1 + cb.length - P.length = (Atom.case (cb.length + 1) :: cb).length := by simp; omega
  rw [e3]; simp

theorem alts_consR {b : List Item} {bs : List (List Item)} {inp mid rest : List UInt8} (hne : bs ≠ [])
    (hb : SeqGoalR b inp (124 :: mid)) (hbs : AltsGoalR bs mid rest) : AltsGoalR (b :: bs) inp rest := by
  intro st P sub subs0 _ hwf hsl hoff hres hsubs hcase hbrks hsave hdepth hse
  simp only [wfAlts, Bool.and_eq_true] at hwf
  rw [offsAlts_cons, if_neg hne] at hoff
  simp only [Bool.and_eq_true, decide_eq_true_eq, code] at hoff
  obtain ⟨⟨⟨hoffb, hlen1⟩, hlen2⟩, hoffbs⟩ := hoff
  replace hlen1 : (comp st.save none b).length + 1 < 256 := of_decide_eq_true hlen1
  simp only [slotsAlts] at hsl ⊢
  rw [compAlts_cons, if_neg hne] at hbrks ⊢
  simp only [List.length_cons, List.length_append] at hbrks ⊢
  obtain ⟨st2, s2, hres2, hsv2, hd2, hsb2, hse2⟩ :=
    hb st (P ++ [Atom.case 0]) none hwf.1 (by omega) hoffb (rel_case hres hse)
  have hres2' : st2.result = (P ++ Atom.case 0 :: comp st.save none b).toArray := by rw [hres2]; simp
  -- `|`: the finished alternative gets its `Case` operand and a `Break(0)` placeholder, recorded in `brks`
  have hsz2 : st2.result.size = P.length + 1 + (comp st.save none b).length := by rw [hres2']; simp; omega
  have hcasep := opSubCase_eq (hsb2.trans hsubs) (by omega)
  rw [hsz2, hcase, if_pos (by omega),
    show P.length + 1 + (comp st.save none b).length + 1 - P.length - 1 = (comp st.save none b).length + 1 by omega] at hcasep
  have hres3 : ((st2.result.push (.brk 0)).setIfInBounds P.length (.case ((comp st.save none b).length + 1))).push (.case 0)
      = ((P ++ Atom.case ((comp st.save none b).length + 1) :: comp st.save none b ++ [Atom.brk 0]) ++ [Atom.case 0]).toArray := by
    rw [hres2']; simp
  rw [hres3] at hcasep
  have s3 := Steps.tok (c := 124) (rest := mid) (st := st2) (upd := true) (st' := _)
    (by show liftSt mid (opSubCase st2) = _; rw [hcasep]; rfl) (Nat.le_refl _)
  obtain ⟨st4, s4, hres4, hsv4, hd4, hsb4, hse4⟩ :=
    hbs { st2 with
          result := (P ++ Atom.case ((comp st.save none b).length + 1) :: comp st.save none b ++ [Atom.brk 0]
            ++ [Atom.case 0]).toArray,
          save := sub.save, depth := sub.depth,
          subs := { sub with case := P.length + 1 + (comp st.save none b).length + 1,
                             brks := sub.brks ++ [P.length + 1 + (comp st.save none b).length],
                             saveNext := max sub.saveNext st2.save } :: subs0 }
      _ _ subs0 hne
      (by simp only [hdepth]; exact hwf.2) (by simp only [hsave]; omega) (by simp only [hsave]; exact hoffbs) rfl rfl
      (by simp; omega)
      (by
        intro i hi
        simp only [List.mem_append, List.mem_singleton] at hi
        simp only [hsave, List.length_append, List.length_cons, List.length_nil]
        rcases hi with hi | hi
        · have := hbrks i hi; omega
        · omega)
      rfl rfl
      (by rw [hres2] at hse2; simp at hse2 ⊢; omega)
  simp only [hsave] at hres4 hsv4
  refine ⟨st4, (s2.trans s3).trans s4, ?_, ?_, hd4.trans hdepth, hsb4, hse4⟩
  · rw [hres4, patch_snoc]
    rw [patch_step _ _ _ _ (fun i hi => (hbrks i hi).1)]
  · rw [hsv4, hsv2, Nat.max_assoc]

theorem item_altR {bodies : List (List Item)} {inp rest : List UInt8} (ha : AltsGoalR bodies inp rest) :
    ItemGoalR (.alt bodies) (40 :: inp) rest := by
  intro st base pend hwf hsl hoff hrel
  simp only [wfItem, Bool.and_eq_true, Bool.not_eq_true', List.isEmpty_eq_false_iff] at hwf
  simp only [slotsItem] at hsl ⊢
  simp only [offsItem] at hoff
  have s1 := Steps.tok (c := 40) (rest := inp) (st := st) (upd := true)
    (st' := { st with
      subs := { case := (base ++ flush pend).length, brks := [], save := st.save, saveNext := 0, depth := st.depth }
                :: st.subs,
      result := ((base ++ flush pend) ++ [Atom.case 0]).toArray })
    (by simp [Pelite.Pattern.tok, classify, opSubStart, liftSt, hrel.res]) (Nat.le_refl _)
  obtain ⟨st2, s2, hres2, hsv2, hd2, hsb2, hse2⟩ :=
    ha { st with
          subs := { case := (base ++ flush pend).length, brks := [], save := st.save, saveNext := 0, depth := st.depth }
                    :: st.subs,
          result := ((base ++ flush pend) ++ [Atom.case 0]).toArray }
      (base ++ flush pend)
      { case := (base ++ flush pend).length, brks := [], save := st.save, saveNext := 0, depth := st.depth }
      st.subs hwf.1 hwf.2 hsl hoff rfl rfl rfl (by simp) rfl rfl
      (by have := hrel.sub_le; simp; omega)
  simp only [patch, List.foldl_nil] at hres2
  refine ⟨st2, s1.trans s2, ?_, by simp [hsv2], hd2, hsb2⟩
  simp only [compItem]
  refine ⟨by simp [hres2, flush], ?_, fun _ => Or.inl ?_⟩
  · rw [hse2, hres2]; simp
  · rw [hse2, hres2]; simp


/-! ## Rendered tokens: the reader's token functions invert the renderer's -/

theorem hexVal_hexDigit : ∀ (up : Bool) (n : Nat), n < 16 → hexVal (hexDigit up n) = some n := by decide

theorem alignChr_read : ∀ (uh ua : Bool) (n : Nat), n < 36 → alignVal (alignChr ⟨uh, ua⟩ n) = some n := by decide

theorem readDec_digit (d : Nat) (cs : List UInt8) (n : Nat) (seen : Bool) (hd : d < 10) (hn : n < 100000) :
    readDec ((48 + d).toUInt8 :: cs) n seen = readDec cs (n * 10 + d) true := by
  have ht := digit_toNat d hd
  have hc : 48 ≤ (48 + d).toUInt8 ∧ (48 + d).toUInt8 ≤ 57 := by rw [digit_cond, ht]; omega
  rw [readDec, if_pos hc, if_pos hn, ht]
  congr 1; omega

theorem readDec_decDigits : ∀ (fuel n : Nat) (acc rest : List UInt8), n < 10 ^ (fuel + 1) → n < 100000 →
    readDec (decDigits (fuel + 1) n acc ++ rest) 0 false = readDec (acc ++ rest) n true
  | 0, n, acc, rest, h, _ => by
    have hn : n < 10 := by simpa using h
    rw [decDigits, if_pos hn, List.cons_append, readDec_digit n _ 0 false hn (by omega)]; simp
  | fuel + 1, n, acc, rest, h, h2 => by
    rw [decDigits]
    split
    · next hn => rw [List.cons_append, readDec_digit n _ 0 false hn (by omega)]; simp
    · next hn =>
      have h10 : n / 10 < 10 ^ (fuel + 1) := by rw [Nat.pow_succ] at h; omega
      rw [readDec_decDigits fuel (n / 10) _ rest h10 (by omega), List.cons_append,
        readDec_digit (n % 10) _ (n / 10) true (by omega) (by omega)]
      congr 1; omega

theorem readDec_dec (n : Nat) (hn : n < 16384) (c : UInt8) (hc : c = 45 ∨ c = 93) (rest : List UInt8) :
    readDec (dec n ++ c :: rest) 0 false = some (n, c :: rest) := by
  rw [dec, readDec_decDigits 5 n [] _ (by omega) (by omega), List.nil_append, readDec]
  rcases hc with rfl | rfl <;> simp

theorem item_byte (sty : Style) (b : Nat) (tail : List UInt8) :
    ItemGoalR (.byte b) (renderItem sty (.byte b) ++ tail) tail := by
  intro st base pend hwf
  have hb : b < 256 := by simpa [wfItem] using hwf
  have h := item_byteR (hexVal_hexDigit sty.upperHex (b / 16) (by omega))
    (hexVal_hexDigit sty.upperHex (b % 16) (by omega)) tail
  rw [Nat.div_add_mod' b 16] at h
  exact h st base pend hwf

theorem item_range (sty : Style) (a b : Nat) (tail : List UInt8) :
    ItemGoalR (.range a b) (renderItem sty (.range a b) ++ tail) tail := by
  intro st base pend hwf
  have hab : a < b ∧ b < 16384 := by simpa [wfItem] using hwf
  exact (item_rangeR (readDec_dec a (by omega) 45 (Or.inl rfl) _) (readDec_dec b hab.2 93 (Or.inr rfl) tail)).of_eq
    (by simp [renderItem]) st base pend hwf

/-! ## The recursion over the tree -/

mutual
theorem itemGoalR_render (sty : Style) : ∀ (it : Item) (tail : List UInt8), ItemGoalR it (renderItem sty it ++ tail) tail
  | .ws s, tail => item_wsR s tail
  | .byte b, tail => item_byte sty b tail
  | .str bs, tail => (item_strR bs tail).of_eq (by simp [renderItem])
  | .any, tail => item_anyR tail
  | .skip n, tail => fun st base pend hwf =>
    (item_skipR (readDec_dec n (by simpa [wfItem] using hwf) 93 (Or.inr rfl) tail)).of_eq (by simp [renderItem])
      st base pend hwf
  | .range a b, tail => item_range sty a b tail
  | .jump j, tail => item_jumpR j tail
  | .save, tail => item_saveR tail
  | .aligned n, tail => fun st base pend hwf =>
    item_alignedR (alignChr_read sty.upperHex sty.upperAlign n (by simpa [wfItem] using hwf)) tail st base pend hwf
  | .readI w, tail => item_readR true w tail
  | .readU w, tail => item_readR false w tail
  | .zero, tail => item_zeroR tail
  | .group _ _ body, tail => (item_groupR (seqGoalR_render sty body (125 :: tail))).of_eq (by simp [renderItem])
  | .alt bodies, tail => (item_altR (altsGoalR_render sty bodies tail)).of_eq (by simp [renderItem])
theorem seqGoalR_render (sty : Style) : ∀ (items : List Item) (tail : List UInt8),
    SeqGoalR items (render sty items ++ tail) tail
  | [], tail => seq_nilR tail
  | it :: r, tail => by
    rw [render, List.append_assoc]
    exact seq_consR (itemGoalR_render sty it _) (seqGoalR_render sty r tail)
theorem altsGoalR_render (sty : Style) : ∀ (bodies : List (List Item)) (tail : List UInt8),
    AltsGoalR bodies (renderAlts sty bodies ++ 41 :: tail) tail
  | [], _ => fun _ _ _ _ h => absurd rfl h
  | [b], tail => alts_lastR (seqGoalR_render sty b (41 :: tail))
  | b :: b' :: bs, tail => by
    rw [renderAlts_cons, if_neg (by simp), List.append_assoc]
    exact alts_consR (by simp) (seqGoalR_render sty b _) (altsGoalR_render sty (b' :: bs) tail)
end

theorem itemGoal (sty : Style) : ∀ it : Item, ItemGoal sty it := fun it => .ofR (itemGoalR_render sty it)

theorem altsGoal (sty : Style) : ∀ bodies : List (List Item), AltsGoal sty bodies :=
  fun bodies => .ofR (altsGoalR_render sty bodies)

/-! ## Trimming and the top level -/

theorem isRedundant_eq : ∀ a : Atom, isRedundant a = redundant a := by
  intro a; cases a <;> rfl

theorem trim_toList (r : Array Atom) : (trim r).toList = trimEnd r.toList := by
  rw [trim_eq_dropWhile, funext isRedundant_eq]; rfl

theorem parse_of_seqGoalR {s : List UInt8} {p : Pat} (h : SeqGoalR p s []) (hwf : WF p = true) :
    parse s = .ok (compile p) := by
  simp only [WF, Bool.and_eq_true, decide_eq_true_eq] at hwf
  obtain ⟨⟨hwf, hsl⟩, hoff⟩ := hwf
  have hrel : Rel initSt [Atom.save 0] none :=
    ⟨rfl, by simp [initSt], fun _ => Or.inr (by simp)⟩
  obtain ⟨st1, s1, hres, _, hd, hsb, _⟩ := h initSt [Atom.save 0] none hwf hsl hoff hrel
  obtain ⟨fuel', pat', he, hf⟩ := s1 (s.length + 1) s (Nat.le_refl _)
  unfold parse
  rw [he]
  cases fuel' with
  | zero => simp at hf
  | succ f =>
    have hfin : finish st1 = .ok (trim st1.result) := by
      unfold finish
      rw [if_neg (by rw [hd]; simp [initSt]), if_neg (by rw [hsb]; simp [initSt])]
    rw [parseLoop]
    simp only [hfin]
    rw [trim_toList, hres]
    simp [compile, compileRaw, code, initSt]

theorem parse_render (sty : Style) (p : Pat) (h : WF p = true) :
    parse (render sty p) = .ok (compile p) := by
  have hs := seqGoalR_render sty p []
  rw [List.append_nil] at hs
  exact parse_of_seqGoalR hs h

theorem parse_showPat (p : Pat) (h : WF p = true) : parse (showPat p) = .ok (compile p) :=
  parse_render {} p h

theorem parse_showPatUpper (p : Pat) (h : WF p = true) : parse (showPatUpper p) = .ok (compile p) :=
  parse_render { upperHex := true, upperAlign := true } p h


/-! ## Non-vacuity: the theorem applies to nested trees (and the parser really produces these atoms) -/

/-- `e8 ${ ( [2-300] 41 | ' "ab" ? ? ) @4 } u4 [3] ?` -/
def exTree1 : Pat :=
  [.byte 0xe8, .ws [32], .group .j4 [] [.ws [32], .alt [[.range 2 300, .byte 0x41], [.save, .str [97, 98], .any, .any]],
    .aligned 4], .readU 4, .skip 3, .any]

example : parse (render ⟨true, false⟩ exTree1) = .ok (compile exTree1) := parse_render _ exTree1 (by decide +kernel)

/-- nested alternatives and groups: `( %{ ( z | i1 ) } | *{ [256] "" ? } | 0f ) '` -/
def exTree2 : Pat :=
  [.alt [[.group .j1 [] [.alt [[.zero], [.readI 1]]]], [.group .ptr [9] [.skip 256, .str [], .any]], [.byte 15]], .save]

example : parse (showPat exTree2) = .ok (compile exTree2) := parse_showPat exTree2 (by decide +kernel)
example : parse (showPatUpper exTree2) = .ok (compile exTree2) := parse_showPatUpper exTree2 (by decide +kernel)

example : compile exTree2 =
    [.save 0, .case 9, .push 1, .jump1, .case 2, .zero 1, .brk 2, .nop, .readI8 1, .pop, .brk 10,
     .case 7, .push 0, .ptr, .rangext 1, .skip 0, .skip 1, .pop, .brk 2, .nop, .byte 15, .save 2] := by decide +kernel

end Pelite.PatSem
