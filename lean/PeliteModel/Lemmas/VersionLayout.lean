import PeliteModel.Lemmas.VersionSpecQueries
/-!
C13: the documented layout as a relation (`Spec.IsNode`, `IsNodes`, `VInfo.IsBlock`) read back: one structure
(`parseTlv_isNode`), one level (`items_layout`), a block (`root_layout : v.IsBlock ws → ReadsAs ⟨off, ws⟩ v`); the
reference writer produces a layout; the decidable layout test is sound.
-/

namespace Pelite.Version
open Spec

def Carries (t : Tlv) : Node → Prop
  | .mk key value _ children => t.key.ws = key ∧ t.value.ws = value ∧ IsNodes children t.children.ws

/-- the value-length convention of the structure is the one the parser applies at its level -/
def NodeCompat (vlt : Vlt) : Node → Prop
  | .mk _ value text _ =>
    match vlt with
    | .zero => value = []
    | .bytes => text = false ∨ value = []
    | .words => text = true ∨ value = []

/-- Whatever the padding words hold, whether Padding1 / Padding2 are kept where they may be omitted, whatever `wType`
says and whatever follows the structure, `parse_tlv` returns its key, value and children, and resumes after the padding. -/
theorem parseTlv_isNode (vlt : Vlt) {nd : Node} {n : List Nat} (hnd : IsNode nd n) (hc : NodeCompat vlt nd)
    (tl : List Nat) (off : Nat) :
    ∃ t r, parseTlv vlt ⟨off, n ++ tl⟩ = .ok (t, r) ∧ Carries t nd ∧ r.ws = tl.drop (n.length % 2) := by
  obtain ⟨key, value, text, children⟩ := nd
  rw [IsNode] at hnd
  obtain ⟨wType, p1, p2, body, hk, hbody, h1, h2, hn0⟩ := hnd
  obtain ⟨rest, hrest⟩ : ∃ rest, rest = p1 ++ (value ++ (p2 ++ body)) := ⟨_, rfl⟩
  have hR : rest.length = p1.length + (value.length + (p2.length + body.length)) := by
    rw [hrest]; simp only [List.length_append]
  have hN : n.length = 4 + key.length + p1.length + value.length + p2.length + body.length := by
    rw [hn0]; simp only [List.length_append, List.length_cons, List.length_nil]; omega
  have hn : n = [2 * n.length, (if text then value.length else 2 * value.length), wType] ++ (key ++ 0 :: rest) := by
    rw [hN, hrest]; conv => lhs; rw [hn0]
    simp
  have hvl : valueLen vlt ⟨0, [0, if text then value.length else 2 * value.length]⟩ = some value.length := by
    unfold valueLen
    simp only [List.getD_cons_succ, List.getD_cons_zero]
    cases vlt
    · have : value = [] := hc
      subst this; simp
    · rcases hc with h | h <;> subst h <;> simp
    · rcases hc with h | h <;> subst h <;> simp
  -- the two `cmp::min(_, words.len())` clamps of `parse_tlv` are what absorb an omitted Padding1 / Padding2:
  -- without the padding the aligned bound overshoots the structure by one word and is cut back to its end
  have hb : min (key.length % 2) rest.length = p1.length := by
    rcases h1 with h | ⟨rfl, rfl, rfl⟩
    · omega
    · rcases h2 with h | ⟨rfl, -⟩ <;> simp_all
  have hd : rest.drop p1.length = value ++ (p2 ++ body) := by rw [hrest, List.drop_left]
  have hcc : min (align2 value.length) (value ++ (p2 ++ body)).length = (value ++ p2).length := by
    simp only [List.length_append, align2_eq]
    rcases h2 with h | ⟨rfl, rfl⟩ <;> simp <;> omega
  refine ⟨_, _, (parseTlv_header vlt off _ _ wType key rest tl n hk rfl hn).mpr ⟨_, hvl, ?_, rfl, rfl⟩, ⟨rfl, ?_, ?_⟩, ?_⟩
  · simp only [hb, hd, Sl.len, List.length_append]; omega
  · simp only [hb, hd, Sl.take, List.take_left]
  · simp only [hb, hd, Sl.drop, Sl.len, hcc]
    rwa [← List.append_assoc, List.drop_left]
  · simp only [Sl.drop, align2_eq]
    by_cases ht : n.length % 2 ≤ tl.length
    · rw [Nat.min_eq_left (by omega), ← List.drop_drop, List.drop_left]
    · rw [Nat.min_eq_right (by omega), ← List.drop_drop, List.drop_left, List.drop_of_length_le (Nat.le_refl _),
        List.drop_of_length_le (by omega)]

theorem sl_eta (c : Sl) (ws : List Nat) (h : c.ws = ws) : c = ⟨c.off, ws⟩ := by
  cases c; simp only at h; rw [h]

/-- the loop over the laid out siblings `ds.map node` sees exactly them, in order, each carrying its structure; so what
`F` reads off the parsed nodes is what `G` says of the structures -/
theorem items_layout {β δ : Type} (vlt : Vlt) (node : β → Node) (F : Tlv → δ) (G : β → δ) (ds : List β)
    (hc : ∀ b ∈ ds, NodeCompat vlt (node b)) (hFG : ∀ t, ∀ b ∈ ds, Carries t (node b) → F t = G b) :
    ∀ c : Sl, IsNodes (ds.map node) c.ws → (items vlt c).map F = ds.map G := by
  induction ds with
  | nil =>
    intro ⟨off, ws⟩ h
    rw [List.map_nil, IsNodes] at h; subst h
    rw [items_nil (by simp [Sl.len])]; rfl
  | cons b ds ih =>
    intro ⟨off, ws⟩ h
    rw [List.map_cons, IsNodes] at h
    obtain ⟨w, pad, rest, hn, hrest, hpad, rfl⟩ := h
    obtain ⟨t, r, hp, hcar, e4⟩ := parseTlv_isNode vlt hn (hc b (List.mem_cons_self ..)) (pad ++ rest) off
    have hr : r.ws = rest := by
      rw [e4]
      rcases hpad with hpad | ⟨hpad, hns⟩
      · rw [← hpad]; simp
      · subst hpad
        rw [hns, IsNodes] at hrest; subst hrest
        simp
    rw [List.append_assoc, items_ok hp, List.map_cons, List.map_cons, hFG t b (List.mem_cons_self ..) hcar, sl_eta r rest hr,
      ih (fun x hx => hc x (List.mem_cons_of_mem _ hx)) (fun t x hx => hFG t x (List.mem_cons_of_mem _ hx)) ⟨r.off, rest⟩ hrest]

theorem strs_layout (c : Sl) (strs : List VStr) (h : IsNodes (strs.map VStr.node) c.ws) :
    (items .words c).map Tlv.str = strs :=
  (items_layout .words VStr.node Tlv.str id strs (fun _ _ => Or.inl rfl)
    (fun _ _ _ hts => congr (congrArg VStr.mk hts.1) hts.2.1) c h).trans (List.map_id _)

theorem vars_layout (c : Sl) (vs : List VVar) (h : IsNodes (vs.map VVar.node) c.ws) :
    (items .bytes c).map Tlv.var = vs :=
  (items_layout .bytes VVar.node Tlv.var id vs (fun _ _ => Or.inl rfl)
    (fun _ _ _ hts => congr (congrArg VVar.mk hts.1) hts.2.1) c h).trans (List.map_id _)

theorem tables_layout (c : Sl) (ts : List VTable) (h : IsNodes (ts.map VTable.node) c.ws) :
    ((items .zero c).map pTable).map PTable.abs = ts := by
  rw [List.map_map]
  exact (items_layout .zero VTable.node (PTable.abs ∘ pTable) id ts (fun _ _ => rfl)
    (fun st t _ hst => congr (congrArg VTable.mk hst.1) (strs_layout st.children t.strings hst.2.2)) c h).trans (List.map_id _)

theorem infos_layout (c : Sl) (bs : List VBlock) (h : IsNodes (bs.map VBlock.node) c.ws) :
    ((items .zero c).map pInfo).map PInfo.abs = bs.map some := by
  rw [List.map_map]
  refine items_layout .zero VBlock.node (PInfo.abs ∘ pInfo) some bs (fun b _ => by cases b <;> exact rfl) ?_ c h
  intro fi b _ hfb
  have hne : strVarFileInfo ≠ strStringFileInfo := by decide
  cases b with
  | stringInfo ts =>
    obtain ⟨h1, _, h3⟩ := hfb
    simp only [Function.comp, pInfo, PInfo.abs, h1, kStringFileInfo_eq, if_true, tables_layout fi.children ts h3]
  | varInfo vs =>
    obtain ⟨h1, _, h3⟩ := hfb
    simp only [Function.comp, pInfo, PInfo.abs, h1, kVarFileInfo_eq, hne, if_true, if_false, vars_layout fi.children vs h3]

theorem root_layout (v : VInfo) (ws : List Nat) (h : v.IsBlock ws) (off : Nat) :
    ReadsAs ⟨off, ws⟩ v := by
  obtain ⟨root, tl, hroot, rfl⟩ := h
  obtain ⟨t, r, hp, ⟨e1, e2, e3⟩, _⟩ := parseTlv_isNode .bytes hroot (Or.inl rfl) tl off
  refine ⟨pRoot t, (items .bytes r).map pRoot, ?_, e1, e2, infos_layout t.children v.blocks e3⟩
  unfold pRoots; rw [items_ok hp]; rfl

theorem encNode_isNode (tight : Bool) (key value : List Nat) (text : Bool) (children : List Node) (body : List Nat)
    (hk : keyOk key = true) (hb : IsNodes children body) :
    IsNode (.mk key value text children) (encNode tight key value text body) := by
  obtain ⟨p1, p2, ht, h1, h2⟩ := encTail_decomp tight key value body
  rw [IsNode]
  refine ⟨(if text then 1 else 0), p1, p2, body, hk, hb, ?_, ?_, ?_⟩
  · rcases h1 with h | ⟨h, hv, hbb, _⟩
    · exact Or.inl h
    · exact Or.inr ⟨h, hv, hbb⟩
  · rcases h2 with ⟨h, _⟩ | ⟨h, hbb⟩
    · exact Or.inl h
    · exact Or.inr ⟨h, hbb⟩
  · rw [encNode_eq, ht]
    simp only [List.length_append, List.append_assoc, List.cons_append, List.nil_append, List.cons.injEq, and_true]
    omega

theorem encodeList_isNodes (tight : Bool) (ns : List Node) (h : ∀ n ∈ ns, IsNode n (Spec.encode tight n)) :
    IsNodes ns (encodeList tight ns) := by
  induction ns with
  | nil => rw [IsNodes, encodeList]
  | cons n ns ih =>
    rw [IsNodes, encodeList]
    refine ⟨Spec.encode tight n, (if ns.isEmpty then [] else pad (Spec.encode tight n).length), encodeList tight ns,
      h n (List.mem_cons_self ..), ih (fun x hx => h x (List.mem_cons_of_mem _ hx)), ?_, ?_⟩
    · cases ns with
      | nil => exact Or.inr ⟨rfl, rfl⟩
      | cons m ms => exact Or.inl (by simp [pad_length])
    · cases ns with
      | nil => simp [encodeList]
      | cons m ms => simp

theorem encode_isNode_mk (tight : Bool) (key value : List Nat) (text : Bool) (children : List Node)
    (hk : keyOk key = true) (h : ∀ n ∈ children, IsNode n (Spec.encode tight n)) :
    IsNode (.mk key value text children) (Spec.encode tight (.mk key value text children)) := by
  rw [Spec.encode]
  exact encNode_isNode tight key value text children _ hk (encodeList_isNodes tight children h)

theorem encode_isBlock (tight : Bool) (v : VInfo) (hwf : v.wf = true) : v.IsBlock (v.encode tight) := by
  simp only [VInfo.wf, Bool.and_eq_true, List.all_eq_true] at hwf
  refine ⟨v.encode tight, [], ?_, by simp⟩
  unfold VInfo.encode VInfo.node
  refine encode_isNode_mk tight _ _ _ _ hwf.1 ?_
  intro n hn
  obtain ⟨b, hb, rfl⟩ := List.mem_map.mp hn
  have hbw := hwf.2 b hb
  cases b with
  | stringInfo ts =>
    simp only [VBlock.wf, List.all_eq_true] at hbw
    unfold VBlock.node
    refine encode_isNode_mk tight _ _ _ _ (by decide) ?_
    intro n hn
    obtain ⟨t, ht, rfl⟩ := List.mem_map.mp hn
    have htw := hbw t ht
    simp only [VTable.wf, Bool.and_eq_true, List.all_eq_true] at htw
    unfold VTable.node
    refine encode_isNode_mk tight _ _ _ _ htw.1 ?_
    intro n hn
    obtain ⟨s, hs, rfl⟩ := List.mem_map.mp hn
    unfold VStr.node
    exact encode_isNode_mk tight _ _ _ _ (htw.2 s hs) (fun _ h => by cases h)
  | varInfo vs =>
    simp only [VBlock.wf, List.all_eq_true] at hbw
    unfold VBlock.node
    refine encode_isNode_mk tight _ _ _ _ (by decide) ?_
    intro n hn
    obtain ⟨x, hx, rfl⟩ := List.mem_map.mp hn
    unfold VVar.node
    exact encode_isNode_mk tight _ _ _ _ (hbw x hx) (fun _ h => by cases h)

theorem stripPrefix_sound {pre ws rest : List Nat} (h : stripPrefix pre ws = some rest) : ws = pre ++ rest := by
  unfold stripPrefix at h
  split at h
  · rename_i hp
    cases h
    conv => lhs; rw [← List.take_append_drop pre.length ws]
    rw [hp]
  · cases h

theorem isNode_of_parts (key value : List Nat) (text : Bool) (children : List Node) (wLength vLength wType : Nat)
    (rest p1 p2 body : List Nat)
    (hL : wLength = 2 * (wLength :: vLength :: wType :: rest).length)
    (hV : vLength = if text then value.length else 2 * value.length)
    (hk : keyOk key = true) (hbody : IsNodes children body)
    (h1 : p1.length = key.length % 2 ∨ (p1 = [] ∧ value = [] ∧ body = []))
    (h2 : p2.length = value.length % 2 ∨ (p2 = [] ∧ body = []))
    (hrest : rest = (key ++ [0]) ++ (p1 ++ (value ++ (p2 ++ body)))) :
    IsNode (.mk key value text children) (wLength :: vLength :: wType :: rest) := by
  rw [IsNode]
  refine ⟨wType, p1, p2, body, hk, hbody, h1, h2, ?_⟩
  rw [hL, hV, hrest]
  simp only [List.length_append, List.length_cons, List.append_assoc, List.cons_append,
    List.nil_append, List.cons.injEq, and_true]
  omega

theorem isNodeB_sound (key value : List Nat) (text : Bool) (children : List Node) (bodyOk : List Nat → Bool)
    (hbody : ∀ b, bodyOk b = true → IsNodes children b) (ws : List Nat)
    (h : isNodeB key value text bodyOk ws = true) : IsNode (.mk key value text children) ws := by
  unfold isNodeB at h
  split at h
  · rename_i wLength vLength wType rest
    simp only [Bool.and_eq_true, beq_iff_eq] at h
    obtain ⟨⟨⟨hL, hV⟩, hk⟩, h⟩ := h
    split at h
    · cases h
    · rename_i after hafter
      have hrest := stripPrefix_sound hafter
      simp only [Bool.or_eq_true, Bool.and_eq_true, decide_eq_true_eq, List.isEmpty_iff] at h
      rcases h with ⟨⟨ha, hv⟩, hb⟩ | ⟨hp1, h⟩
      · -- the structure ends after the key's NUL: no Padding1, no value, no children
        subst ha hv
        exact isNode_of_parts key [] text children wLength vLength wType rest [] [] [] hL hV hk (hbody [] hb)
          (Or.inr ⟨rfl, rfl, rfl⟩) (Or.inl rfl) (by rw [hrest]; simp)
      · split at h
        · cases h
        · rename_i after2 hafter2
          have ha := stripPrefix_sound hafter2
          have hafter_eq : after = after.take (key.length % 2) ++ (value ++ after2) := by
            rw [← ha, List.take_append_drop]
          have hp1len : (after.take (key.length % 2)).length = key.length % 2 := by
            rw [List.length_take]; omega
          simp only [Bool.or_eq_true, Bool.and_eq_true, decide_eq_true_eq, List.isEmpty_iff] at h
          rcases h with ⟨ha2, hb⟩ | ⟨hp2, hb⟩
          · -- it ends after the value: Padding1 is what precedes the value, no Padding2, no children
            subst ha2
            exact isNode_of_parts key value text children wLength vLength wType rest (after.take (key.length % 2)) [] []
              hL hV hk (hbody [] hb) (Or.inl hp1len) (Or.inr ⟨rfl, rfl⟩)
              (by rw [hrest]; conv => lhs; rw [hafter_eq]
                  simp)
          · have hp2len : (after2.take (value.length % 2)).length = value.length % 2 := by
              rw [List.length_take]; omega
            exact isNode_of_parts key value text children wLength vLength wType rest (after.take (key.length % 2))
              (after2.take (value.length % 2)) (after2.drop (value.length % 2))
              hL hV hk (hbody _ hb) (Or.inl hp1len) (Or.inl hp2len)
              (by rw [hrest]; conv => lhs; rw [hafter_eq]
                  rw [List.take_append_drop])
  · cases h

theorem isNodesB_sound {α : Type} (node : α → Node) (chk : α → List Nat → Bool) (xs : List α)
    (hchk : ∀ x ∈ xs, ∀ w, chk x w = true → IsNode (node x) w) :
    ∀ ws, isNodesB (xs.map chk) ws = true → IsNodes (xs.map node) ws := by
  induction xs with
  | nil =>
    intro ws h
    simp only [List.map_nil, isNodesB, List.isEmpty_iff] at h
    rw [List.map_nil, IsNodes]; exact h
  | cons x xs ih =>
    intro ws h
    simp only [List.map_cons, isNodesB, Bool.and_eq_true, decide_eq_true_eq] at h
    obtain ⟨⟨hn, hc⟩, h⟩ := h
    have hw := hchk x (List.mem_cons_self ..) _ hc
    have hwl : (ws.take (ws.headD 0 / 2)).length = ws.headD 0 / 2 := by rw [List.length_take]; omega
    rw [List.map_cons, IsNodes]
    by_cases hxs : xs = []
    · -- the last sibling is the first `wLength / 2` words; what is left is its padding, possibly omitted
      subst hxs
      simp only [List.map_nil, List.isEmpty_nil, if_true, Bool.or_eq_true, List.isEmpty_iff, decide_eq_true_eq] at h
      refine ⟨_, ws.drop (ws.headD 0 / 2), [], hw, by rw [List.map_nil, IsNodes], ?_, by simp⟩
      rcases h with h | h
      · exact Or.inr ⟨h, rfl⟩
      · exact Or.inl (by rw [h, hwl])
    · have hne : (xs.map chk).isEmpty = false := by
        cases xs with
        | nil => exact absurd rfl hxs
        | cons _ _ => rfl
      simp only [hne, Bool.false_eq_true, if_false, Bool.and_eq_true, decide_eq_true_eq] at h
      refine ⟨_, (ws.drop (ws.headD 0 / 2)).take (ws.headD 0 / 2 % 2), (ws.drop (ws.headD 0 / 2)).drop (ws.headD 0 / 2 % 2),
        hw, ih (fun y hy => hchk y (List.mem_cons_of_mem _ hy)) _ h.2, Or.inl ?_, ?_⟩
      · rw [hwl, List.length_take]; omega
      · rw [List.append_assoc, List.take_append_drop, List.take_append_drop]

theorem isBlockB_sound (v : VInfo) (ws : List Nat) (h : v.isBlockB ws = true) : v.IsBlock ws := by
  simp only [VInfo.isBlockB, Bool.and_eq_true, decide_eq_true_eq] at h
  refine ⟨ws.take (ws.headD 0 / 2), ws.drop (ws.headD 0 / 2), ?_, (List.take_append_drop _ _).symm⟩
  have hnil : ∀ b, isNodesB [] b = true → IsNodes [] b := by
    intro b hb
    simpa [isNodesB, IsNodes] using hb
  have hstr : ∀ s : VStr, ∀ w, s.isB w = true → IsNode s.node w := fun s w hw =>
    isNodeB_sound s.key s.stored true [] _ hnil w hw
  have hvar : ∀ x : VVar, ∀ w, x.isB w = true → IsNode x.node w := fun x w hw =>
    isNodeB_sound x.key x.value false [] _ hnil w hw
  have htab : ∀ t : VTable, ∀ w, t.isB w = true → IsNode t.node w := fun t w hw =>
    isNodeB_sound t.lang [] true _ _ (isNodesB_sound VStr.node VStr.isB t.strings (fun s _ => hstr s)) w hw
  have hblk : ∀ b : VBlock, ∀ w, b.isB w = true → IsNode b.node w := by
    intro b w hw
    cases b with
    | stringInfo ts =>
      exact isNodeB_sound kStringFileInfo [] true _ _ (isNodesB_sound VTable.node VTable.isB ts (fun t _ => htab t)) w hw
    | varInfo vs =>
      exact isNodeB_sound kVarFileInfo [] true _ _ (isNodesB_sound VVar.node VVar.isB vs (fun x _ => hvar x)) w hw
  exact isNodeB_sound v.key v.value false _ _ (isNodesB_sound VBlock.node VBlock.isB v.blocks (fun b _ => hblk b)) _ h.2


end Pelite.Version
