import PeliteModel.Lemmas.Exec
/-!
One call of `Matches::next`, in two halves.  Which positions the call hands to the interpreter, in which order,
and where `range.start` lands after a match at each (or after none) depends on image, prefix and range alone:
the *plan* (`planV`).  `next` is then "call the interpreter down that list until it accepts" (`firstHit`,
`nextWith_eq_plan`), and what the searches owe the caller is one fact about that list (`Asc`, `planV_asc`): its cursors
are scan positions and ascend, and every position passed without a call there holds no candidate whose stored bytes
are the prefix — on `SecWF` tables.  The plan takes the function that reads a byte as an argument, so that on a concrete
image it is evaluated over the digits of one number (`next_eq_plan`).
-/
namespace Pelite.Scan
open Pelite.Pattern Pelite.Exec

@[simp] theorem bind_ok' {α β} (a : α) (f : α → Out β) : (Out.ok a).bind f = f a := rfl

theorem winEq_true_iff (bytes : Bytes) : ∀ (qs : List Nat) (o : Nat),
    winEq bytes o qs = true ↔ ∀ t b, qs[t]? = some b → byteAt bytes (o + t) = b := by
  intro qs
  induction qs with
  | nil => intro o; simp [winEq]
  | cons q qs ih =>
    intro o
    simp only [winEq, Bool.and_eq_true, beq_iff_eq, ih]
    constructor
    · rintro ⟨h0, h1⟩ t b hb
      cases t with
      | zero => simp only [List.getElem?_cons_zero, Option.some.injEq] at hb; rw [Nat.add_zero, h0, hb]
      | succ t =>
        simp only [List.getElem?_cons_succ] at hb
        have := h1 t b hb
        rwa [Nat.add_assoc, Nat.add_comm 1 t] at this
    · intro h
      refine ⟨by simpa using h 0 q rfl, ?_⟩
      intro t b hb
      have := h (t + 1) b (by simpa using hb)
      rwa [Nat.add_assoc, Nat.add_comm 1 t]

theorem winEq_false_of_ne (bytes : Bytes) (qs : List Nat) (o t b : Nat) (hb : qs[t]? = some b)
    (hne : byteAt bytes (o + t) ≠ b) : winEq bytes o qs = false := by
  cases h : winEq bytes o qs with
  | false => rfl
  | true => exact absurd ((winEq_true_iff bytes qs o).1 h t b hb) hne

/-! ### the skip table -/

/-- the table after the first `n` iterations of the initialisation loop -/
def jumpsUpTo (qs : List Nat) (n : Nat) : Array Nat :=
  (List.range n).foldl
    (fun J i => J.setIfInBounds (qs.getD i 0) (qs.length - i - 1)) (Array.replicate 256 qs.length)

theorem mkJumps_eq (qs : List Nat) : mkJumps qs = jumpsUpTo qs (qs.length - 1) := rfl

theorem jumpsUpTo_succ (qs : List Nat) (n : Nat) :
    jumpsUpTo qs (n + 1) = (jumpsUpTo qs n).setIfInBounds (qs.getD n 0) (qs.length - n - 1) := by
  simp [jumpsUpTo, List.range_succ, List.foldl_append]

/-- The loop invariant of the initialisation: every byte has an entry between 1 and the length, and no more than the
distance from the last index to any index already passed that holds the byte.  For ANY list `qs`: an element that is not
a byte indexes outside the table and its store is ignored. -/
theorem jumpsUpTo_inv (qs : List Nat) : ∀ n, n + 1 ≤ qs.length →
    (jumpsUpTo qs n).size = 256 ∧
    ∀ b, b < 256 → ∃ j, (jumpsUpTo qs n)[b]? = some j ∧ 1 ≤ j ∧ j ≤ qs.length ∧
      ∀ t, t < n → qs.getD t 0 = b → j ≤ qs.length - 1 - t := by
  intro n
  induction n with
  | zero =>
    intro h
    exact ⟨by simp [jumpsUpTo], fun b hb => ⟨qs.length, by simp [jumpsUpTo, hb], by omega, Nat.le_refl _, nofun⟩⟩
  | succ n ih =>
    intro h
    obtain ⟨hsz, h1⟩ := ih (by omega)
    rw [jumpsUpTo_succ]
    refine ⟨by rw [Array.size_setIfInBounds, hsz], fun b hb => ?_⟩
    rw [Array.getElem?_setIfInBounds]
    by_cases he : qs.getD n 0 = b
    · rw [if_pos he, if_pos (by rw [hsz, he]; exact hb)]
      exact ⟨_, rfl, by omega, by omega, fun t ht _ => by omega⟩
    · rw [if_neg he]
      obtain ⟨j, hj, j1, j2, j3⟩ := h1 b hb
      exact ⟨j, hj, j1, j2, fun t ht hb => j3 t (by have : t ≠ n := fun h => he (h ▸ hb); omega) hb⟩

theorem mkJumps_bounds (qs : List Nat) (hlen : 1 ≤ qs.length) (b : Nat) (hb : b < 256) :
    1 ≤ (mkJumps qs).getD b 0 ∧ (mkJumps qs).getD b 0 ≤ qs.length := by
  obtain ⟨j, hj, h⟩ := (jumpsUpTo_inv qs (qs.length - 1) (by omega)).2 b hb
  rw [mkJumps_eq, Array.getD_eq_getD_getElem?, hj]
  exact ⟨h.1, h.2.1⟩

/-- the table holds `m - 1 - (last index of the byte in p[0..m-1))` -/
theorem mkJumps_le (qs : List Nat) (t : Nat) (ht : t + 1 < qs.length) (hb : qs.getD t 0 < 256) :
    (mkJumps qs).getD (qs.getD t 0) 0 ≤ qs.length - 1 - t := by
  obtain ⟨j, hj, h⟩ := (jumpsUpTo_inv qs (qs.length - 1) (by omega)).2 _ hb
  rw [mkJumps_eq, Array.getD_eq_getD_getElem?, hj]
  exact h.2.2 t (by omega) rfl

/-- For a window at offset `o` whose last byte is `b`, an occurrence of the prefix at `o + j` would put `b` at
index `m - 1 - j < m - 1` of the prefix, forcing `jumps[b] ≤ j`.  Holds for every prefix, repeated bytes included. -/
theorem winEq_of_lt_jump (bytes : Bytes) (qs : List Nat) (o j : Nat)
    (hj0 : 0 < j) (hj : j < (mkJumps qs).getD (byteAt bytes (o + qs.length - 1)) 0) :
    winEq bytes (o + j) qs = false := by
  cases hw : winEq bytes (o + j) qs with
  | false => rfl
  | true =>
    exfalso
    have hlen : 1 ≤ qs.length := by
      cases qs with
      | nil => simp [mkJumps, Array.getD_eq_getD_getElem?, byteAt_lt] at hj
      | cons _ _ => simp
    have hb := mkJumps_bounds qs hlen _ (byteAt_lt bytes (o + qs.length - 1))
    have hjm : j + 1 ≤ qs.length := by omega
    have ht : qs.length - 1 - j < qs.length := by omega
    have hget : qs[qs.length - 1 - j]? = some (qs.getD (qs.length - 1 - j) 0) := by
      rw [List.getD_eq_getElem?_getD, List.getElem?_eq_getElem ht]; rfl
    have heq := (winEq_true_iff bytes qs (o + j)).1 hw _ _ hget
    have hidx : o + j + (qs.length - 1 - j) = o + qs.length - 1 := by omega
    rw [hidx] at heq
    have hle := mkJumps_le qs (qs.length - 1 - j) (by omega) (heq ▸ byteAt_lt ..)
    rw [← heq] at hle
    omega

theorem shift_safe (bytes : Bytes) (qs : List Nat) (hq : ∀ q ∈ qs, q < 256) (o j : Nat)
    (hj0 : 0 < j) (hj : j < (mkJumps qs).getD (byteAt bytes (o + qs.length - 1)) 0) :
    winEq bytes (o + j) qs = false :=
  winEq_of_lt_jump bytes qs o j hj0 hj

/-! ### the vocabulary of the search theorems -/

/-- the interpreter rejects `p` on SOME save array (without `Check` / `Pir` the array does not matter, `run_save_indep`) -/
def Rej (ex : Interp) (p : Nat) : Prop := ∃ s s', ex p s = .ok (false, s')
def Acc (ex : Interp) (p : Nat) (out : Array Nat) : Prop := ∃ s, ex p s = .ok (true, out)
def Interp.Total (ex : Interp) : Prop := ∀ c s, ∃ b s', ex c s = .ok (b, s')

def InSec (size ql : Nat) (s : Pe.Sec) (p : Nat) : Prop :=
  s.va ≤ p ∧ p + ql ≤ s.va + s.rs ∧ s.prd + s.rs ≤ size

theorem SecWF.tail {s : Pe.Sec} {rest : List Pe.Sec} (h : SecWF (s :: rest)) : SecWF rest :=
  ⟨fun x hx => h.1 x (List.mem_cons_of_mem _ hx), (List.pairwise_cons.1 h.2).2⟩

theorem SecWF.head_le {s : Pe.Sec} {rest : List Pe.Sec} (h : SecWF (s :: rest)) :
    ∀ s' ∈ rest, s.va + max s.vs s.rs ≤ s'.va := (List.pairwise_cons.1 h.2).1

def PrefixAbsent (v : Pe.View) (qs : List Nat) (p : Nat) : Prop :=
  match v.kind with
  | .view => p + qs.length ≤ v.b.size ∧ winEq v.b p qs = false
  | .file => ∃ s ∈ v.secs, InSec v.b.size qs.length s p ∧ winEq v.b (s.prd + (p - s.va)) qs = false

def deadV (ex : Interp) (v : Pe.View) (qs : List Nat) (p : Nat) : Prop :=
  Rej ex p ∨
  match v.kind with
  | .view => p + qs.length ≤ v.b.size ∧ winEq v.b p qs = false
  | .file => ∃ s ∈ v.secs, InSec v.b.size qs.length s p ∧ winEq v.b (s.prd + (p - s.va)) qs = false

theorem deadV_iff {ex : Interp} {v : Pe.View} {qs : List Nat} {p : Nat} :
    deadV ex v qs p ↔ Rej ex p ∨ PrefixAbsent v qs p := Iff.rfl

/-- one call of `next`, for every image -/
structure NextSound (ex : Interp) (m : MSt) (r : Res) : Prop where
  stop_eq : r.m.stop = m.stop
  start_le : m.start ≤ r.m.start
  found : r.found = true → m.start ≤ r.pos ∧ r.pos < r.m.start ∧ r.pos < m.stop ∧ r.m.start ≤ m.stop ∧
    Acc ex r.pos r.save

/-- … on mapped views and on file views with a `SecWF` table -/
structure NextOK (ex : Interp) (v : Pe.View) (qs : List Nat) (m : MSt) (r : Res) : Prop
    extends NextSound ex m r where
  scanpos : r.found = true → IsScanPos v m.start m.stop r.pos
  skipped : r.found = true → ∀ p, IsCand v qs.length m.start m.stop p → p < r.m.start → p ≠ r.pos → deadV ex v qs p
  notfound : r.found = false → ∀ p, IsCand v qs.length m.start m.stop p → deadV ex v qs p

def Interp.Indep (ex : Interp) : Prop :=
  ∀ c s1 s2, ∃ b t1 t2, ex c s1 = .ok (b, t1) ∧ ex c s2 = .ok (b, t2)

def Res.Agree (r1 r2 : Res) : Prop := r1.found = r2.found ∧ r1.pos = r2.pos ∧ r1.m = r2.m

def OAgree (o1 o2 : Out Res) : Prop := ∀ r1 r2, o1 = .ok r1 → o2 = .ok r2 → r1.Agree r2

/-- `R` relates the save array before a search to the one after it: a preorder that every call of the interpreter
respects (`True`; the frame of a pattern, `Lemmas/ExecFrame.lean`) -/
structure Interp.Keeps (ex : Interp) (R : Array Nat → Array Nat → Prop) : Prop where
  refl : ∀ s, R s s
  trans : ∀ a b c, R a b → R b c → R a c
  call : ∀ c s b s', ex c s = .ok (b, s') → R s s'

theorem Interp.keeps_true (ex : Interp) : ex.Keeps fun _ _ => True :=
  ⟨fun _ => trivial, fun _ _ _ _ _ => trivial, fun _ _ _ _ _ => trivial⟩

structure Advance (m : MSt) (r : Res) : Prop where
  stop_eq : r.m.stop = m.stop
  start_le : m.start ≤ r.m.start
  start_bound : r.m.start ≤ max m.start m.stop
  hits_ge : m.hits ≤ r.m.hits
  hits_le : r.m.hits + m.start ≤ m.hits + r.m.start
  found : r.found = true → m.start ≤ r.pos ∧ r.pos < r.m.start ∧ m.hits + 1 ≤ r.m.hits

/-! ### the three searches are one loop -/

/-- The common shape of `strat{0,1,2}Loop` over a window of `len` positions: while `w` bytes still fit at
offset `i`, call the interpreter there if `probe i`, then move on by `jump i`.  `sa`, `sb`,
`sc` are the panic sites of the three checked additions (cursor, `range.start` after a match, `range.start` at
the end of the window). -/
def probeLoop (ex : Interp) (probe : Nat → Bool) (jump : Nat → Nat) (w len : Nat) (m : MSt) (sa sb sc : String) :
    Nat → Nat → Nat → Array Nat → Out Res
  | 0, _, _, _ => .diverge
  | fuel+1, i, hits, save =>
    if i + w ≤ len then
      if probe i then
        (padd32 sa m.start i).bind fun cursor =>
        (ex cursor save).bind fun r =>
          if r.1 then
            (padd32 sb cursor (jump i)).bind fun st1 =>
            .ok ⟨true, cursor, { m with start := st1, hits := hits + 1 }, r.2⟩
          else probeLoop ex probe jump w len m sa sb sc fuel (i + jump i) (hits + 1) r.2
      else probeLoop ex probe jump w len m sa sb sc fuel (i + jump i) hits save
    else
      (padd32 sc m.start len).bind fun st1 => .ok ⟨false, 0, { m with start := st1, hits := hits }, save⟩

theorem strat2Loop_eq (ex : Interp) (bytes : Bytes) (qs : List Nat) (J : Array Nat) (off len : Nat) (m : MSt) :
    ∀ fuel i hits save, strat2Loop ex bytes qs J off len m fuel i hits save =
      probeLoop ex (fun i => decide (qs.getD (qs.length - 1) 0 = byteAt bytes (off + i + qs.length - 1) ∧
          winEq bytes (off + i) qs = true))
        (fun i => J.getD (byteAt bytes (off + i + qs.length - 1)) 0) qs.length len m
        "strategy2:range.start+i" "strategy2:cursor+jump" "strategy2:range.start+=len" fuel i hits save := by
  intro fuel
  induction fuel with
  | zero => intros; rfl
  | succ fuel ih => intro i hits save; simp only [strat2Loop, probeLoop, ih, decide_eq_true_eq]

theorem strat1Loop_eq (ex : Interp) (bytes : Bytes) (off len byte : Nat) (m : MSt) :
    ∀ k i hits save, i + k = len → strat1Loop ex bytes off len byte m k i hits save =
      probeLoop ex (fun i => decide (byteAt bytes (off + i) = byte)) (fun _ => 1) 1 len m
        "strategy1:range.start+i" "strategy1:cursor+1" "strategy1:range.start+=len" (k + 1) i hits save := by
  intro k
  induction k with
  | zero => intro i hits save h; rw [probeLoop, strat1Loop, if_neg (by omega)]
  | succ k ih =>
    intro i hits save h
    have ih' := fun hits save => ih (i + 1) hits save (by omega)
    rw [probeLoop, strat1Loop]
    simp only [ih', show i + 1 ≤ len by omega, decide_eq_true_eq, ↓reduceIte]

/-- strategy 0 performs its checked additions elsewhere (`range.start + len` once, up front, `hlen`; then
`range.start += 1`), under sites of its own; with `hlen` none of them can fail, nor can the loop's, so the
sites of the loop are arbitrary here -/
theorem strat0Loop_eq (ex : Interp) (len : Nat) (m : MSt) (hlen : m.start + len < 4294967296) (sa sb sc : String) :
    ∀ k i hits save, i + k = len → strat0Loop ex (m.start + len) k ⟨m.start + i, m.stop, hits⟩ save =
      probeLoop ex (fun _ => true) (fun _ => 1) 1 len m sa sb sc (k + 1) i hits save := by
  intro k
  induction k with
  | zero =>
    intro i hits save h
    obtain rfl : i = len := by omega
    rw [probeLoop, strat0Loop]
    simp only [show ¬ i + 1 ≤ i by omega, Nat.lt_irrefl, ↓reduceIte, padd32_ok hlen, bind_ok']
  | succ k ih =>
    intro i hits save h
    have ih' := fun hits save => ih (i + 1) hits save (by omega)
    rw [probeLoop, strat0Loop]
    simp only [show i + 1 ≤ len by omega, show m.start + i < m.start + len by omega, ↓reduceIte, bind_ok',
      padd32_ok (show m.start + i + 1 < 4294967296 by omega), padd32_ok (show m.start + i < 4294967296 by omega),
      ← ih', Nat.add_assoc]

/-- call the interpreter at the cursors of the plan until it accepts; each entry carries the `range.start` a
match there leaves, `fin` is the one left when none matches -/
def firstHit (ex : Interp) (stop : Nat) : List (Nat × Nat) → Nat → Nat → Array Nat → Out Res
  | [], fin, hits, save => .ok ⟨false, 0, ⟨fin, stop, hits⟩, save⟩
  | (c, n) :: rest, fin, hits, save =>
    (ex c save).bind fun r =>
      if r.1 then .ok ⟨true, c, ⟨n, stop, hits + 1⟩, r.2⟩ else firstHit ex stop rest fin (hits + 1) r.2

theorem firstHit_agree {ex : Interp} (hI : ex.Indep) (stop fin : Nat) : ∀ plan hits s1 s2,
    OAgree (firstHit ex stop plan fin hits s1) (firstHit ex stop plan fin hits s2)
  | [], _, _, _ => fun _ _ h1 h2 => by cases h1; cases h2; exact ⟨rfl, rfl, rfl⟩
  | (c, n) :: rest, hits, s1, s2 => fun r1 r2 h1 h2 => by
    obtain ⟨b, t1, t2, e1, e2⟩ := hI c s1 s2
    rw [firstHit, e1] at h1; rw [firstHit, e2] at h2
    cases b
    · exact firstHit_agree hI stop fin rest _ _ _ _ _ h1 h2
    · cases h1; cases h2; exact ⟨rfl, rfl, rfl⟩

theorem firstHit_m {ex : Interp} {stop fin : Nat} : ∀ plan hits save r, firstHit ex stop plan fin hits save = .ok r →
    r.m.stop = stop ∧ (r.found = false → r.m.start = fin)
  | [], _, _, _, h => by cases h; exact ⟨rfl, fun _ => rfl⟩
  | (c, n) :: rest, _, _, _, h => by
    obtain ⟨⟨b, _⟩, _, h⟩ := Out.bind_eq_ok h
    cases b with
    | true => cases h; exact ⟨rfl, fun h => by cases h⟩
    | false => exact firstHit_m rest _ _ _ h

theorem firstHit_total {ex : Interp} (hT : ex.Total) (stop fin : Nat) : ∀ plan hits save,
    ∃ r, firstHit ex stop plan fin hits save = .ok r
  | [], _, _ => ⟨_, rfl⟩
  | (c, n) :: rest, hits, save => by
    obtain ⟨b, s', h⟩ := hT c save
    rw [firstHit, h, bind_ok']
    cases b
    · exact firstHit_total hT stop fin rest _ _
    · exact ⟨_, rfl⟩

theorem firstHit_append (ex : Interp) (stop fin1 fin : Nat) (p2 : List (Nat × Nat)) : ∀ p1 hits save,
    firstHit ex stop (p1 ++ p2) fin hits save =
      (firstHit ex stop p1 fin1 hits save).bind fun r => if r.found then .ok r else firstHit ex stop p2 fin r.m.hits r.save
  | [], _, _ => rfl
  | (c, n) :: rest, hits, save => by
    rw [List.cons_append, firstHit, firstHit]
    cases ex c save with
    | ok r =>
      rw [bind_ok', bind_ok']
      cases r.1
      · exact firstHit_append ex stop fin1 fin p2 rest _ _
      · rfl
    | _ => rfl

/-! ### the plan of `next` -/

/-- the cursors at which `probeLoop` on a window mapped at `s` calls the interpreter, each with the `range.start` a match
there leaves -/
def idxPlan (s : Nat) (probe : Nat → Bool) (jump : Nat → Nat) (w len : Nat) : Nat → Nat → List (Nat × Nat)
  | 0, _ => []
  | fuel+1, i =>
    if i + w ≤ len then
      (if probe i then [(s + i, s + i + jump i)] else []) ++ idxPlan s probe jump w len fuel (i + jump i)
    else []

/-- `strategy` on the window of `len` bytes at `off`, mapped at `s`; `rd` reads a byte of the image (`byteAt bytes`; its
digits in `next_eq_plan`) -/
def stratPlan (rd : Nat → Nat) (qs : List Nat) (s off len : Nat) : List (Nat × Nat) :=
  match qs with
  | [] => idxPlan s (fun _ => true) (fun _ => 1) 1 len (len + 1) 0
  | byte :: _ =>
    if qs.length < 4 then idxPlan s (fun i => decide (rd (off + i) = byte)) (fun _ => 1) 1 len (len + 1) 0
    else
      idxPlan s (fun i => decide ((List.range' (off + i) qs.length).map rd = qs))
        (fun i => (mkJumps qs).getD (rd (off + i + qs.length - 1)) 0) qs.length len (len + 1) 0

/-- `next_section`: plan and final `range.start` -/
def planSec (rd : Nat → Nat) (qs : List Nat) (base off len start stop : Nat) : List (Nat × Nat) × Nat :=
  let s := max base start
  let e := min (min (base + len) 4294967295) stop
  if e ≤ s then ([], s)
  else (stratPlan rd qs s (off + (s - base)) (e - s), e)

/-- `planSec` with the window `[s, e)` named, so that what follows is linear arithmetic -/
theorem planSec_cases (rd : Nat → Nat) (qs : List Nat) (base off len start stop : Nat) :
    ∃ s e, base ≤ s ∧ start ≤ s ∧ (∀ q, base ≤ q → start ≤ q → s ≤ q) ∧
      e ≤ base + len ∧ e ≤ 4294967295 ∧ e ≤ stop ∧ (∀ q, q ≤ base + len → q ≤ 4294967295 → q ≤ stop → q ≤ e) ∧
      planSec rd qs base off len start stop =
        if e ≤ s then ([], s)
        else (stratPlan rd qs s (off + (s - base)) (e - s), e) :=
  ⟨max base start, min (min (base + len) 4294967295) stop, Nat.le_max_left .., Nat.le_max_right ..,
    fun _ h1 h2 => Nat.max_le.2 ⟨h1, h2⟩,
    Nat.le_trans (Nat.min_le_left ..) (Nat.min_le_left ..), Nat.le_trans (Nat.min_le_left ..) (Nat.min_le_right ..),
    Nat.min_le_right .., fun _ h1 h2 h3 => Nat.le_min.2 ⟨Nat.le_min.2 ⟨h1, h2⟩, h3⟩, rfl⟩

def planFile (rd : Nat → Nat) (size : Nat) (qs : List Nat) : List Pe.Sec → Nat → Nat → List (Nat × Nat) × Nat
  | [], start, _ => ([], start)
  | s :: rest, start, stop =>
    if s.va < stop ∧ wadd32 s.va s.vs > start ∧ s.prd ≤ wadd32 s.prd s.rs ∧ wadd32 s.prd s.rs ≤ size then
      let p1 := planSec rd qs s.va s.prd (wadd32 s.prd s.rs - s.prd) start stop
      let p2 := planFile rd size qs rest p1.2 stop
      (p1.1 ++ p2.1, p2.2)
    else planFile rd size qs rest start stop

def planV (rd : Nat → Nat) (v : Pe.View) (qs : List Nat) (start stop : Nat) : List (Nat × Nat) × Nat :=
  match v.kind with
  | .file => planFile rd v.b.size qs v.secs start stop
  | .view => planSec rd qs 0 0 v.b.size start stop

theorem probeLoop_eq_firstHit {ex : Interp} {probe : Nat → Bool} {jump : Nat → Nat} {w len : Nat} {m : MSt}
    (sa sb sc : String) (hlen : m.start + len < 4294967296) (hj : ∀ i, i + w ≤ len → 1 ≤ jump i ∧ jump i ≤ w) :
    -- one unit of fuel per step (each moves on by at least 1) and one to see the end: `strategy2` gives `len + 1`
    ∀ fuel i hits save, len + 1 - w - i + 1 ≤ fuel →
      probeLoop ex probe jump w len m sa sb sc fuel i hits save =
        firstHit ex m.stop (idxPlan m.start probe jump w len fuel i) (m.start + len) hits save := by
  intro fuel
  induction fuel with
  | zero => intro i hits save hf; omega
  | succ fuel ih =>
    intro i hits save hf
    rw [probeLoop, idxPlan]
    by_cases hin : i + w ≤ len
    · obtain ⟨hj1, hj2⟩ := hj i hin
      have ih' := fun hits save => ih (i + jump i) hits save (by omega)
      rw [if_pos hin, if_pos hin]
      cases probe i with
      | false => exact ih' _ _
      | true =>
        simp only [if_true, List.singleton_append, firstHit, bind_ok',
          padd32_ok (show m.start + i < 4294967296 by omega),
          padd32_ok (show m.start + i + jump i < 4294967296 by omega)]
        simp only [ih']
    · rw [if_neg hin, if_neg hin, padd32_ok hlen]; rfl

theorem winEq_iff_map (bytes : Bytes) : ∀ (qs : List Nat) (o : Nat),
    winEq bytes o qs = true ↔ (List.range' o qs.length).map (byteAt bytes) = qs
  | [], _ => by simp [winEq]
  | q :: qs, o => by
    simp only [winEq, Bool.and_eq_true, beq_iff_eq, winEq_iff_map bytes qs (o + 1), List.length_cons, List.range'_succ,
      List.map_cons, List.cons.injEq]

/-- a window that holds the prefix holds its last byte: the first test of `strategy2` is an optimisation -/
theorem winEq_last {bytes : Bytes} {qs : List Nat} {o : Nat} (hq : 1 ≤ qs.length) (hw : winEq bytes o qs = true) :
    qs.getD (qs.length - 1) 0 = byteAt bytes (o + qs.length - 1) := by
  have hget : qs[qs.length - 1]? = some (qs.getD (qs.length - 1) 0) := by
    rw [List.getD_eq_getElem?_getD, List.getElem?_eq_getElem (by omega)]; rfl
  have := (winEq_true_iff bytes qs o).1 hw _ _ hget
  rw [show o + (qs.length - 1) = o + qs.length - 1 by omega] at this
  exact this.symm

theorem strategy_eq_firstHit (ex : Interp) (bytes : Bytes) (qs : List Nat) (off len : Nat) (m : MSt) (save : Array Nat)
    (hlen : m.start + len < 4294967296) :
    strategy ex bytes qs off len m save =
      firstHit ex m.stop (stratPlan (byteAt bytes) qs m.start off len) (m.start + len) m.hits save := by
  have h11 : ∀ i : Nat, i + 1 ≤ len → 1 ≤ (fun _ : Nat => 1) i ∧ (fun _ : Nat => 1) i ≤ 1 :=
    fun _ _ => ⟨Nat.le_refl _, Nat.le_refl _⟩
  unfold strategy stratPlan
  cases qs with
  | nil =>
    rw [if_pos (by rfl), strategy0, padd32_ok hlen, bind_ok']
    refine (strat0Loop_eq ex len m hlen "" "" "" len 0 m.hits save (by omega)).trans ?_
    exact probeLoop_eq_firstHit "" "" "" hlen h11 _ 0 _ _ (by omega)
  | cons byte rest =>
    rw [if_neg (by simp)]
    dsimp only
    split
    · rw [strategy1, strat1Loop_eq ex bytes off len byte m len 0 m.hits save (by omega)]
      exact probeLoop_eq_firstHit _ _ _ hlen h11 _ 0 _ _ (by omega)
    · have hq : 1 ≤ (byte :: rest).length := by simp
      rw [strategy2, strat2Loop_eq, show (fun i => decide ((List.range' (off + i) (byte :: rest).length).map (byteAt bytes) =
          byte :: rest)) = fun i => decide (_ ∧ winEq bytes (off + i) (byte :: rest) = true) from
        funext fun i => decide_eq_decide.2 ⟨fun h => have h := (winEq_iff_map ..).2 h; ⟨winEq_last hq h, h⟩,
          fun h => (winEq_iff_map ..).1 h.2⟩]
      exact probeLoop_eq_firstHit _ _ _ hlen (fun i _ => mkJumps_bounds (byte :: rest) hq _ (byteAt_lt bytes _)) _ 0 _ _
        (by omega)

theorem nextSection_eq_firstHit (ex : Interp) (bytes : Bytes) (qs : List Nat) (base off len : Nat) (m : MSt)
    (save : Array Nat) (hbase : base ≤ min 4294967295 m.stop) :
    nextSection ex bytes qs base off len m save =
      firstHit ex m.stop (planSec (byteAt bytes) qs base off len m.start m.stop).1
        (planSec (byteAt bytes) qs base off len m.start m.stop).2 m.hits save := by
  unfold nextSection planSec
  dsimp only
  generalize hs : max base m.start = s
  generalize he : min (min (base + len) 4294967295) m.stop = e
  have h1 : base ≤ s := hs ▸ Nat.le_max_left ..
  have h2 : e ≤ base + len := he ▸ Nat.le_trans (Nat.min_le_left ..) (Nat.min_le_left ..)
  have h3 : e ≤ 4294967295 := he ▸ Nat.le_trans (Nat.min_le_left ..) (Nat.min_le_right ..)
  have h4 : base ≤ e := he ▸ Nat.le_min.2 ⟨Nat.le_min.2 ⟨Nat.le_add_right .., Nat.le_trans hbase (Nat.min_le_left ..)⟩,
    Nat.le_trans hbase (Nat.min_le_right ..)⟩
  clear hs he hbase
  rw [if_neg (by omega)]
  by_cases hse : e ≤ s
  · rw [if_pos (by omega), if_pos hse]; rfl
  · rw [if_neg (by omega), if_pos (by omega), if_neg hse,
      strategy_eq_firstHit _ _ _ _ _ _ _ (by dsimp only; omega)]
    dsimp only
    rw [show e - base - (s - base) = e - s by omega, show s + (e - s) = e by omega]

theorem nextFile_eq_firstHit (ex : Interp) (bytes : Bytes) (qs : List Nat) :
    ∀ secs, (∀ s ∈ secs, s.va < 4294967296) → ∀ m save,
    nextFile ex bytes qs secs m save =
      firstHit ex m.stop (planFile (byteAt bytes) bytes.size qs secs m.start m.stop).1
        (planFile (byteAt bytes) bytes.size qs secs m.start m.stop).2 m.hits save
  | [], _, m, save => rfl
  | s :: rest, hva, m, save => by
    have ih := nextFile_eq_firstHit ex bytes qs rest (fun s hs => hva s (List.mem_cons_of_mem _ hs))
    have := hva s (List.mem_cons_self ..)
    rw [nextFile, planFile]
    by_cases hov : s.va < m.stop ∧ wadd32 s.va s.vs > m.start
    · by_cases hraw : s.prd ≤ wadd32 s.prd s.rs ∧ wadd32 s.prd s.rs ≤ bytes.size
      · rw [if_pos hov, if_pos hraw, if_pos ⟨hov.1, hov.2, hraw.1, hraw.2⟩]
        dsimp only
        rw [nextSection_eq_firstHit _ _ _ _ _ _ _ _ (by omega), firstHit_append _ _ _ _ _ _ _ _]
        refine bind_congr_ok fun r hr => ?_
        cases hf : r.found with
        | true => rfl
        | false =>
          obtain ⟨h1, h2⟩ := firstHit_m _ _ _ _ hr
          rw [if_neg (by simp), if_neg (by simp), ih r.m r.save, h1, h2 hf]
      · rw [if_pos hov, if_neg hraw, if_neg (fun h => hraw ⟨h.2.2.1, h.2.2.2⟩)]; exact ih m save
    · rw [if_neg hov, if_neg (fun h => hov ⟨h.1, h.2.1⟩)]; exact ih m save

theorem nextWith_eq_plan (ex : Interp) (v : Pe.View) (qs : List Nat) (m : MSt) (save : Array Nat) :
    nextWith ex v qs m save =
      firstHit ex m.stop (planV (byteAt v.b) v qs m.start m.stop).1 (planV (byteAt v.b) v qs m.start m.stop).2 m.hits save := by
  unfold nextWith planV
  cases v.kind with
  | file => exact nextFile_eq_firstHit ex v.b qs v.secs (fun s hs => (Pe.sections_in_range v.b s hs).2.1) m save
  | view => exact nextSection_eq_firstHit ex v.b qs 0 0 v.b.size m save (Nat.zero_le _)

/-- the form in which closed facts about `next` on a concrete image are evaluated: the plan reads the image as
digits of one number (`Bytes.toNat`) -/
theorem next_eq_plan (v : Pe.View) (pat : List Atom) : next v pat = fun m save =>
    firstHit (interp v pat) m.stop (planV (fun i => v.b.toNat / 256 ^ i % 256) v (setup pat) m.start m.stop).1
      (planV (fun i => v.b.toNat / 256 ^ i % 256) v (setup pat) m.start m.stop).2 m.hits save := by
  rw [← funext (byteAt_toNat v.b)]
  exact funext fun _ => funext fun _ => nextWith_eq_plan ..

/-! ### the plan ascends through scan positions, and what it passes over holds no match -/

/-- From `lo` on: every cursor satisfies `C`, is at or beyond the last new start and below its own, and no new start
exceeds `hi`; every position the search passes without a call there — before a cursor, between a cursor and its
new start, anywhere behind the last — satisfies `D`. -/
def Asc (C D : Nat → Prop) (lo hi : Nat) : List (Nat × Nat) → Prop
  | [] => lo ≤ hi ∧ ∀ q, lo ≤ q → D q
  | (c, n) :: rest => lo ≤ c ∧ c < n ∧ C c ∧ (∀ q, lo ≤ q → q < n → q ≠ c → D q) ∧ Asc C D n hi rest

theorem Asc.le {C D : Nat → Prop} {hi : Nat} : ∀ {p lo}, Asc C D lo hi p → lo ≤ hi
  | [], _, a => a.1
  | _ :: _, _, a => by have := Asc.le a.2.2.2.2; have := a.1; have := a.2.1; omega

theorem Asc.imp_lo {C D C' D' : Nat → Prop} {hi : Nat} : ∀ {p lo lo'}, Asc C D lo hi p → lo' ≤ lo →
    (∀ c, lo ≤ c → C c → C' c) → (∀ q, lo' ≤ q → (lo ≤ q → D q) → D' q) → Asc C' D' lo' hi p
  | [], _, _, a, h, _, hD => ⟨Nat.le_trans h a.1, fun q hq => hD q hq (a.2 q)⟩
  | (c, n) :: _, _, _, a, h, hC, hD => by
    have := a.1; have := a.2.1
    exact ⟨by omega, a.2.1, hC c a.1 a.2.2.1, fun q h1 h2 h3 => hD q h1 fun h4 => a.2.2.2.1 q h4 h2 h3,
      a.2.2.2.2.imp_lo (Nat.le_refl n) (fun c hc => hC c (by omega)) fun q h1 h2 => hD q (by omega) fun _ => h2 h1⟩

/-- `D₁` holds of what the first plan passes and of everything from `mid` on (there it has no cursor left), `D₂` of what
the second passes: a position at or beyond `mid` comes with both -/
theorem Asc.append {C₁ D₁ C₂ D₂ C D : Nat → Prop} {mid hi : Nat} {p2 : List (Nat × Nat)} :
    ∀ {p1 lo}, Asc C₁ D₁ lo mid p1 → Asc C₂ D₂ mid hi p2 → (∀ c, lo ≤ c → c < mid → C₁ c → C c) →
      (∀ c, mid ≤ c → C₂ c → C c) → (∀ q, lo ≤ q → D₁ q → (mid ≤ q → D₂ q) → D q) → Asc C D lo hi (p1 ++ p2)
  | [], _, a, a2, _, hC2, hD => a2.imp_lo a.1 hC2 fun q h1 h2 => hD q h1 (a.2 q h1) h2
  | (c, n) :: _, _, a, a2, hC1, hC2, hD => by
    have := a.1; have := a.2.1; have := a.2.2.2.2.le
    exact ⟨a.1, a.2.1, hC1 c a.1 (by omega) a.2.2.1,
      fun q h1 h2 h3 => hD q h1 (a.2.2.2.1 q h1 h2 h3) fun h => by omega,
      a.2.2.2.2.append a2 (fun c h => hC1 c (by omega)) hC2 fun q h => hD q (by omega)⟩

theorem firstHit_asc {ex : Interp} {R : Array Nat → Array Nat → Prop} (hK : ex.Keeps R) {C D : Nat → Prop} {stop fin : Nat} :
    ∀ plan lo hits save r, Asc C D lo fin plan → firstHit ex stop plan fin hits save = .ok r →
      R save r.save ∧ r.m.stop = stop ∧ lo ≤ r.m.start ∧ r.m.start ≤ fin ∧ hits ≤ r.m.hits ∧
      r.m.hits + lo ≤ hits + r.m.start ∧
      (r.found = false → ∀ q, lo ≤ q → Rej ex q ∨ D q) ∧
      (r.found = true → lo ≤ r.pos ∧ r.pos < r.m.start ∧ hits + 1 ≤ r.m.hits ∧ Acc ex r.pos r.save ∧ C r.pos ∧
        ∀ q, lo ≤ q → q < r.m.start → q ≠ r.pos → Rej ex q ∨ D q) := by
  intro plan
  induction plan with
  | nil =>
    intro lo hits save r a h; cases h
    exact ⟨hK.refl _, rfl, a.1, Nat.le_refl _, Nat.le_refl _, Nat.add_le_add_left a.1 _, fun _ q hq => .inr (a.2 q hq), fun h => by cases h⟩
  | cons cn rest ih =>
    intro lo hits save r a h
    obtain ⟨c, n⟩ := cn
    obtain ⟨a1, a2, a3, a4, a5⟩ := a
    obtain ⟨⟨b, s'⟩, hx, h⟩ := Out.bind_eq_ok h
    have hR := hK.call _ _ _ _ hx
    have := a5.le
    cases b with
    | true =>
      cases h
      exact ⟨hR, rfl, by dsimp only; omega, this, by dsimp only; omega, by dsimp only; omega, (fun h => by cases h),
        fun _ => ⟨a1, a2, Nat.le_refl _, ⟨save, hx⟩, a3, fun q h1 h2 h3 => .inr (a4 q h1 h2 h3)⟩⟩
    | false =>
      obtain ⟨h1, h2, h3, h4, h5, h6, h7, h8⟩ := ih _ _ _ _ a5 h
      have hd : ∀ q, lo ≤ q → (n ≤ q → Rej ex q ∨ D q) → Rej ex q ∨ D q := fun q hq hn => by
        by_cases hqn : q < n
        · by_cases hqc : q = c
          · exact .inl (hqc ▸ ⟨save, s', hx⟩)
          · exact .inr (a4 q hq hqn hqc)
        · exact hn (by omega)
      refine ⟨hK.trans _ _ _ hR h1, h2, by omega, h4, by omega, by omega, fun hf q hq => hd q hq (h7 hf q), fun hf => ?_⟩
      obtain ⟨g1, g2, g3, g4, g5, g6⟩ := h8 hf
      exact ⟨by omega, g2, by omega, g4, g5, fun q hq hlt hne => hd q hq fun hn => g6 q hn hlt hne⟩

/-- an offset the search passes without a call is dead for one of three reasons: its probe fails (`hno`), the jump from
an earlier offset skips it (`hskip`), or fewer than `w` bytes are left there (`hend`) -/
theorem idxPlan_asc (s : Nat) {len : Nat} (probe : Nat → Bool) (jump : Nat → Nat) {w : Nat} (hw : 1 ≤ w) (C D : Nat → Prop)
    (hj : ∀ i, i + w ≤ len → 1 ≤ jump i ∧ jump i ≤ w) (hC : ∀ i, i < len → C (s + i))
    (hno : ∀ i, i + w ≤ len → probe i = false → D (s + i))
    (hskip : ∀ i p, i + w ≤ len → i < p → p < i + jump i → D (s + p))
    (hend : ∀ p, len < p + w → D (s + p)) :
    ∀ fuel i, len + 1 - w - i + 1 ≤ fuel → i ≤ len →
      Asc C D (s + i) (s + len) (idxPlan s probe jump w len fuel i) := by
  have at_ : ∀ {P : Nat → Prop} {q}, s ≤ q → P (s + (q - s)) → P q := fun h hp => by
    rwa [Nat.add_sub_cancel' h] at hp
  intro fuel
  induction fuel with
  | zero => intro i hf; omega
  | succ fuel ih =>
    intro i hf hi
    rw [idxPlan]
    by_cases hin : i + w ≤ len
    · rw [if_pos hin]
      obtain ⟨j1, j2⟩ := hj i hin
      have ih' := ih (i + jump i) (by omega) (by omega)
      rw [← Nat.add_assoc] at ih'
      have hd : ∀ q, s + i ≤ q → q < s + i + jump i → q ≠ s + i → D q := fun q h1 h2 h3 =>
        at_ (by omega) (hskip i (q - s) hin (by omega) (by omega))
      cases hpr : probe i with
      | true => exact ⟨Nat.le_refl _, by omega, hC i (by omega), hd, ih'⟩
      | false =>
        refine ih'.imp_lo (by omega) (fun _ _ h => h) fun q h1 h2 => ?_
        by_cases hq : q < s + i + jump i
        · by_cases hqi : q = s + i
          · exact hqi ▸ hno i hin hpr
          · exact hd q h1 hq hqi
        · exact h2 (by omega)
    · rw [if_neg hin]
      exact ⟨by omega, fun q hq => at_ (by omega) (hend (q - s) (by omega))⟩

theorem stratPlan_asc (bytes : Bytes) (qs : List Nat) (off s len : Nat) :
    Asc (· < s + len) (fun q => q + max 1 qs.length ≤ s + len → winEq bytes (off + (q - s)) qs = false) s (s + len)
      (stratPlan (byteAt bytes) qs s off len) := by
  have h1 : ∀ i : Nat, i + 1 ≤ len → 1 ≤ (fun _ : Nat => 1) i ∧ (fun _ : Nat => 1) i ≤ 1 :=
    fun _ _ => ⟨Nat.le_refl _, Nat.le_refl _⟩
  have key := fun probe jump w hw hj hno hskip hend =>
    idxPlan_asc s (len := len) probe jump (w := w) hw (· < s + len)
      (fun q => q + max 1 qs.length ≤ s + len → winEq bytes (off + (q - s)) qs = false) hj (fun i hi => by omega)
      hno hskip hend (len + 1) 0 (by omega) (Nat.zero_le _)
  rw [Nat.add_zero] at key
  unfold stratPlan
  split
  · exact key _ _ 1 (Nat.le_refl 1) h1 (fun _ _ h => by cases h) (fun _ _ _ h1 h2 => by omega) (fun _ _ _ => by omega)
  · next byte rest =>
    have at_ : ∀ i, winEq bytes (off + i) (byte :: rest) = false → winEq bytes (off + (s + i - s)) (byte :: rest) = false :=
      fun i h => by rwa [Nat.add_sub_cancel_left]
    split
    · exact key _ _ 1 (Nat.le_refl 1) h1
        (fun i h hpr _ => at_ i (winEq_false_of_ne bytes _ _ 0 byte rfl (of_decide_eq_false hpr)))
        (fun _ _ _ h1 h2 => by omega) (fun _ _ _ => by omega)
    · have hql : 1 ≤ (byte :: rest).length := by simp
      refine key _ _ _ hql (fun i _ => mkJumps_bounds _ hql _ (byteAt_lt ..))
        (fun i h hpr _ => at_ i (Bool.eq_false_iff.2 fun hw' => of_decide_eq_false hpr ((winEq_iff_map ..).1 hw')))
        (fun i q h h1 h2 _ => at_ q ?_) (fun _ _ _ => by omega)
      have := winEq_of_lt_jump bytes (byte :: rest) (off + i) (q - i) (by omega) (by omega)
      rwa [show off + i + (q - i) = off + q by omega] at this

theorem planSec_asc (bytes : Bytes) (qs : List Nat) (base off len start stop : Nat) :
    Asc (fun c => base ≤ c ∧ c < base + len ∧ c < stop)
      (fun q => base ≤ q → q + max 1 qs.length ≤ base + len → q + max 1 qs.length ≤ stop →
        q + max 1 qs.length ≤ 4294967295 → winEq bytes (off + (q - base)) qs = false)
      start (planSec (byteAt bytes) qs base off len start stop).2 (planSec (byteAt bytes) qs base off len start stop).1 ∧
    ∀ q, base ≤ q → start ≤ q → base + len ≤ q ∨ stop ≤ q → (planSec (byteAt bytes) qs base off len start stop).2 ≤ q := by
  obtain ⟨s, e, h1, h2, h3, h4, h5, h6, h7, heq⟩ := planSec_cases (byteAt bytes) qs base off len start stop
  rw [heq]
  split
  · refine ⟨⟨h2, fun q hq hb a b c => ?_⟩, fun q a b _ => h3 q a b⟩
    have := h3 q hb hq; have := h7 _ a c b; omega
  · have ha := stratPlan_asc bytes qs (off + (s - base)) s (e - s)
    rw [show s + (e - s) = e by omega] at ha
    refine ⟨ha.imp_lo h2 (fun c _ _ => by omega) fun q hq hd hb a b c => ?_, fun q _ _ c => by dsimp only; omega⟩
    have := h3 q hb hq
    have := hd this (h7 _ a c b)
    rwa [show off + (s - base) + (q - s) = off + (q - base) by omega] at this

theorem planFile_asc (bytes : Bytes) (qs : List Nat) :
    ∀ secs, (∀ s ∈ secs, s.rs < 4294967296) → ∀ start stop,
    Asc (fun c => c < stop ∧ ∃ s ∈ secs, s.va ≤ c ∧ c < s.va + s.rs ∧ s.prd + s.rs ≤ bytes.size)
      (fun q => bytes.size < 4294967296 → SecWF secs → ∀ s ∈ secs, ∀ lo, IsCandSec bytes.size qs.length lo stop s q →
        winEq bytes (s.prd + (q - s.va)) qs = false)
      start (planFile (byteAt bytes) bytes.size qs secs start stop).2
      (planFile (byteAt bytes) bytes.size qs secs start stop).1 ∧
    (planFile (byteAt bytes) bytes.size qs secs start stop).2 ≤ max start stop
  | [], _, start, stop => ⟨⟨Nat.le_refl _, fun _ _ _ _ _ hs => by cases hs⟩, Nat.le_max_left _ _⟩
  | s :: rest, hrs, start, stop => by
    have ih := planFile_asc bytes qs rest (fun s hs => hrs s (List.mem_cons_of_mem _ hs))
    have up : ∀ {c : Nat}, (c < stop ∧ ∃ t ∈ rest, t.va ≤ c ∧ c < t.va + t.rs ∧ t.prd + t.rs ≤ bytes.size) →
        c < stop ∧ ∃ t ∈ s :: rest, t.va ≤ c ∧ c < t.va + t.rs ∧ t.prd + t.rs ≤ bytes.size :=
      fun ⟨h, t, ht, h'⟩ => ⟨h, t, List.mem_cons_of_mem _ ht, h'⟩
    have := hrs s (List.mem_cons_self ..)
    rw [planFile]
    split
    · next hov =>
      have hraw : wadd32 s.prd s.rs - s.prd = s.rs ∧ s.prd + s.rs ≤ bytes.size := by
        have := hov.2.2; unfold wadd32 at this ⊢; omega
      rw [hraw.1]
      obtain ⟨a1, b1⟩ := planSec_asc bytes qs s.va s.prd s.rs start stop
      obtain ⟨a2, b2⟩ := ih (planSec (byteAt bytes) qs s.va s.prd s.rs start stop).2 stop
      have hfin : (planFile (byteAt bytes) bytes.size qs rest (planSec (byteAt bytes) qs s.va s.prd s.rs start stop).2 stop).2 ≤
          max start stop := by
        have := b1 (max start stop) (Nat.le_trans (Nat.le_of_lt hov.1) (Nat.le_max_right ..)) (Nat.le_max_left ..)
          (.inr (Nat.le_max_right ..))
        omega
      refine ⟨a1.append a2 (fun c _ _ hc => ⟨hc.2.2, s, List.mem_cons_self .., hc.1, hc.2.1, hraw.2⟩) (fun _ _ => up)
        fun q hq d1 d2 hsz hwf t ht lo hc => ?_, hfin⟩
      clear hfin b2 hov
      have hc' := hc
      obtain ⟨-, c2, c3, c4, -, c6, c7⟩ := hc'
      have c4' := Nat.lt_of_lt_of_le c4 (Nat.min_le_right ..)
      have hnw := Nat.lt_of_le_of_lt (Nat.add_le_add_left (Nat.le_max_right s.vs s.rs) s.va) (hwf.1 s (List.mem_cons_self ..)).1
      clear c4
      rcases List.mem_cons.1 ht with rfl | ht
      · exact d1 c3 (by omega) (by omega) (by omega)
      · -- a candidate of a later section lies at or beyond the end of this one, where its plan has ended
        have := Nat.le_trans (Nat.add_le_add_left (Nat.le_max_right s.vs s.rs) s.va) (hwf.head_le t ht)
        exact d2 (b1 q (by omega) hq (.inl (by omega))) hsz hwf.tail t ht lo hc
    · next hov =>
      obtain ⟨a, b⟩ := ih start stop
      refine ⟨a.imp_lo (Nat.le_refl _) (fun _ _ => up) fun q hq d hsz hwf t ht lo hc => ?_, b⟩
      rcases List.mem_cons.1 ht with rfl | ht
      · -- a section with a candidate at or beyond `start` overlaps the range and has its raw data in the file
        obtain ⟨-, c2, c3, c4, c5, -⟩ := hc
        have c4' := Nat.lt_of_lt_of_le c4 (Nat.min_le_left ..)
        have hnw := Nat.lt_of_le_of_lt (Nat.add_le_add_left (Nat.le_max_left t.vs t.rs) t.va) (hwf.1 t (List.mem_cons_self ..)).1
        clear c4 b
        exact absurd ⟨by omega, by rw [wadd32_eq hnw]; omega, by rw [wadd32_eq (by omega)]; omega, by rw [wadd32_eq (by omega)]; omega⟩ hov
      · exact d hq hsz hwf.tail t ht lo hc

theorem planV_asc (v : Pe.View) (qs : List Nat) (start stop : Nat) :
    Asc (IsScanPos v start stop)
      (fun q => v.b.size < 4294967296 → (v.kind = .file → SecWF v.secs) → ∀ lo, IsCand v qs.length lo stop q →
        PrefixAbsent v qs q)
      start (planV (byteAt v.b) v qs start stop).2 (planV (byteAt v.b) v qs start stop).1 ∧
    (planV (byteAt v.b) v qs start stop).2 ≤ max start stop := by
  unfold planV IsScanPos IsCand PrefixAbsent
  cases v.kind with
  | file =>
    obtain ⟨a, b⟩ := planFile_asc v.b qs v.secs (fun s hs => (Pe.sections_in_range v.b s hs).2.2.1) start stop
    exact ⟨a.imp_lo (Nat.le_refl _) (fun c hc h => ⟨hc, h⟩) fun q hq d hsz hwf lo ⟨s, hs, hc⟩ =>
      ⟨s, hs, ⟨hc.2.2.1, hc.2.2.2.2.2.2, hc.2.2.2.2.1⟩, d hq hsz (hwf rfl) s hs lo hc⟩, b⟩
  | view =>
    obtain ⟨a, b⟩ := planSec_asc v.b qs 0 0 v.b.size start stop
    refine ⟨a.imp_lo (Nat.le_refl _) (fun c hc h => ⟨hc, h.2.2, by omega⟩) fun q hq d hsz _ lo hc => ⟨hc.2.2.2.2, ?_⟩,
      b _ (Nat.zero_le _) (Nat.le_max_left ..) (.inr (Nat.le_max_right ..))⟩
    simpa using d hq (Nat.zero_le _) (by omega) (by omega) (by omega)

/-- What a returning call of `next` did: `NextSound` and `NextOK` are read off these four fields.  `dead` is where the
section table matters. -/
structure Returned (ex : Interp) (R : Array Nat → Array Nat → Prop) (v : Pe.View) (qs : List Nat) (m : MSt)
    (save : Array Nat) (r : Res) : Prop where
  rel : R save r.save
  adv : Advance m r
  acc : r.found = true → Acc ex r.pos r.save ∧ IsScanPos v m.start m.stop r.pos
  dead : v.b.size < 4294967296 → (v.kind = .file → SecWF v.secs) → ∀ lo p, IsCand v qs.length lo m.stop p → m.start ≤ p →
    (r.found = true → p < r.m.start → p ≠ r.pos → deadV ex v qs p) ∧ (r.found = false → deadV ex v qs p)

theorem nextWith_returns {ex : Interp} {R : Array Nat → Array Nat → Prop} (hK : ex.Keeps R) (v : Pe.View) (qs : List Nat)
    (m : MSt) (save : Array Nat) (r : Res) (h : nextWith ex v qs m save = .ok r) : Returned ex R v qs m save r := by
  rw [nextWith_eq_plan] at h
  obtain ⟨ha, hb⟩ := planV_asc v qs m.start m.stop
  obtain ⟨hR, h1, h2, h3, h4, h5, hn, hf⟩ := firstHit_asc hK _ _ _ _ _ ha h
  exact ⟨hR, ⟨h1, h2, Nat.le_trans h3 hb, h4, h5, fun h => let ⟨a, b, c, _⟩ := hf h; ⟨a, b, c⟩⟩,
    fun h => let ⟨_, _, _, a, b, _⟩ := hf h; ⟨a, b⟩, fun hsz hwf lo p hc hlo =>
      ⟨fun h hlt hne => ((hf h).2.2.2.2.2 p hlo hlt hne).imp_right fun d => d hsz hwf lo hc,
        fun h => (hn h p hlo).imp_right fun d => d hsz hwf lo hc⟩⟩

theorem nextWith_sound {ex : Interp} (hT : ex.Total) (v : Pe.View) (qs : List Nat) (m : MSt) (save : Array Nat) :
    ∃ r, nextWith ex v qs m save = .ok r ∧ NextSound ex m r := by
  obtain ⟨r, hr⟩ : ∃ r, nextWith ex v qs m save = .ok r := by rw [nextWith_eq_plan]; exact firstHit_total hT ..
  have D := nextWith_returns (Interp.keeps_true ex) v qs m save r hr
  refine ⟨r, hr, D.adv.stop_eq, D.adv.start_le, fun h => ?_⟩
  have := D.adv.found h; have := D.adv.start_bound; have := (D.acc h).2.2.1
  exact ⟨by omega, by omega, (D.acc h).2.2.1, by omega, (D.acc h).1⟩

theorem nextWith_agree {ex : Interp} (hI : ex.Indep) (v : Pe.View) (qs : List Nat) (m : MSt) (s1 s2 : Array Nat) :
    OAgree (nextWith ex v qs m s1) (nextWith ex v qs m s2) := by
  rw [nextWith_eq_plan, nextWith_eq_plan]; exact firstHit_agree hI _ _ _ _ _ _

/-! ### file views: rewritten with before `decide +kernel` on a concrete file, so that the `match v.kind` is gone
and the decoded section table can be put in for `v.secs` -/

theorem planV_file {rd : Nat → Nat} {v : Pe.View} (h : v.kind = .file) (qs : List Nat) (start stop : Nat) :
    planV rd v qs start stop = planFile rd v.b.size qs v.secs start stop := by
  unfold planV
  rw [h]

theorem IsCand_file {v : Pe.View} (h : v.kind = .file) (m lo hi c : Nat) :
    IsCand v m lo hi c = ∃ s ∈ v.secs, IsCandSec v.b.size m lo hi s c := by
  unfold IsCand
  rw [h]

end Pelite.Scan
