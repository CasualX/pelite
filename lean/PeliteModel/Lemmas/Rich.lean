import PeliteModel.Spec.Rich
/-! Helper lemmas for C16: both loops of `try_from` are one scan downwards (`scanDown_spec`); a parsed structure has the
normal form `⟨stub, hdrWords k rs⟩`, on which the accessors are computed once. -/
namespace Pelite.Rich
open Spec

/-! ### record codec -/

theorem xor_cancel (a k : Nat) : (a ^^^ k) ^^^ k = a := by
  rw [Nat.xor_assoc, Nat.xor_self, Nat.xor_zero]

theorem xor_right_inj {a b k : Nat} (h : a ^^^ k = b ^^^ k) : a = b := by
  have := congrArg (· ^^^ k) h
  simpa [xor_cancel] using this

theorem eq_zero_of_xor_eq_self {a k : Nat} (h : a ^^^ k = k) : a = 0 := by
  have : a ^^^ k = 0 ^^^ k := by rw [h, Nat.zero_xor]
  exact xor_right_inj this

theorem xor_lt32 {a b : Nat} (ha : a < 4294967296) (hb : b < 4294967296) : a ^^^ b < 4294967296 :=
  Nat.xor_lt_two_pow (n := 32) ha hb

theorem and_ffff (x : Nat) : x &&& 0xffff = x % 65536 := Nat.and_two_pow_sub_one_eq_mod x 16

theorem shr16 (x : Nat) : x >>> 16 = x / 65536 := Nat.shiftRight_eq_div_pow x 16

theorem value_eq (r : Record) (hb : r.build < 65536) : r.value = compId r := by
  unfold Record.value compId
  rw [← Nat.shiftLeft_add_eq_or_of_lt (i := 16) (by simpa using hb), Nat.shiftLeft_eq]

theorem value_lt (r : Record) (h : r.WF) : r.value < 4294967296 := by
  rw [value_eq r h.1]; unfold compId; have := h.1; have := h.2.1; omega

theorem decode_eq_spec (k w0 w1 : Nat) (hk : k < 4294967296) (h0 : w0 < 4294967296) :
    Record.decode k w0 w1 = decRecord k w0 w1 := by
  have hx := xor_lt32 h0 hk
  unfold Record.decode decRecord
  simp only [and_ffff, shr16]
  congr 1
  omega

theorem decode_wf (k w0 w1 : Nat) (hk : k < 4294967296) (h1 : w1 < 4294967296) :
    (Record.decode k w0 w1).WF := by
  have hx := xor_lt32 h1 hk
  unfold Record.decode Record.WF
  simp only [and_ffff, shr16]
  refine ⟨by omega, by omega, by simpa using hx⟩

theorem encode_eq_spec (k : Nat) (r : Record) (hb : r.build < 65536) :
    [(r.encode k).1, (r.encode k).2] = encRecord k r := by
  unfold Record.encode encRecord; rw [value_eq r hb]

theorem decode_encode (k : Nat) (r : Record) (h : r.WF) :
    Record.decode k (r.encode k).1 (r.encode k).2 = r := by
  obtain ⟨hb, hp, hc⟩ := h
  unfold Record.encode Record.decode
  simp only [xor_cancel, and_ffff, shr16, value_eq r hb]
  unfold compId
  cases r with
  | mk b p c =>
    simp only at hb hp hc ⊢
    congr 1 <;> omega

theorem encode_decode (k w0 w1 : Nat) (hk : k < 4294967296) (h0 : w0 < 4294967296) :
    (Record.decode k w0 w1).encode k = (w0, w1) := by
  have hx := xor_lt32 h0 hk
  have hwf : (Record.decode k w0 w1).build < 65536 := by
    unfold Record.decode; simp only [and_ffff]; omega
  unfold Record.encode
  rw [value_eq _ hwf]
  unfold Record.decode compId
  simp only [and_ffff, shr16]
  have : (w0 ^^^ k) / 65536 % 65536 * 65536 + (w0 ^^^ k) % 65536 = w0 ^^^ k := by omega
  rw [this, xor_cancel, xor_cancel]

theorem decode_dans (k : Nat) : Record.decode k (DANS ^^^ k) k = ⟨0x6144, 0x536e, 0⟩ ∧ Record.decode k k k = ⟨0, 0, 0⟩ := by
  unfold Record.decode
  simp only [xor_cancel, Nat.xor_self]
  decide

/-! ### `encodeAll` / `decodeAll` -/

theorem encodeAll_length (k : Nat) (rs : List Record) : (encodeAll k rs).length = 2 * rs.length := by
  induction rs with
  | nil => rfl
  | cons r rs ih => simp [encodeAll, ih] <;> omega

theorem flatMap_encRecord (k : Nat) (rs : List Record) (hwf : ∀ r ∈ rs, r.WF) :
    rs.flatMap (encRecord k) = encodeAll k rs := by
  induction rs with
  | nil => rfl
  | cons r rs ih =>
    have hr : r.WF := hwf r (by simp)
    rw [List.flatMap_cons, ih (fun x hx => hwf x (by simp [hx])), ← encode_eq_spec k r hr.1]
    rfl

theorem decodeAll_length (k : Nat) : ∀ l : List Nat, (decodeAll k l).length = l.length / 2
  | [] => rfl
  | [_] => by simp [decodeAll]
  | _ :: _ :: t => by
    simp only [decodeAll, List.length_cons, decodeAll_length k t]; omega

theorem decodeAll_append_even (k : Nat) : ∀ (front l : List Nat), front.length % 2 = 0 →
    decodeAll k (front ++ l) = decodeAll k front ++ decodeAll k l
  | [], _, _ => rfl
  | [_], _, h => by simp at h
  | a :: b :: t, l, h => by
    have h' : t.length % 2 = 0 := by simp only [List.length_cons] at h; omega
    simp only [List.cons_append, decodeAll, decodeAll_append_even k t l h']

theorem decodeAll_cut (k : Nat) (l : List Nat) (m : Nat) (hm : m % 2 = 0) (h : m + 2 ≤ l.length) :
    decodeAll k l = decodeAll k (l.take m) ++ Record.decode k l[m] l[m + 1] :: decodeAll k (l.drop (m + 2)) := by
  have hl : (l.take m).length = m := by rw [List.length_take]; omega
  have hs : l = l.take m ++ l[m] :: l[m + 1] :: l.drop (m + 2) := by
    rw [← List.drop_eq_getElem_cons, ← List.drop_eq_getElem_cons, List.take_append_drop]
  conv => lhs; rw [hs, decodeAll_append_even _ _ _ (by omega)]
  rfl

theorem decodeAll_short (k : Nat) (l : List Nat) (h : l.length < 2) : decodeAll k l = [] := by
  have := decodeAll_length k l
  exact List.eq_nil_of_length_eq_zero (by omega)

theorem decodeAll_encodeAll (k : Nat) (rs : List Record) (hwf : ∀ r ∈ rs, r.WF) :
    decodeAll k (encodeAll k rs) = rs := by
  induction rs with
  | nil => rfl
  | cons r rs ih =>
    simp only [encodeAll, decodeAll]
    rw [decode_encode k r (hwf r (by simp)), ih (fun x hx => hwf x (by simp [hx]))]

theorem encodeAll_decodeAll (k : Nat) (hk : k < 4294967296) : ∀ l : List Nat, l.length % 2 = 0 →
    (∀ w ∈ l, w < 4294967296) → encodeAll k (decodeAll k l) = l
  | [], _, _ => rfl
  | [_], h, _ => by simp at h
  | a :: b :: t, h, hb => by
    have h' : t.length % 2 = 0 := by simp only [List.length_cons] at h; omega
    simp only [decodeAll, encodeAll]
    rw [encode_decode k a b hk (hb a (by simp)), encodeAll_decodeAll k hk t h' (fun w hw => hb w (by simp [hw]))]

theorem decodeAll_wf (k : Nat) (hk : k < 4294967296) : ∀ l : List Nat,
    (∀ w ∈ l, w < 4294967296) → ∀ r ∈ decodeAll k l, r.WF
  | [], _, r, hr => by simp [decodeAll] at hr
  | [_], _, r, hr => by simp [decodeAll] at hr
  | a :: b :: t, hb, r, hr => by
    simp only [decodeAll, List.mem_cons] at hr
    rcases hr with hr | hr
    · rw [hr]; exact decode_wf k a b hk (hb b (by simp))
    · exact decodeAll_wf k hk t (fun w hw => hb w (by simp [hw])) r hr

/-! ### checksum -/

theorem rotl32_eq_spec (x n : Nat) (hx : x < 4294967296) : rotl32 x n = rol32 x n := by
  unfold rotl32 rol32
  generalize hr : n % 32 = r
  have hr32 : r < 32 := by omega
  have hpow : 2 ^ (32 - r) * 2 ^ r = 4294967296 := by
    rw [← Nat.pow_add, Nat.sub_add_cancel (by omega)]
  have h1 : (x <<< r) % 4294967296 = (x % 2 ^ (32 - r)) <<< r := by
    rw [Nat.shiftLeft_eq, Nat.shiftLeft_eq, ← hpow, Nat.mul_mod_mul_right]
  have h2 : x >>> (32 - r) < 2 ^ r := by
    rw [Nat.shiftRight_eq_div_pow]
    apply Nat.div_lt_of_lt_mul
    rw [hpow]; exact hx
  rw [h1, ← Nat.shiftLeft_add_eq_or_of_lt h2, Nat.shiftLeft_eq, Nat.shiftRight_eq_div_pow]

theorem rol32_lt (x n : Nat) (hx : x < 4294967296) : rol32 x n < 4294967296 := by
  rw [← rotl32_eq_spec x n hx]
  exact Nat.or_lt_two_pow (n := 32) (Nat.mod_lt _ (by decide)) (Nat.lt_of_le_of_lt (Nat.shiftRight_le _ _) hx)

theorem rol32_zero (n : Nat) : rol32 0 n = 0 := by
  unfold rol32; simp

theorem stubBytes_cons (w : Nat) (ws : List Nat) :
    stubBytes (w :: ws) = w % 256 :: (w / 256 % 256) :: (w / 65536 % 256) :: (w / 16777216 % 256) :: stubBytes ws := by
  simp [stubBytes]

theorem csum_byte (b i j : Nat) (hb : b < 256) (hi : i % 4 = 0) (hj : j < 4) :
    rotl32 (if i = 0x3c then 0 else b) (i + j) = if 0x3c ≤ i + j ∧ i + j < 0x40 then 0 else rol32 b (i + j) := by
  by_cases h : i = 0x3c
  · rw [if_pos h, if_pos (by omega), rotl32_eq_spec _ _ (by omega), rol32_zero]
  · rw [if_neg h, if_neg (by omega), rotl32_eq_spec _ _ (by omega)]

/-- stated at `c % 2^32`: the running sum of the loop is a `wadd32`, so the induction hypothesis applies as it stands -/
theorem csumStub_eq : ∀ (ws : List Nat) (i c : Nat), i % 4 = 0 → i + 4 * ws.length < 4294967296 →
    csumStub ws i (c % 4294967296) = .ok ((c + sumBytes (stubBytes ws) i) % 4294967296) := by
  intro ws
  induction ws with
  | nil => intro i c _ _; rfl
  | cons w ws ih =>
    intro i c hi hlen
    have hl : i + 4 + 4 * ws.length < 4294967296 := by simp at hlen; omega
    rw [csumStub, stubBytes_cons, if_neg (by omega), if_neg (by omega)]
    simp only [wadd32, Nat.mod_add_mod]
    rw [ih (i + 4) _ (by omega) hl]
    simp only [byte0, byte1, byte2, byte3, csum_byte _ i _ (Nat.mod_lt _ (by decide)) hi (by decide : 0 < 4),
      csum_byte _ i _ (Nat.mod_lt _ (by decide)) hi (by decide : 1 < 4), csum_byte _ i _ (Nat.mod_lt _ (by decide)) hi (by decide : 2 < 4),
      csum_byte _ i _ (Nat.mod_lt _ (by decide)) hi (by decide : 3 < 4)]
    simp only [sumBytes, Nat.add_zero, Nat.add_assoc, Nat.reduceAdd]

theorem csumRecs_eq : ∀ (rs : List Record) (c : Nat), (∀ r ∈ rs, r.WF) →
    csumRecs rs (c % 4294967296) = (c + sumRecs rs) % 4294967296 := by
  intro rs
  induction rs with
  | nil => intro c _; rfl
  | cons r rs ih =>
    intro c hwf
    have hr : r.WF := hwf r (by simp)
    rw [csumRecs, wadd32, Nat.mod_add_mod, ih _ (fun x hx => hwf x (by simp [hx])),
      rotl32_eq_spec _ _ (value_lt r hr), value_eq r hr.1, sumRecs, Nat.add_assoc]

theorem checksumOf_eq (stub : List Nat) (rs : List Record) (hlen : 4 * stub.length < 4294967296)
    (hwf : ∀ r ∈ rs, r.WF) : checksumOf stub rs = .ok (Spec.checksum stub rs) := by
  unfold checksumOf
  rw [csumStub_eq stub 0 _ rfl (by omega), Out.bind_ok, csumRecs_eq rs _ hwf]
  rfl

/-! ### `idx`, `slice`, the markers -/

theorem idx_of_getElem? {site : String} {ws : List Nat} {i v : Nat} (h : ws[i]? = some v) :
    idx site ws i = .ok v := by
  unfold idx; rw [h]

theorem idx_ok (site : String) (ws : List Nat) (i : Nat) (h : i < ws.length) : idx site ws i = .ok ws[i] :=
  idx_of_getElem? (List.getElem?_eq_getElem h)

theorem slice_ok (site : String) (ws : List Nat) (a b : Nat) (h : a ≤ b ∧ b ≤ ws.length) :
    slice site ws a b = .ok ((ws.take b).drop a) := by
  unfold slice; rw [if_pos h]

theorem dans_eq : Spec.dans = DANS := by decide

theorem rich_eq : Spec.rich = RICH := by decide

/-! ### the scan downwards: both loops of `try_from` -/

/-- `r` is the first hit of `P` going down from `n` in steps of `d`, not below 16: what both loops of `try_from` look for -/
structure FirstDown (P : Nat → Prop) (d n r : Nat) : Prop where
  ge : 16 ≤ r
  le : r ≤ n
  par : (n - r) % d = 0
  hit : P r
  miss : ∀ t, r < t → t ≤ n → (n - t) % d = 0 → ¬ P t

theorem FirstDown.unique {P : Nat → Prop} {d n r s : Nat} (h : FirstDown P d n r) (h' : FirstDown P d n s) : r = s := by
  rcases Nat.lt_trichotomy r s with hlt | heq | hgt
  · exact absurd h'.hit (h.miss s hlt h'.le h'.par)
  · exact heq
  · exact absurd h.hit (h'.miss r hgt h.le h.par)

/-- any loop `if n < 16 { Err(Invalid) } else if P(n) { Ok(n) } else { n -= d; continue }`; 16 = the dwords of the DOS
header, where both loops of `try_from` give up, and `d ≤ 16 ≤ n` keeps `n - d` an exact subtraction -/
theorem scanDown_spec {P : Nat → Prop} [DecidablePred P] {d : Nat} (hd : 1 ≤ d ∧ d ≤ 16) (f : Nat → Out Nat) (n : Nat)
    (hf : ∀ m, m ≤ n → f m = if m < 16 then .err .invalid else if P m then .ok m else f (m - d)) :
    (∃ r, f n = .ok r ∧ FirstDown P d n r) ∨
    (f n = .err .invalid ∧ ∀ t, 16 ≤ t → t ≤ n → (n - t) % d = 0 → ¬ P t) := by
  induction n using Nat.strongRecOn with
  | ind n ih =>
  rw [hf n (Nat.le_refl _)]
  by_cases h16 : n < 16
  · rw [if_pos h16]; exact .inr ⟨rfl, fun t h1 h2 => by omega⟩
  rw [if_neg h16]
  by_cases hp : P n
  · rw [if_pos hp]
    exact .inl ⟨n, rfl, by omega, Nat.le_refl _, by simp, hp, fun t h1 h2 => by omega⟩
  rw [if_neg hp]
  -- a miss-free range of the recursive call, extended to `n`: in `(n - d, n]` only `n` is at a distance divisible by `d`
  have ext : ∀ {Q : Nat → Prop}, (∀ t, Q t → t ≤ n - d → (n - d - t) % d = 0 → ¬ P t) →
      ∀ t, Q t → t ≤ n → (n - t) % d = 0 → ¬ P t := fun h t hq h1 h2 =>
    if ht : t ≤ n - d then
      h t hq ht (by rw [show n - t = n - d - t + d by omega, Nat.add_mod_right] at h2; exact h2)
    else by
      have : n - t = 0 := by rw [Nat.mod_eq_of_lt (by omega)] at h2; exact h2
      exact (show t = n by omega) ▸ hp
  rcases ih (n - d) (by omega) (fun m hm => hf m (by omega)) with ⟨r, h1, g⟩ | ⟨h1, h2⟩
  · refine .inl ⟨r, h1, g.ge, by have := g.le; omega, ?_, g.hit, ext g.miss⟩
    have := g.le
    rw [show n - r = n - d - r + d by omega, Nat.add_mod_right]; exact g.par
  · exact .inr ⟨h1, ext h2⟩

theorem scanDown_of_firstDown {P : Nat → Prop} [DecidablePred P] {d n r : Nat} (hd : 1 ≤ d ∧ d ≤ 16) (f : Nat → Out Nat)
    (hf : ∀ m, m ≤ n → f m = if m < 16 then .err .invalid else if P m then .ok m else f (m - d))
    (h : FirstDown P d n r) : f n = .ok r := by
  rcases scanDown_spec hd f n hf with ⟨r', h1, g⟩ | ⟨_, h2⟩
  · rw [h1, g.unique h]
  · exact absurd h.hit (h2 r h.ge h.le h.par)

theorem skipPad_eq (img : List Nat) (e : Nat) (he : e ≤ img.length) :
    skipPad img e = if e < 16 then .err .invalid else if img[e - 1]? ≠ some 0 then .ok e else skipPad img (e - 1) := by
  rw [skipPad]
  split
  · rfl
  · rw [List.getElem?_eq_getElem (show e - 1 < img.length by omega)]
    simp only [ne_eq, Option.some.injEq]

theorem guard_ok {p : Prop} [Decidable p] {X : Out Bool} {y : Bool} (h : X = .ok y) :
    (if ¬ p then .ok false else X) = .ok (decide p && y) := by
  by_cases hp : p <;> simp [hp, h]

theorem hdrAt_eq (img : List Nat) (x s : Nat) (h : s + 3 < img.length) :
    hdrAt img x (DANS ^^^ x) s = .ok (decide (HeaderAt img x s)) := by
  have h0 : img[s]? = some (img[s]'(by omega)) := List.getElem?_eq_getElem _
  have h1 : img[s + 1]? = some (img[s + 1]'(by omega)) := List.getElem?_eq_getElem _
  have h2 : img[s + 2]? = some (img[s + 2]'(by omega)) := List.getElem?_eq_getElem _
  have h3 : img[s + 3]? = some (img[s + 3]'(by omega)) := List.getElem?_eq_getElem _
  unfold hdrAt HeaderAt
  simp only [h0, h1, h2, h3, Option.some.injEq, Bool.decide_and, dans_eq]
  exact guard_ok (guard_ok (guard_ok rfl))

theorem findStart_eq (img : List Nat) (x s : Nat) (hs : s + 3 < img.length) :
    findStart img x (DANS ^^^ x) s =
      if s < 16 then .err .invalid else if HeaderAt img x s then .ok s else findStart img x (DANS ^^^ x) (s - 2) := by
  rw [findStart, hdrAt_eq img x s hs]
  by_cases h : HeaderAt img x s <;> simp [h]

/-! ### `parseArea` -/

theorem Spec.WellFormedAt.room {area : List Nat} {s e k : Nat} (h : WellFormedAt area s e k) : s + 6 ≤ e := h.2.1
theorem Spec.WellFormedAt.fits {area : List Nat} {s e k : Nat} (h : WellFormedAt area s e k) : e ≤ area.length := h.2.2.1

/-- the second scan runs over `t ≤ e - 6` at even distance from `e - 6`; `WellFormedAt` and `NoFake` say the same with `e` -/
theorem shift6 {e t : Nat} (h6 : 6 ≤ e) : (t ≤ e - 6 ∧ (e - 6 - t) % 2 = 0) ↔ (t + 6 ≤ e ∧ (e - t) % 2 = 0) := by omega

theorem parseArea_of_scans {area : List Nat} {e k s : Nat} (hE : skipPad area area.length = .ok e)
    (hR : area[e - 2]? = some RICH) (hK : area[e - 1]? = some k) (h6 : 6 ≤ e)
    (hS : findStart area k (DANS ^^^ k) (e - 6) = .ok s) (hse : s ≤ e) (hel : e ≤ area.length) :
    parseArea area = .ok ⟨area.take s, (area.take e).drop s⟩ := by
  unfold parseArea
  rw [hE, Out.bind_ok, idx_of_getElem? hR, Out.bind_ok, if_neg (by simp), idx_of_getElem? hK, Out.bind_ok]
  simp only [psub_ok h6, Out.bind_ok, hS, slice_ok _ _ _ _ ⟨Nat.zero_le _, Nat.le_trans hse hel⟩,
    slice_ok _ _ _ _ ⟨hse, hel⟩, List.drop_zero]

theorem parseArea_complete (area : List Nat) (s e k : Nat)
    (hwf : WellFormedAt area s e k) (hk : k ≠ 0) (hno : NoFake area s e k) :
    parseArea area = .ok ⟨area.take s, (area.take e).drop s⟩ := by
  obtain ⟨w1, w2, w3, w4, w5, w6, w7, w8, w9, w10, w11⟩ := hwf
  have h6 : 6 ≤ e := by omega
  obtain ⟨hse, hpar⟩ := (shift6 h6).2 ⟨w2, w4⟩
  -- the first loop stops at `e`: `area[e - 1] = k ≠ 0`, zeroes behind it
  have hE : skipPad area area.length = .ok e :=
    scanDown_of_firstDown (P := fun j => area[j - 1]? ≠ some 0) (d := 1) (by decide) _ (fun m hm => skipPad_eq area m hm)
      ⟨by omega, w3, Nat.mod_one _, by rw [w10]; simpa using hk, fun t h1 h2 _ h => h (w11 (t - 1) (by omega) (by omega))⟩
  -- the second loop stops at `s`: a header block there, none between `s` and the trailer
  have hS : findStart area k (DANS ^^^ k) (e - 6) = .ok s :=
    scanDown_of_firstDown (P := HeaderAt area k) (d := 2) (by decide) _ (fun m hm => findStart_eq area k m (by omega))
      ⟨w1, hse, hpar, ⟨w5, w6, w7, w8⟩, fun t h1 h2 h3 => ((shift6 h6).1 ⟨h2, h3⟩).elim (hno t h1)⟩
  rw [rich_eq] at w9
  exact parseArea_of_scans hE w9 w10 h6 hS (by omega) w3

theorem parseArea_spec (area : List Nat) :
    (∃ s e k, parseArea area = .ok ⟨area.take s, (area.take e).drop s⟩ ∧
        WellFormedAt area s e k ∧ k ≠ 0 ∧ NoFake area s e k)
    ∨ parseArea area = .err .invalid ∨ parseArea area = .err .badMagic := by
  rcases scanDown_spec (by decide) _ area.length (fun m hm => skipPad_eq area m hm) with ⟨e, h1, g⟩ | ⟨h1, _⟩
  · have hm : area[e - 2]? = some (area[e - 2]'(by have := g.ge; have := g.le; omega)) := List.getElem?_eq_getElem _
    have hK : area[e - 1]? = some (area[e - 1]'(by have := g.ge; have := g.le; omega)) := List.getElem?_eq_getElem _
    generalize area[e - 1]'_ = k at hK
    have hk : k ≠ 0 := fun h => g.hit (by rw [hK, h])
    have h16 := g.ge
    have hle := g.le
    by_cases hr : area[e - 2]'(by omega) = RICH
    · rw [hr] at hm
      rcases scanDown_spec (by decide) _ (e - 6) (fun m hm => findStart_eq area k m (by omega))
        with ⟨s, g1, f⟩ | ⟨g1, _⟩
      · obtain ⟨a, b, c, d⟩ := f.hit
        have h6 : 6 ≤ e := by omega
        obtain ⟨hse, hpar⟩ := (shift6 h6).1 ⟨f.le, f.par⟩
        refine .inl ⟨s, e, k, parseArea_of_scans h1 hm hK h6 g1 (by omega) hle, ?_, hk, ?_⟩
        -- the zero tail is the first scan's `miss` at `j + 1` (its predicate reads `area[j]`), `NoFake` the second scan's
        -- `miss`, whose range ends at `e - 6`
        · exact ⟨f.ge, hse, hle, hpar, a, b, c, d, by rw [rich_eq]; exact hm, hK,
            fun j hj1 hj2 => Decidable.not_not.1 (g.miss (j + 1) (by omega) (by omega) (Nat.mod_one _))⟩
        · exact fun t ht1 ht2 ht3 => ((shift6 h6).2 ⟨ht2, ht3⟩).elim (f.miss t ht1)
      · right; left
        unfold parseArea
        rw [h1, Out.bind_ok, idx_of_getElem? hm, Out.bind_ok, if_neg (by simp), idx_of_getElem? hK, Out.bind_ok]
        simp only [psub_ok (show 6 ≤ e by omega), Out.bind_ok, g1]
        rfl
    · right; right
      unfold parseArea
      rw [h1, Out.bind_ok, idx_of_getElem? hm, Out.bind_ok, if_pos (by simp [hr])]
  · right; left; unfold parseArea; rw [h1]; rfl

/-! ### `try_from`, `Pe::rich_structure` -/

theorem getD15_lt {l : List Nat} (h16 : 16 ≤ l.length) (hb : ∀ w ∈ l, w < 4294967296) : l.getD 15 0 < 4294967296 := by
  rw [List.getD_eq_getElem?_getD, List.getElem?_eq_getElem (by omega)]
  exact hb _ (List.getElem_mem _)

theorem tryFrom_eq (image : List Nat) :
    tryFrom image = if 16 ≤ image.length ∧ image.getD 15 0 / 4 ≤ image.length then parseArea (areaOf image)
      else .err .invalid := by
  unfold tryFrom areaOf
  by_cases h16 : 16 ≤ image.length
  · have h15 : image[15]? = some (image.getD 15 0) := by
      rw [List.getD_eq_getElem?_getD, List.getElem?_eq_getElem (by omega)]; simp
    rw [h15]
    simp only
    by_cases hn : image.getD 15 0 / 4 ≤ image.length
    · rw [if_neg (by omega), if_pos ⟨h16, hn⟩]
    · rw [if_pos (by omega), if_neg (by omega)]
  · have h15 : image[15]? = none := List.getElem?_eq_none (by omega)
    rw [h15, if_neg (by omega)]

theorem tryFrom_spec (image : List Nat) :
    (16 ≤ image.length ∧ image.getD 15 0 / 4 ≤ image.length ∧
      ∃ s e k, tryFrom image = .ok ⟨(areaOf image).take s, ((areaOf image).take e).drop s⟩ ∧
        WellFormedAt (areaOf image) s e k ∧ k ≠ 0 ∧ NoFake (areaOf image) s e k)
    ∨ tryFrom image = .err .invalid ∨ tryFrom image = .err .badMagic := by
  rw [tryFrom_eq]
  split
  · rename_i hc
    exact (parseArea_spec (areaOf image)).imp_left fun h => ⟨hc.1, hc.2, h⟩
  · exact .inr (.inl rfl)

theorem tryFrom_total (image : List Nat) :
    (∃ r, tryFrom image = .ok r) ∨ tryFrom image = .err .invalid ∨ tryFrom image = .err .badMagic :=
  (tryFrom_spec image).imp_left fun ⟨_, _, _, _, _, h, _⟩ => ⟨_, h⟩

theorem tryFrom_sound (image : List Nat) (r : RichS) (h : tryFrom image = .ok r) :
    16 ≤ image.length ∧ image.getD 15 0 / 4 ≤ image.length ∧
    ∃ s e k, r = ⟨(areaOf image).take s, ((areaOf image).take e).drop s⟩ ∧
      WellFormedAt (areaOf image) s e k ∧ k ≠ 0 ∧ NoFake (areaOf image) s e k := by
  rcases tryFrom_spec image with ⟨h1, h2, s, e, k, h3, h4⟩ | h3 | h3 <;> rw [h] at h3 <;> cases h3
  exact ⟨h1, h2, s, e, k, rfl, h4⟩

/-- `words` as a map over the word indices: the form in which it is evaluated on a literal image (under the binder the
reads are rewritten with `le32_toNat`, Prim/Basic) -/
theorem wordsGo_eq_map (b : Bytes) : ∀ k i, wordsGo b k i = (List.range k).map fun j => le32 b (4 * (i + j))
  | 0, _ => rfl
  | k + 1, i => by
    rw [wordsGo, wordsGo_eq_map b k, List.range_succ_eq_map, List.map_cons, List.map_map]
    simp only [Function.comp_def, Nat.add_zero, Nat.add_right_comm i 1, Nat.add_assoc]

theorem words_lt (b : Bytes) : ∀ w ∈ words b, w < 4294967296 := by
  intro w hw
  rw [words, wordsGo_eq_map] at hw
  obtain ⟨j, -, rfl⟩ := List.mem_map.1 hw
  exact le32_lt b _

theorem ofImage_eq (img : Img) (h : img.base % 4 = 0) : ofImage img = tryFrom (words img.bytes) := by
  unfold ofImage
  rw [rawRef_eq_ok (by omega) (by omega)]
  rfl

/-! ### the documented layout against `WellFormedAt` / `NoFake` -/

/-- header, records, footer as the model's `encode` writes them -/
def hdrWords (k : Nat) (rs : List Record) : List Nat := [DANS ^^^ k, k, k, k] ++ (encodeAll k rs ++ [RICH, k])

theorem hdrWords_length (k : Nat) (rs : List Record) : (hdrWords k rs).length = 2 * rs.length + 6 := by
  simp [hdrWords, encodeAll_length] <;> omega

theorem header_eq (k : Nat) (rs : List Record) (hwf : ∀ r ∈ rs, r.WF) : Spec.header k rs = hdrWords k rs := by
  unfold Spec.header hdrWords
  rw [flatMap_encRecord k rs hwf, dans_eq, rich_eq, List.append_assoc]

theorem imitates_append : ∀ (F R : List Record), imitates R = true → imitates (F ++ R) = true
  | [], _, h => h
  | [a], R, h => by
    cases R with
    | nil => simp [imitates] at h
    | cons b R => simp only [List.cons_append, List.nil_append, imitates, Bool.or_eq_true]; exact .inr h
  | a :: b :: F, R, h => by
    have := imitates_append (b :: F) R h
    simp only [List.cons_append, imitates, Bool.or_eq_true] at this ⊢
    exact .inr this

/-- the documented layout, in the model's vocabulary -/
def layoutWords (stub : List Nat) (k : Nat) (rs : List Record) (pad : Nat) : List Nat :=
  stub ++ (hdrWords k rs ++ List.replicate pad 0)

theorem layout_eq (stub : List Nat) (k : Nat) (rs : List Record) (pad : Nat) (hwf : ∀ r ∈ rs, r.WF) :
    Spec.layout stub k rs pad = layoutWords stub k rs pad := by
  unfold Spec.layout layoutWords; rw [header_eq k rs hwf, List.append_assoc]

theorem layoutWords_length (stub : List Nat) (k : Nat) (rs : List Record) (pad : Nat) :
    (layoutWords stub k rs pad).length = stub.length + (2 * rs.length + 6) + pad := by
  simp [layoutWords, hdrWords_length]; omega

theorem layout_at (stub : List Nat) (k : Nat) (rs : List Record) (pad i : Nat) :
    (layoutWords stub k rs pad)[stub.length + i]? = (hdrWords k rs ++ List.replicate pad 0)[i]? := by
  unfold layoutWords; rw [List.getElem?_append_right (Nat.le_add_right _ _), Nat.add_sub_cancel_left]

theorem layout_body (stub : List Nat) (k : Nat) (rs : List Record) (pad j : Nat) (hj : j < (encodeAll k rs).length) :
    (layoutWords stub k rs pad)[stub.length + (4 + j)]? = some (encodeAll k rs)[j] := by
  rw [layout_at, hdrWords, List.append_assoc, List.getElem?_append_right (Nat.le_add_right 4 j),
    show 4 + j - [DANS ^^^ k, k, k, k].length = j from Nat.add_sub_cancel_left ..,
    List.getElem?_append_left (by rw [List.length_append]; exact Nat.lt_add_right _ hj),
    List.getElem?_append_left hj, List.getElem?_eq_getElem hj]

theorem layout_wellFormed (stub : List Nat) (k : Nat) (rs : List Record) (pad : Nat) (h16 : 16 ≤ stub.length) :
    WellFormedAt (layoutWords stub k rs pad) stub.length (stub.length + (2 * rs.length + 6)) k := by
  have hl := encodeAll_length k rs
  have hL := layoutWords_length stub k rs pad
  refine ⟨h16, by omega, by omega, by omega, ?_, ?_, ?_, ?_, ?_, ?_, fun j hj1 hj2 => ?_⟩
  · rw [dans_eq]; exact layout_at stub k rs pad 0
  · exact layout_at stub k rs pad 1
  · exact layout_at stub k rs pad 2
  · exact layout_at stub k rs pad 3
  · rw [rich_eq, show stub.length + (2 * rs.length + 6) - 2 = stub.length + ((encodeAll k rs).length + 4) by rw [hl]; rfl, layout_at]
    simp [hdrWords]
  · rw [show stub.length + (2 * rs.length + 6) - 1 = stub.length + ((encodeAll k rs).length + 1 + 4) by rw [hl]; rfl, layout_at]
    simp [hdrWords]
  · obtain ⟨i, rfl⟩ := Nat.exists_eq_add_of_le hj2
    rw [Nat.add_assoc, layout_at, ← hdrWords_length k rs, List.getElem?_append_right (Nat.le_add_right _ _),
      Nat.add_sub_cancel_left, List.getElem?_replicate, if_pos (by omega)]

theorem layout_noFake (stub : List Nat) (k : Nat) (rs : List Record) (pad : Nat)
    (hwf : ∀ r ∈ rs, r.WF) (him : imitates rs = false) :
    NoFake (layoutWords stub k rs pad) stub.length (stub.length + (2 * rs.length + 6)) k := by
  intro t ht1 ht2 ht3 ⟨g0, g1, g2, g3⟩
  rw [dans_eq] at g0
  by_cases h2 : t = stub.length + 2
  · -- the block would start at the second key dword
    subst h2
    rw [layout_at] at g0
    have : k = DANS ^^^ k := by simpa [hdrWords] using g0
    have hz := eq_zero_of_xor_eq_self this.symm
    revert hz; decide
  · -- the block lies on two records; decoded (`decodeAll_cut`, twice), they are the imitating pair
    obtain ⟨i, rfl⟩ : ∃ i, t = stub.length + (4 + 2 * i) := ⟨(t - stub.length - 4) / 2, by omega⟩
    have hi : 2 * i + 3 < (encodeAll k rs).length := by rw [encodeAll_length]; omega
    clear ht1 ht2 ht3 h2
    simp only [Nat.add_assoc] at g1 g2 g3
    rw [layout_body _ _ _ _ _ (by omega), Option.some.injEq] at g0 g1 g2 g3
    have c1 := decodeAll_cut k (encodeAll k rs) (2 * i) (by omega) (by omega)
    have c2 := decodeAll_cut k ((encodeAll k rs).drop (2 * i + 2)) 0 rfl (by rw [List.length_drop]; omega)
    rw [decodeAll_encodeAll k rs hwf, c2] at c1
    simp only [List.getElem_drop, Nat.add_zero, g0, g1, g2, g3, (decode_dans k).1, (decode_dans k).2, List.take_zero,
      decodeAll, List.nil_append] at c1
    rw [c1, imitates_append _ _ rfl] at him
    cases him

theorem layout_take_drop (stub : List Nat) (k : Nat) (rs : List Record) (pad : Nat) :
    ((layoutWords stub k rs pad).take (stub.length + (2 * rs.length + 6))).drop stub.length = hdrWords k rs := by
  unfold layoutWords
  rw [List.take_length_add_append, List.drop_left', List.take_left' (hdrWords_length k rs)]
  rfl

/-- The converse of `layout_wellFormed` for 32-bit dwords.  With `e = s + 4 + 2 * n + 2` every position is a sum, and each
`getElem?` fact peels one dword off a `drop`; the body between header and trailer is an even number of dwords, so it is
`encodeAll` of its own `decodeAll`, which are the records. -/
theorem layout_of_wellFormed (area : List Nat) (s e k : Nat) (hb : ∀ w ∈ area, w < 4294967296)
    (hwf : WellFormedAt area s e k) :
    ∃ rs pad, (∀ x ∈ rs, x.WF) ∧ e = s + (2 * rs.length + 6) ∧ area = layoutWords (area.take s) k rs pad := by
  obtain ⟨-, w2, w3, w4, w5, w6, w7, w8, w9, w10, w11⟩ := hwf
  obtain ⟨n, rfl⟩ : ∃ n, e = s + 4 + 2 * n + 2 := ⟨(e - s - 6) / 2, by omega⟩
  obtain ⟨pad, hp⟩ := Nat.exists_eq_add_of_le w3
  clear w2 w3 w4
  rw [dans_eq] at w5
  rw [rich_eq, Nat.add_sub_cancel] at w9
  rw [show s + 4 + 2 * n + 2 - 1 = s + 4 + 2 * n + 1 from rfl] at w10
  have hz : area.drop (s + 4 + 2 * n + 1 + 1) = List.replicate pad 0 := by
    rw [List.eq_replicate_iff]
    refine ⟨by rw [List.length_drop]; omega, fun b hb => ?_⟩
    obtain ⟨i, hi⟩ := List.getElem?_of_mem hb
    rw [List.getElem?_drop] at hi
    rw [w11 _ (List.getElem?_eq_some_iff.1 hi).1 (Nat.le_add_right _ _)] at hi; cases hi; rfl
  generalize hB : (area.drop (s + 4)).take (2 * n) = body
  have hBl : body.length = 2 * n := by rw [← hB, List.length_take, List.length_drop]; omega
  have hk : k < 4294967296 := hb k (List.mem_of_getElem? w6)
  have hBsub : ∀ w ∈ body, w < 4294967296 := fun w hw => hb w (List.mem_of_mem_drop (List.mem_of_mem_take (hB ▸ hw)))
  refine ⟨decodeAll k body, pad, decodeAll_wf k hk body hBsub, by rw [decodeAll_length, hBl]; omega, ?_⟩
  unfold layoutWords hdrWords
  rw [encodeAll_decodeAll k hk body (by omega) hBsub]
  have peel := @List.drop_eq_getElem?_toList_append _ area
  conv => lhs; rw [← List.take_append_drop s area, peel, w5, peel, w6, peel, w7, peel, w8,
    ← List.take_append_drop (2 * n) (area.drop (s + 4)), List.drop_drop, @peel (s + 4 + 2 * n), w9,
    @peel (s + 4 + 2 * n + 1), w10, hz, hB]
  simp only [List.append_assoc, List.cons_append, List.nil_append, Option.toList_some]

/-! ### accessors on the normal form `⟨stub, hdrWords k rs⟩` -/

theorem xorKey_hdr (stub : List Nat) (k : Nat) (rs : List Record) :
    (RichS.mk stub (hdrWords k rs)).xorKey = .ok k := by
  unfold RichS.xorKey idx hdrWords; simp

theorem records_hdr (stub : List Nat) (k : Nat) (rs : List Record) :
    (RichS.mk stub (hdrWords k rs)).records = .ok ⟨encodeAll k rs, k⟩ := by
  unfold RichS.records
  dsimp only
  have hl : (hdrWords k rs).length = 2 * rs.length + 6 := hdrWords_length k rs
  have hp : (hdrWords k rs).length - 2 = 2 * rs.length + 4 := by omega
  rw [psub_ok (by omega), Out.bind_ok, hp, slice_ok _ _ _ _ ⟨by omega, by omega⟩, xorKey_hdr]
  simp only [Out.bind_ok]
  congr 2
  unfold hdrWords
  have : 2 * rs.length + 4 = ([DANS ^^^ k, k, k, k] : List Nat).length + (encodeAll k rs).length := by
    rw [encodeAll_length]; simp; omega
  rw [this, List.take_length_add_append, List.take_left' rfl]
  rfl

theorem collect_hdr (k : Nat) (rs : List Record) (hwf : ∀ r ∈ rs, r.WF) :
    (Iter.mk (encodeAll k rs) k).collect = rs := by
  unfold Iter.collect; exact decodeAll_encodeAll k rs hwf

theorem checksum_hdr (stub : List Nat) (k : Nat) (rs : List Record) (hlen : 4 * stub.length < 4294967296)
    (hwf : ∀ r ∈ rs, r.WF) : (RichS.mk stub (hdrWords k rs)).checksum = .ok (Spec.checksum stub rs) := by
  unfold RichS.checksum
  rw [records_hdr]; simp only [Out.bind_ok]
  rw [collect_hdr k rs hwf, checksumOf_eq stub rs hlen hwf]

/-- `hn`: from 536 870 906 records on `((key / 32) % 3 + n) * 8 + 0x20` can overflow the `u32` it is computed in -/
theorem encode_eq (r : RichS) (rs : List Record) (destLen : Nat) (hlen : 4 * r.dosStub.length < 4294967296)
    (hwf : ∀ x ∈ rs, x.WF) (hn : rs.length < 536870906) :
    r.encode rs destLen = .ok (
      let k := Spec.checksum r.dosStub rs
      let total := ((k / 32) % 3 + rs.length) * 2 + 8
      if destLen < rs.length * 2 + 6 then .tooSmall total
      else .done total (hdrWords k rs ++ List.replicate (destLen - (rs.length * 2 + 6)) 0)) := by
  unfold RichS.encode
  rw [checksumOf_eq _ rs hlen hwf]; simp only [Out.bind_ok]
  generalize Spec.checksum r.dosStub rs = k
  have h1 : rs.length % 4294967296 = rs.length := Nat.mod_eq_of_lt (by omega)
  rw [h1]
  unfold padd32 pmul32
  rw [if_pos (by omega)]; simp only [Out.bind_ok]
  rw [if_pos (by omega)]; simp only [Out.bind_ok]
  rw [if_pos (by omega)]; simp only [Out.bind_ok]
  have h2 : ((k / 32 % 3 + rs.length) * 8 + 32) / 4 = (k / 32 % 3 + rs.length) * 2 + 8 := by omega
  rw [h2]
  by_cases hd : destLen < rs.length * 2 + 6
  · simp [hd]
  · simp [hd, hdrWords]

/-! ### `try_from` on the documented layout, and the layout of what it accepts -/

theorem tryFrom_layout (stub : List Nat) (k : Nat) (rs : List Record) (pad : Nat) (rest : List Nat)
    (h16 : 16 ≤ stub.length)
    (he : stub.getD 15 0 / 4 = stub.length + (2 * rs.length + 6) + pad)
    (hk : k ≠ 0) (hwf : ∀ r ∈ rs, r.WF) (him : imitates rs = false) :
    tryFrom (layoutWords stub k rs pad ++ rest) = .ok ⟨stub, hdrWords k rs⟩ := by
  have hL := layoutWords_length stub k rs pad
  have h15 : (layoutWords stub k rs pad ++ rest).getD 15 0 = stub.getD 15 0 := by
    unfold layoutWords
    rw [List.getD_eq_getElem?_getD, List.getD_eq_getElem?_getD, List.getElem?_append_left (by simp; omega),
      List.getElem?_append_left (by omega)]
  have hA : areaOf (layoutWords stub k rs pad ++ rest) = layoutWords stub k rs pad := by
    unfold areaOf; rw [h15, he, ← hL, List.take_left' rfl]
  rw [tryFrom_eq, if_pos ⟨by rw [List.length_append]; omega, by rw [h15, he, List.length_append]; omega⟩, hA,
    parseArea_complete _ _ _ k (layout_wellFormed stub k rs pad h16) hk (layout_noFake stub k rs pad hwf him),
    layout_take_drop, show (layoutWords stub k rs pad).take stub.length = stub from List.take_left' rfl]

/-- Not the converse of `tryFrom_layout`: `NoFake` is dropped, nothing is said about `imitates`.  The bound is that of an area
that ends at `e_lfanew`, a dword; it is what `checksum_hdr` (stub below 4 GiB) and `inv_records_hdr` (slice length a `usize`)
ask for. -/
theorem layout_of_tryFrom (image : List Nat) (hb : ∀ w ∈ image, w < 4294967296) (r : RichS) (h : tryFrom image = .ok r) :
    ∃ k rs pad, k ≠ 0 ∧ (∀ x ∈ rs, x.WF) ∧ 16 ≤ r.dosStub.length ∧
      4 * (r.dosStub.length + (2 * rs.length + 6) + pad) < 4294967296 ∧
      r.image = hdrWords k rs ∧ areaOf image = layoutWords r.dosStub k rs pad := by
  obtain ⟨h16, hn, s, e, k, rfl, hat, hk0, -⟩ := tryFrom_sound image r h
  have h15 := getD15_lt h16 hb
  have hal : (areaOf image).length ≤ image.getD 15 0 / 4 := by unfold areaOf; rw [List.length_take]; omega
  obtain ⟨rs, pad, hwf, rfl, hA⟩ := layout_of_wellFormed (areaOf image) s e k (fun w hw => hb w (List.mem_of_mem_take hw)) hat
  have hs : ((areaOf image).take s).length = s := List.length_take_of_le (Nat.le_trans (Nat.le_add_right _ _) hat.fits)
  have hL := layoutWords_length ((areaOf image).take s) k rs pad
  rw [← hA, hs] at hL
  refine ⟨k, rs, pad, hk0, hwf, by rw [hs]; exact hat.1, by simp only; omega, ?_, hA⟩
  have := layout_take_drop ((areaOf image).take s) k rs pad
  rwa [← hA, hs] at this

/-! ### `RichIter` -/

/-- invariant of an iterator handed out by `records()`: whole records only, a real slice length -/
def Iter.Inv (it : Iter) : Prop := it.iter.length % 2 = 0 ∧ it.iter.length < USZ

theorem inv_records_hdr (k : Nat) (rs : List Record) (h : 2 * rs.length < USZ) : (Iter.mk (encodeAll k rs) k).Inv := by
  unfold Iter.Inv
  simp only [encodeAll_length]
  omega

theorem next_refines (it : Iter) :
    ∃ it', it.next = .ok (it.collect.head?, it') ∧ it'.collect = it.collect.tail ∧ (it.Inv → it'.Inv) ∧
      (it.collect = [] → it' = it) := by
  unfold Iter.next Iter.collect Iter.Inv
  by_cases hl : it.iter.length ≥ 2
  · rw [if_pos hl, idx_ok _ _ 0 (by omega), idx_ok _ _ 1 (by omega), slice_ok _ _ _ _ ⟨hl, Nat.le_refl _⟩,
      decodeAll_cut it.key it.iter 0 rfl hl]
    exact ⟨_, rfl, by simp [decodeAll], by simp only [List.length_drop, List.take_length]; omega, nofun⟩
  · have hs := decodeAll_short it.key it.iter (by omega)
    rw [if_neg hl, hs]
    exact ⟨it, rfl, hs, id, fun _ => rfl⟩

/-- Unlike `next` and `nth`, `next_back` answers the back of the deque (`getLast?`) only on whole records: on an odd slice it
decodes the LAST two dwords, while `collect` pairs from the front (`[1, 2, 3]` under key 0: `⟨2, 0, 3⟩` against `⟨1, 0, 2⟩`).  Hence the shape, and
`step_total` is not a corollary of `step_refines`. -/
theorem nextBack_refines (it : Iter) :
    ∃ p, it.nextBack = .ok p ∧
      (it.Inv → p.1 = it.collect.getLast? ∧ p.2.collect = it.collect.dropLast ∧ p.2.Inv) := by
  unfold Iter.nextBack Iter.collect Iter.Inv
  simp only
  by_cases hl : it.iter.length ≥ 2
  · rw [if_pos hl, idx_ok _ _ _ (by omega), idx_ok _ _ _ (by omega), slice_ok _ _ _ _ ⟨by omega, by omega⟩]
    refine ⟨_, rfl, fun h => ?_⟩
    have hc := decodeAll_cut it.key it.iter (it.iter.length - 2) (by omega) (by omega)
    rw [List.drop_eq_nil_of_le (as := it.iter) (i := it.iter.length - 2 + 2) (by omega)] at hc
    rw [hc]
    refine ⟨?_, ?_, by simp only [List.drop_zero, List.length_take]; omega⟩
    · simp only [decodeAll, List.getLast?_concat, show it.iter.length - 2 + 1 = it.iter.length - 1 by omega]
    · simp only [decodeAll, List.dropLast_concat, List.drop_zero]
  · rw [if_neg hl, decodeAll_short it.key it.iter (by omega)]
    exact ⟨_, rfl, fun h => ⟨rfl, decodeAll_short it.key it.iter (by omega), h⟩⟩

theorem nth_refines (it : Iter) (hlt : it.iter.length < USZ) (n : Nat) :
    ∃ it', it.nth n = .ok (it.collect[n]?, it') ∧ it'.collect = it.collect.drop (n + 1) ∧ (it.Inv → it'.Inv) := by
  unfold Iter.nth Iter.collect Iter.Inv pmul64 padd64 USZ at *
  by_cases hn : n * 2 + 2 ≤ it.iter.length
  · rw [if_pos (by omega), if_pos (by omega), Out.bind_ok, if_pos (by omega), Out.bind_ok, if_pos (by omega), Out.bind_ok,
      idx_ok _ _ _ (by omega), idx_ok _ _ _ (by omega), slice_ok _ _ _ _ ⟨by omega, Nat.le_refl _⟩]
    rw [decodeAll_cut it.key it.iter (n * 2) (by omega) (by omega)]
    have hf' : (decodeAll it.key (List.take (n * 2) it.iter)).length = n := by
      rw [decodeAll_length, List.length_take]; omega
    refine ⟨⟨it.iter.drop (n * 2 + 2), it.key⟩, ?_, ?_, by simp only [List.length_drop]; omega⟩
    · rw [List.getElem?_append_right (by omega), hf', Nat.sub_self, List.take_length]; rfl
    · rw [List.drop_append, List.drop_eq_nil_of_le (as := decodeAll it.key (List.take (n * 2) it.iter)) (by omega), hf',
        Nat.add_sub_cancel_left]; rfl
  · have hlen : (decodeAll it.key it.iter).length ≤ n := by rw [decodeAll_length]; omega
    rw [if_neg (by omega), slice_ok _ _ _ _ ⟨Nat.le_refl _, Nat.zero_le _⟩]
    exact ⟨⟨[], it.key⟩, by rw [List.getElem?_eq_none hlen]; rfl, (List.drop_eq_nil_of_le (by omega)).symm,
      fun _ => ⟨rfl, Nat.zero_lt_succ _⟩⟩

theorem step_refines (it : Iter) (h : it.Inv) (op : Op) :
    ∃ it', it.step op = .ok ((stepDeque it.collect op).1, it') ∧
      it'.collect = (stepDeque it.collect op).2 ∧ it'.Inv := by
  have hlen : it.collect.length = it.iter.length / 2 := by unfold Iter.collect; exact decodeAll_length _ _
  cases op with
  | next =>
    obtain ⟨it', h1, h2, h3, _⟩ := next_refines it
    exact ⟨it', by simp [Iter.step, h1, stepDeque], by simp [stepDeque, h2], h3 h⟩
  | nextBack =>
    obtain ⟨p, h1, h2⟩ := nextBack_refines it
    obtain ⟨e, h2, h3⟩ := h2 h
    exact ⟨p.2, by simp [Iter.step, h1, stepDeque, e], by simp [stepDeque, h2], h3⟩
  | nth n =>
    obtain ⟨it', h1, h2, h3⟩ := nth_refines it h.2 n
    exact ⟨it', by simp [Iter.step, h1, stepDeque], by simp [stepDeque, h2], h3 h⟩
  | len => exact ⟨it, by simp [Iter.step, stepDeque, Iter.len, Iter.sizeHint, hlen], rfl, h⟩
  | sizeHint => exact ⟨it, by simp [Iter.step, stepDeque, Iter.sizeHint, hlen], rfl, h⟩
  | count => exact ⟨it, by simp [Iter.step, stepDeque, Iter.count, Iter.sizeHint, hlen], rfl, h⟩
  | clone => exact ⟨it, by simp [Iter.step, stepDeque], rfl, h⟩

theorem run_refines : ∀ (ops : List Op) (it : Iter), it.Inv → it.run ops = .ok (runDeque it.collect ops) := by
  intro ops
  induction ops with
  | nil => intro it _; rfl
  | cons o os ih =>
    intro it h
    obtain ⟨it', h1, h2, h3⟩ := step_refines it h o
    simp only [Iter.run, runDeque, h1, Out.bind_ok, ih it' h3, h2]

theorem collect_next (it it' : Iter) (r : Option Record) (h : it.next = .ok (r, it')) :
    it.collect.head? = r ∧ it'.collect = it.collect.tail ∧ (it.collect = [] → it' = it) := by
  obtain ⟨it'', h1, h2, _, h4⟩ := next_refines it
  rw [h1] at h
  cases h
  exact ⟨rfl, h2, h4⟩

theorem step_total (it : Iter) (hlen : it.iter.length < USZ) (op : Op) : ∃ p, it.step op = .ok p := by
  cases op with
  | next => obtain ⟨p, h, _⟩ := next_refines it; exact ⟨_, by simp [Iter.step, h]; rfl⟩
  | nextBack => obtain ⟨p, h, _⟩ := nextBack_refines it; exact ⟨_, by simp [Iter.step, h]; rfl⟩
  | nth n => obtain ⟨p, h, _⟩ := nth_refines it hlen n; exact ⟨_, by simp [Iter.step, h]; rfl⟩
  | len => exact ⟨_, rfl⟩
  | sizeHint => exact ⟨_, rfl⟩
  | count => exact ⟨_, rfl⟩
  | clone => exact ⟨_, rfl⟩

end Pelite.Rich
