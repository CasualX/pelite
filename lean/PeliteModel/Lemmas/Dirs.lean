import PeliteModel.Spec.Dirs
import PeliteModel.Thm.C05
/-! Lemmas behind C15 and C18 (POGO): `binary_search_by` against its contract, sorted function tables, the typed reads, the
directory constructors, the debug directory with its casts resolved, the POGO iterator, unwind info, the TLS callback
list, the security directory, the specification's layout predicates. -/
namespace Pelite.Dirs
open Pelite Pelite.Pe

/-! ### `binary_search_by` -/

def rank : Ordering → Nat
  | .lt => 0
  | .eq => 1
  | .gt => 2

/-- what a sorted slice means for `binary_search_by` -/
def Mono (n : Nat) (cmp : Nat → Ordering) : Prop :=
  ∀ i j, i ≤ j → j < n → rank (cmp i) ≤ rank (cmp j)

/-- an answer the contract of `binary_search_by` allows -/
def SearchRes.Correct (n : Nat) (cmp : Nat → Ordering) : SearchRes → Prop
  | .found i => i < n ∧ cmp i = .eq
  | .notFound k => k ≤ n ∧ (∀ i, i < k → cmp i = .lt) ∧ (∀ i, k ≤ i → i < n → cmp i = .gt)

theorem bsearchLoop_range (cmp : Nat → Ordering) :
    ∀ (size base : Nat), 1 ≤ size →
      base ≤ bsearchLoop cmp base size ∧ bsearchLoop cmp base size < base + size := by
  intro size base
  fun_induction bsearchLoop cmp base size with
  | case1 base size h half mid base' ih =>
    intro _
    by_cases hc : cmp (base + size / 2) = .gt <;> simp only [base', mid, half, hc, ↓reduceDIte] at ih ⊢ <;>
      have := ih (by omega) <;> omega
  | case2 base size h => omega

theorem bsearchLoop_inv (cmp : Nat → Ordering) (n : Nat) (hm : Mono n cmp) :
    ∀ (size base : Nat), 1 ≤ size → base + size ≤ n →
      (base = 0 ∨ cmp base ≠ .gt) → (∀ i, base + size ≤ i → i < n → cmp i = .gt) →
      (bsearchLoop cmp base size = 0 ∨ cmp (bsearchLoop cmp base size) ≠ .gt) ∧
      (∀ i, bsearchLoop cmp base size + 1 ≤ i → i < n → cmp i = .gt) := by
  intro size base
  fun_induction bsearchLoop cmp base size with
  | case1 base size h half mid base' ih =>
    intro hs hn hb hup
    by_cases hc : cmp (base + size / 2) = .gt <;> simp only [base', mid, half, hc, ↓reduceDIte] at ih ⊢
    · refine ih (by omega) (by omega) hb fun i hi1 hi2 => ?_
      by_cases hi : base + size ≤ i
      · exact hup i hi hi2
      · -- mid ≤ i: monotone from mid
        have hmono := hm (base + size / 2) i (by omega) hi2
        rw [hc] at hmono
        cases hci : cmp i <;> simp [hci, rank] at hmono ⊢
    · exact ih (by omega) (by omega) (.inr hc) fun i hi1 hi2 => hup i (by omega) hi2
  | case2 base size h =>
    intro hs hn hb hup
    exact ⟨hb, fun i hi1 hi2 => hup i (by omega) hi2⟩

theorem bsearchBy_sound (n : Nat) (cmp : Nat → Ordering) :
    (∀ i, bsearchBy n cmp = .found i → i < n ∧ cmp i = .eq) ∧
    (∀ k, bsearchBy n cmp = .notFound k → k ≤ n) := by
  unfold bsearchBy
  by_cases hn : n = 0
  · rw [if_pos hn]; exact ⟨fun i h => (by cases h), fun k h => by cases h; omega⟩
  · rw [if_neg hn]
    have hr := bsearchLoop_range cmp n 0 (by omega)
    simp only
    cases hc : cmp (bsearchLoop cmp 0 n) with
    | eq => exact ⟨fun i h => (by cases h; exact ⟨by omega, hc⟩), fun k h => by cases h⟩
    | lt => exact ⟨fun i h => (by cases h), fun k h => by cases h; omega⟩
    | gt => exact ⟨fun i h => (by cases h), fun k h => by cases h; omega⟩

theorem rank_le_lt {o : Ordering} (h : rank o ≤ rank .lt) : o = .lt := by
  cases o <;> simp [rank] at h ⊢

theorem rank_gt_le {o : Ordering} (h : rank .gt ≤ rank o) : o = .gt := by
  cases o <;> simp [rank] at h ⊢

theorem bsearchBy_notFound (n : Nat) (cmp : Nat → Ordering) (hm : Mono n cmp) (k : Nat)
    (h : bsearchBy n cmp = .notFound k) :
    k ≤ n ∧ (∀ i, i < k → cmp i = .lt) ∧ (∀ i, k ≤ i → i < n → cmp i = .gt) := by
  refine ⟨(bsearchBy_sound n cmp).2 k h, ?_⟩
  unfold bsearchBy at h
  by_cases hn : n = 0
  · rw [if_pos hn] at h
    cases h
    exact ⟨fun i hi => by omega, fun i _ hi => by omega⟩
  · rw [if_neg hn] at h
    have hr := bsearchLoop_range cmp n 0 (by omega)
    obtain ⟨h1, h2⟩ := bsearchLoop_inv cmp n hm n 0 (by omega) (by omega) (.inl rfl) (fun i hi hi' => by omega)
    simp only at h
    generalize bsearchLoop cmp 0 n = r at *
    cases hc : cmp r with
    | eq => rw [hc] at h; cases h
    | lt =>
      rw [hc] at h
      cases h
      refine ⟨fun i hi => ?_, fun i hi hi' => h2 i hi hi'⟩
      have := hm i r (by omega) (by omega)
      rw [hc] at this
      exact rank_le_lt this
    | gt =>
      rw [hc] at h
      have hk := SearchRes.notFound.inj h
      subst hk
      cases h1 with
      | inl h0 =>
        refine ⟨fun i hi => by omega, fun i _ hi' => ?_⟩
        have := hm r i (by omega) hi'
        rw [hc] at this
        exact rank_gt_le this
      | inr hng => exact absurd hc hng

theorem bsearchBy_correct {n : Nat} {cmp : Nat → Ordering} (hm : Mono n cmp) : (bsearchBy n cmp).Correct n cmp := by
  cases h : bsearchBy n cmp with
  | found i => exact (bsearchBy_sound n cmp).1 i h
  | notFound k => exact bsearchBy_notFound n cmp hm k h

theorem bsearchRef_spec (cmp : Nat → Ordering) (n : Nat) (hm : Mono n cmp) (lo hi : Nat) :
    lo ≤ hi → hi ≤ n →
      (∀ i, i < lo → cmp i = .lt) → (∀ i, hi ≤ i → i < n → cmp i = .gt) →
      (Spec.bsearchRef cmp lo hi).Correct n cmp := by
  fun_induction Spec.bsearchRef cmp lo hi with
  | case1 lo hi h mid hc => exact fun _ _ _ _ => ⟨by omega, hc⟩
  | case2 lo hi h mid hc ih =>
    intro hle hn hlo hhi
    refine ih (by omega) hn (fun i hi' => ?_) hhi
    have := hm i mid (by omega) (by omega)
    rw [hc] at this
    exact rank_le_lt this
  | case3 lo hi h mid hc ih =>
    intro hle hn hlo hhi
    refine ih (by omega) (by omega) hlo fun i hi1 hi2 => ?_
    have := hm mid i hi1 hi2
    rw [hc] at this
    exact rank_gt_le this
  | case4 lo hi h => exact fun _ _ hlo hhi => ⟨by omega, hlo, fun i hi1 hi2 => hhi i (by omega) hi2⟩

theorem bsearchRef_correct {n : Nat} {cmp : Nat → Ordering} (hm : Mono n cmp) :
    (Spec.bsearchRef cmp 0 n).Correct n cmp :=
  bsearchRef_spec cmp n hm 0 n (Nat.zero_le _) (Nat.le_refl _) (fun i hi => by omega) (fun i h1 h2 => by omega)

/-- an `Equal` element lies on neither side of a partition point, and two partition points coincide -/
theorem SearchRes.Correct.agree {n : Nat} {cmp : Nat → Ordering} :
    ∀ {r r' : SearchRes}, r.Correct n cmp → r'.Correct n cmp →
      (∃ i j, r = .found i ∧ r' = .found j ∧ i < n ∧ j < n ∧ cmp i = .eq ∧ cmp j = .eq) ∨
      (∃ k, r = .notFound k ∧ r' = .notFound k)
  | .found i, .found j, ⟨hi, ci⟩, ⟨hj, cj⟩ => .inl ⟨i, j, rfl, rfl, hi, hj, ci, cj⟩
  | .found e, .notFound k, ⟨he, ce⟩, ⟨_, lo, hi⟩ | .notFound k, .found e, ⟨_, lo, hi⟩, ⟨he, ce⟩ => by
    by_cases hek : e < k
    · have := lo e hek; rw [ce] at this; cases this
    · have := hi e (by omega) he; rw [ce] at this; cases this
  | .notFound k, .notFound k', ⟨hk, a1, a2⟩, ⟨hk', b1, b2⟩ => by
    rcases Nat.lt_trichotomy k k' with h | h | h
    · have x := a2 k (Nat.le_refl _) (by omega); have y := b1 k h; rw [x] at y; cases y
    · exact .inr ⟨k, rfl, by rw [h]⟩
    · have x := b2 k' (Nat.le_refl _) (by omega); have y := a1 k' h; rw [x] at y; cases y

theorem bsearchBy_eq_of_correct {n : Nat} {cmp : Nat → Ordering} (hm : Mono n cmp)
    (hu : ∀ i j, i < n → j < n → cmp i = .eq → cmp j = .eq → i = j) {r : SearchRes} (hr : r.Correct n cmp) :
    bsearchBy n cmp = r := by
  rcases (bsearchBy_correct hm).agree hr with ⟨i, j, h1, h2, hi, hj, ci, cj⟩ | ⟨k, h1, h2⟩
  · rw [h1, h2, hu i j hi hj ci cj]
  · rw [h1, h2]

/-! ### sorted function tables -/

theorem checkSorted_iff (b : Bytes) (t : Ref) : checkSorted b t = true ↔ Spec.Sorted b t := by
  unfold checkSorted Spec.Sorted
  simp only [List.all_eq_true, List.mem_range, decide_eq_true_eq]
  constructor
  · intro h i hi; exact h i (by omega)
  · intro h i hi; exact h i (by omega)

/-- with `checkSorted_iff`: `Spec.sortedTable` (the driver's `hyp=` of an exception lookup) holds exactly when
`checkSorted b t = true`, the hypothesis of the C15 lookup theorems -/
theorem sortedTable_iff (b : Bytes) (t : Ref) : Spec.sortedTable b t = true ↔ Spec.Sorted b t := by
  unfold Spec.sortedTable Spec.Sorted
  simp only [List.all_eq_true, List.mem_range, Bool.and_eq_true, decide_eq_true_eq]
  constructor
  · intro h i hi; obtain ⟨⟨h1, h2⟩, h3⟩ := h i (by omega); exact ⟨h1, h2, h3⟩
  · intro h i hi; obtain ⟨h1, h2, h3⟩ := h i (by omega); exact ⟨⟨h1, h2⟩, h3⟩

theorem sorted_chain {b : Bytes} {t : Ref} (hs : Spec.Sorted b t) :
    ∀ j i, i < j → j < excCount t → rfBegin b t i ≤ rfEnd b t i ∧ rfEnd b t i ≤ rfBegin b t j ∧ rfBegin b t j ≤ rfEnd b t j := by
  intro j
  induction j with
  | zero => intro i hi; omega
  | succ j ih =>
    intro i hi hj
    obtain ⟨h1, h2, h3⟩ := hs j hj
    by_cases hij : i = j
    · subst hij; exact ⟨h1, h2, h3⟩
    · obtain ⟨g1, g2, g3⟩ := ih i (by omega) (by omega)
      exact ⟨g1, by omega, h3⟩

theorem rfCmp_eq_iff (b : Bytes) (t : Ref) (pc i : Nat) : rfCmp b t pc i = .eq ↔ Spec.Covers b t i pc := by
  unfold rfCmp Spec.Covers
  repeat' split
  all_goals simp; omega

theorem rfCmp_lt_iff (b : Bytes) (t : Ref) (pc i : Nat) :
    rfCmp b t pc i = .lt ↔ rfBegin b t i ≤ pc ∧ rfEnd b t i ≤ pc := by
  unfold rfCmp
  repeat' split
  all_goals simp; omega

theorem rfCmp_gt_iff (b : Bytes) (t : Ref) (pc i : Nat) : rfCmp b t pc i = .gt ↔ pc < rfBegin b t i := by
  unfold rfCmp
  repeat' split
  all_goals simp; omega

theorem rfCmp_mono {b : Bytes} {t : Ref} (hs : Spec.Sorted b t) (pc : Nat) : Mono (excCount t) (rfCmp b t pc) := by
  intro i j hij hj
  by_cases he : i = j
  · subst he; exact Nat.le_refl _
  · obtain ⟨h1, h2, h3⟩ := sorted_chain hs j i (by omega) hj
    by_cases hpc : pc < rfBegin b t j
    · rw [(rfCmp_gt_iff b t pc j).2 hpc]
      cases rfCmp b t pc i <;> simp [rank]
    · rw [(rfCmp_lt_iff b t pc i).2 ⟨by omega, by omega⟩]
      simp [rank]

theorem covers_unique {b : Bytes} {t : Ref} (hs : Spec.Sorted b t) {pc i j : Nat} (hi : i < excCount t)
    (hj : j < excCount t) (ci : Spec.Covers b t i pc) (cj : Spec.Covers b t j pc) : i = j := by
  unfold Spec.Covers at ci cj
  rcases Nat.lt_trichotomy i j with h | h | h
  · obtain ⟨_, h2, _⟩ := sorted_chain hs j i h hj; omega
  · exact h
  · obtain ⟨_, h2, _⟩ := sorted_chain hs i j h hi; omega

theorem indexOf_eq_of_correct {b : Bytes} {t : Ref} (hs : Spec.Sorted b t) {pc : Nat} {r : SearchRes}
    (hr : r.Correct (excCount t) (rfCmp b t pc)) : indexOf b t pc = r :=
  bsearchBy_eq_of_correct (rfCmp_mono hs pc)
    (fun i j hi hj ci cj => covers_unique hs hi hj ((rfCmp_eq_iff b t pc i).1 ci) ((rfCmp_eq_iff b t pc j).1 cj)) hr

/-- the comparator eta-expanded: under the binder `simp only [indexOf_eq, rfCmp, …]` opens `rfCmp` and rewrites its reads
before a lookup is evaluated (Prim/Basic, reads as digits of one number); applied to three arguments it stays closed -/
theorem indexOf_eq (b : Bytes) (t : Ref) (pc : Nat) : indexOf b t pc = bsearchBy (excCount t) fun i => rfCmp b t pc i := rfl

theorem linearLookup_some {b : Bytes} {t : Ref} {pc i : Nat} (h : Spec.linearLookup b t pc = some i) :
    i < excCount t ∧ Spec.Covers b t i pc := by
  unfold Spec.linearLookup at h
  have h1 := List.find?_some h
  have h2 := List.mem_of_find?_eq_some h
  simp only [List.mem_range] at h2
  exact ⟨h2, by simpa using h1⟩

theorem linearLookup_none {b : Bytes} {t : Ref} {pc : Nat} (h : Spec.linearLookup b t pc = none) :
    ∀ i, i < excCount t → ¬ Spec.Covers b t i pc := by
  unfold Spec.linearLookup at h
  rw [List.find?_eq_none] at h
  intro i hi
  have := h i (List.mem_range.2 hi)
  simpa using this

/-! ### the typed-read primitives -/

theorem derva_safe (v : View) (a : Addr) (size align : Nat) (hp : isPow2 align = true) :
    OkOrErr (v.derva a size align) ∧
    ∀ r, v.derva a size align = .ok r → RefOK v.img r ∧ r.len = size ∧ r.align = align :=
  ⟨derva_okOrErr v a size align hp, fun _ h => derva_sound v h⟩

theorem dervaSlice_safe (v : View) (a : Addr) (size align len : Nat) (hp : isPow2 align = true) :
    OkOrErr (v.dervaSlice a size align len) ∧
    ∀ r, v.dervaSlice a size align len = .ok r → RefOK v.img r ∧ r.len = size * len ∧ r.align = align :=
  ⟨dervaSlice_okOrErr v a size align len hp, fun _ h => dervaSlice_sound v h⟩

theorem dervaSliceS_safe (v : View) (a : Addr) (size align sentinel : Nat) (hs : 1 ≤ size)
    (hp : isPow2 align = true) :
    OkOrErr (v.dervaSliceS a size align sentinel) ∧
    ∀ r, v.dervaSliceS a size align sentinel = .ok r → RefOK v.img r ∧ r.len % size = 0 ∧ r.align = align := by
  rw [View.dervaSliceS_eq_I]
  exact ⟨dervaSliceFI_okOrErr v a size align _ hs hp, fun _ h => dervaSliceFI_sound v h⟩

theorem isPow2_1 : isPow2 1 = true := by decide
theorem isPow2_4 : isPow2 4 = true := by decide
theorem isPow2_8 : isPow2 8 = true := by decide
theorem isPow2_ptr (f : Fmt) : isPow2 f.ptrSize = true := by cases f <;> decide
theorem isPow2_tls (f : Fmt) : isPow2 (tlsAlign f) = true := by cases f <;> decide
theorem isPow2_lc (f : Fmt) : isPow2 (lcAlign f) = true := by cases f <;> decide
theorem ptrSize_pos (f : Fmt) : 1 ≤ f.ptrSize := by cases f <;> decide

/-- the shape shared by `Function::bytes` (`rangeSlice v (.rva Begin) Begin End .overflow`) and `Tls::raw_data`
(`rangeSlice v (.va Start) Start End .invalid`) -/
def rangeSlice (v : View) (a : Addr) (lo hi : Nat) (e : Err) : Out Ref :=
  if lo > hi then .err e else v.dervaSlice a 1 1 (hi - lo)

theorem rangeSlice_ok_iff {v : View} {a : Addr} {lo hi : Nat} {e : Err} (hhi : hi < 18446744073709551616) (r : Ref) :
    rangeSlice v a lo hi e = .ok r ↔ lo ≤ hi ∧ ∃ s, v.at a (hi - lo) 1 = .ok s ∧ r = ⟨s.off, hi - lo, 1⟩ := by
  unfold rangeSlice
  rw [ite_err_eq_ok, C05_derva_slice, Nat.one_mul]
  exact ⟨fun ⟨h, _, hs⟩ => ⟨by omega, hs⟩, fun ⟨h, hs⟩ => ⟨by omega, by omega, hs⟩⟩

theorem rangeSlice_safe (v : View) (a : Addr) (lo hi : Nat) (e : Err) :
    OkOrErr (rangeSlice v a lo hi e) ∧ ∀ r, rangeSlice v a lo hi e = .ok r → RefOK v.img r := by
  unfold rangeSlice
  split
  · exact ⟨okOrErr_err _, fun _ h => by cases h⟩
  · exact ⟨dervaSlice_okOrErr v a 1 1 _ isPow2_1, fun r hr => (dervaSlice_sound v hr).1⟩

/-! ### fixed-size record tables (debug, exception) -/

/-- the shape shared by `Debug::try_from` and `Exception::try_from` -/
def tableTryFrom (v : View) (idx recSize : Nat) : Out Ref :=
  match v.dataDir idx with
  | none => .err .null
  | some (va, size) =>
    if size % recSize ≠ 0 then .err .invalid
    else v.dervaSlice (.rva va) recSize 4 (size / recSize)

-- (a bare `rfl` holds too, but makes the elaborator unfold the stuck `v.dataDir idx` on both sides: 2 M heartbeats)
theorem debugTryFrom_eq (v : View) : debugTryFrom v = tableTryFrom v 6 28 := by
  unfold debugTryFrom tableTryFrom; cases v.dataDir 6 <;> rfl
theorem excTryFrom_eq (v : View) : excTryFrom v = tableTryFrom v 3 12 := by
  unfold excTryFrom tableTryFrom; cases v.dataDir 3 <;> rfl

/-- the constructor without a `match`: the form in which it is opened on an image before an evaluation; likewise
`structTryFrom_bind`, `castEntry_bind` -/
theorem tableTryFrom_bind (v : View) (idx recSize : Nat) :
    tableTryFrom v idx recSize = (Out.ofOption .null (v.dataDir idx)).bind fun p =>
      if p.2 % recSize ≠ 0 then .err .invalid else v.dervaSlice (.rva p.1) recSize 4 (p.2 / recSize) := by
  unfold tableTryFrom; cases v.dataDir idx <;> rfl

theorem tableTryFrom_ok_iff (v : View) (idx recSize : Nat) (t : Ref) :
    tableTryFrom v idx recSize = .ok t ↔
      ∃ va size, v.dataDir idx = some (va, size) ∧ Spec.recordCount size recSize = .ok (t.len / recSize) ∧
        ∃ s, v.at (.rva va) size 4 = .ok s ∧ t = ⟨s.off, size, 4⟩ := by
  unfold tableTryFrom Spec.recordCount
  constructor
  · intro h
    split at h; · cases h
    rename_i va size hd
    split at h; · cases h
    rename_i hm
    have hm' : size % recSize = 0 := by omega
    have := (dataDir_lt hd).2
    rw [dervaSlice_unfold, Nat.mul_div_cancel' (Nat.dvd_of_mod_eq_zero hm'), if_neg (by omega)] at h
    split at h <;> cases h
    rename_i s ha
    exact ⟨va, size, hd, by rw [if_pos hm'], s, ha, rfl⟩
  · rintro ⟨va, size, hd, hc, s, hs, rfl⟩
    have hm' : size % recSize = 0 := by
      by_cases hm : size % recSize = 0
      · exact hm
      · rw [if_neg hm] at hc; cases hc
    have := (dataDir_lt hd).2
    rw [hd]
    simp only
    rw [if_neg (by omega), dervaSlice_unfold, Nat.mul_div_cancel' (Nat.dvd_of_mod_eq_zero hm'), if_neg (by omega), hs]

theorem tableTryFrom_errors (v : View) (idx recSize : Nat) :
    (v.dataDir idx = none → tableTryFrom v idx recSize = .err .null) ∧
    (∀ va size, v.dataDir idx = some (va, size) → size % recSize ≠ 0 → tableTryFrom v idx recSize = .err .invalid) ∧
    (∀ size, v.dataDir idx = some (0, size) → size % recSize = 0 → tableTryFrom v idx recSize = .err .null) := by
  unfold tableTryFrom
  refine ⟨fun h => by rw [h], fun va size h hm => by rw [h]; simp only; rw [if_pos hm], fun size h hm => ?_⟩
  rw [h]
  simp only
  rw [if_neg (by omega)]
  rw [dervaSlice_unfold]
  split
  · -- recSize * (size / recSize) ≤ size < 2^32
    rename_i ho
    have := dataDir_lt h
    have : recSize * (size / recSize) ≤ size := Nat.mul_div_le size recSize
    omega
  · rw [(C05_null v _ 4).1]

theorem tableTryFrom_safe (v : View) (idx recSize : Nat) :
    OkOrErr (tableTryFrom v idx recSize) ∧
    ∀ t, tableTryFrom v idx recSize = .ok t → RefOK v.img t ∧ t.align = 4 := by
  unfold tableTryFrom
  cases hd : v.dataDir idx with
  | none => exact ⟨okOrErr_err _, fun _ h => by cases h⟩
  | some p =>
    obtain ⟨va, size⟩ := p
    simp only
    split
    · exact ⟨okOrErr_err _, fun _ h => by cases h⟩
    · obtain ⟨h1, h2⟩ := dervaSlice_safe v (.rva va) recSize 4 (size / recSize) isPow2_4
      exact ⟨h1, fun t ht => ⟨(h2 t ht).1, (h2 t ht).2.2⟩⟩

/-! ### one struct at the directory's RVA (TLS, load config) -/

def structTryFrom (v : View) (idx size align : Nat) : Out Ref :=
  match v.dataDir idx with
  | none => .err .null
  | some (va, _) => v.derva (.rva va) size align

theorem tlsTryFrom_eq (v : View) : tlsTryFrom v = structTryFrom v 9 (tlsSize v.fmt) (tlsAlign v.fmt) := by
  unfold tlsTryFrom structTryFrom; cases v.dataDir 9 <;> rfl
theorem lcTryFrom_eq (v : View) : lcTryFrom v = structTryFrom v 10 (lcSize v.fmt) (lcAlign v.fmt) := by
  unfold lcTryFrom structTryFrom; cases v.dataDir 10 <;> rfl

theorem structTryFrom_bind (v : View) (idx size align : Nat) :
    structTryFrom v idx size align = (Out.ofOption .null (v.dataDir idx)).bind fun p => v.derva (.rva p.1) size align := by
  unfold structTryFrom; cases v.dataDir idx <;> rfl

theorem structTryFrom_ok_iff (v : View) (idx size align : Nat) (t : Ref) :
    structTryFrom v idx size align = .ok t ↔
      ∃ va sz, v.dataDir idx = some (va, sz) ∧ ∃ s, v.at (.rva va) size align = .ok s ∧ t = ⟨s.off, size, align⟩ := by
  unfold structTryFrom
  cases v.dataDir idx with
  | none => exact ⟨fun h => (by cases h), fun ⟨_, _, h, _⟩ => by cases h⟩
  | some p =>
    obtain ⟨va, sz⟩ := p
    simp only
    rw [C05_derva]
    exact ⟨fun ⟨s, h1, h2⟩ => ⟨va, sz, rfl, s, h1, h2⟩, fun ⟨_, _, h, s, h1, h2⟩ => by cases h; exact ⟨s, h1, h2⟩⟩

theorem structTryFrom_absent (v : View) (idx size align : Nat) :
    (v.dataDir idx = none → structTryFrom v idx size align = .err .null) ∧
    (∀ sz, v.dataDir idx = some (0, sz) → structTryFrom v idx size align = .err .null) := by
  unfold structTryFrom
  exact ⟨fun h => by rw [h], fun sz h => by rw [h]; exact (C05_null_typed v _ _ 0 0).1.1⟩     -- its `derva (.rva 0)` conjunct

theorem structTryFrom_safe (v : View) (idx size align : Nat) (hp : isPow2 align = true) :
    OkOrErr (structTryFrom v idx size align) ∧
    ∀ t, structTryFrom v idx size align = .ok t → RefOK v.img t ∧ t.len = size ∧ t.align = align := by
  unfold structTryFrom
  cases v.dataDir idx with
  | none => exact ⟨okOrErr_err _, fun _ h => by cases h⟩
  | some p => exact derva_safe v _ _ _ hp

/-! ### debug directory -/

theorem dirData_eq_spec (v : View) (d : Nat) :
    dirData v d = (Spec.rawDataWindow v.kind v.b d).map (fun w => (⟨w.1, w.2, 1⟩ : Ref)) := by
  unfold dirData Spec.rawDataWindow ddSizeOfData ddPointerToRawData ddAddressOfRawData wadd64
  have h1 := le32_lt v.b (d + 16)
  have h2 := le32_lt v.b (d + 24)
  have h3 := le32_lt v.b (d + 20)
  cases v.kind <;> simp only
  · rw [Nat.mod_eq_of_lt (by omega)]
    by_cases h : le32 v.b (d + 24) + le32 v.b (d + 16) ≤ v.b.size
    · rw [if_pos ⟨by omega, h⟩, if_pos h]; simp
    · rw [if_neg (fun hh => h hh.2), if_neg h]; rfl
  · rw [Nat.mod_eq_of_lt (by omega)]
    by_cases h : le32 v.b (d + 20) + le32 v.b (d + 16) ≤ v.b.size
    · rw [if_pos ⟨by omega, h⟩, if_pos h]; simp
    · rw [if_neg (fun hh => h hh.2), if_neg h]; rfl

theorem dirData_sound {v : View} {d : Nat} {r : Ref} (h : dirData v d = some r) :
    r.off + r.len ≤ v.img.bytes.size ∧ r.align = 1 := by
  rw [dirData_eq_spec] at h
  unfold Spec.rawDataWindow at h
  cases hk : v.kind <;> rw [hk] at h <;> simp only at h <;> split at h
  all_goals first
    | (rename_i hc
       simp only [Option.map_some, Option.some.injEq] at h
       subst h
       exact ⟨hc, rfl⟩)
    | cases h

theorem cstrFromBytes_of_isCStr {b : Bytes} {off avail n : Nat} (h : Spec.IsCStr b off avail n) :
    cstrFromBytes b off avail = some ⟨off, n + 1, 1⟩ :=
  cstrFromBytes_eq_some.2 ⟨n, rfl, h⟩

theorem cstrFromBytes_some {b : Bytes} {off len : Nat} {r : Ref} (h : cstrFromBytes b off len = some r) :
    r.off = off ∧ 1 ≤ r.len ∧ r.len ≤ len ∧ r.align = 1 ∧ Spec.IsCStr b off len (r.len - 1) := by
  obtain ⟨n, rfl, hn⟩ := cstrFromBytes_eq_some.1 h
  exact ⟨rfl, by simp, hn.1, rfl, hn⟩

theorem cstrFromBytes_none {b : Bytes} {off len : Nat} (h : cstrFromBytes b off len = none) :
    ∀ j, j < len → byteAt b (off + j) ≠ 0 :=
  cstrFromBytes_eq_none.1 h

def cvTail (v : View) (bytes : Ref) (k : Nat) (mk : Ref → Ref → CodeView) : Out CodeView :=
  match cstrFromBytes v.b (bytes.off + k) (bytes.len - k) with
  | some c => .ok (mk ⟨bytes.off, k, 4⟩ c)
  | none => .err .encoding

theorem cvTail_eq_ok {v : View} {bytes : Ref} {k : Nat} {mk : Ref → Ref → CodeView} {cv : CodeView} :
    cvTail v bytes k mk = .ok cv ↔
      ∃ n, cv = mk ⟨bytes.off, k, 4⟩ ⟨bytes.off + k, n + 1, 1⟩ ∧
        Spec.IsCStr v.b (bytes.off + k) (bytes.len - k) n := by
  unfold cvTail
  constructor
  · intro h
    cases hc : cstrFromBytes v.b (bytes.off + k) (bytes.len - k) with
    | none => rw [hc] at h; cases h
    | some c =>
      rw [hc] at h; cases h
      obtain ⟨g1, g2, _, g4, g5⟩ := cstrFromBytes_some hc
      refine ⟨c.len - 1, ?_, g5⟩
      cases c; simp only at g1 g2 g4 ⊢; subst g1 g4; rw [Nat.sub_add_cancel g2]
  · rintro ⟨n, rfl, hn⟩
    rw [cstrFromBytes_of_isCStr hn]

/-- inside raw data of at least 16 bytes at a dword-aligned address every `rawRef` succeeds and `&bytes[k..]` is in range -/
theorem codeView_eq (v : View) (d : Nat) :
    codeView v d =
      match dirData v d with
      | none => .err .bounds
      | some bytes =>
        if bytes.len < 16 then .err .bounds
        else if (v.img.base + bytes.off) % 4 ≠ 0 then .err .misaligned
        else if le32 v.b bytes.off = sigNB10 then cvTail v bytes 16 .cv20
        else if le32 v.b bytes.off = sigRSDS then
          if bytes.len < 24 then .err .bounds else cvTail v bytes 24 .cv70
        else .err .badMagic := by
  unfold codeView
  cases hd : dirData v d with
  | none => rfl
  | some bytes =>
    obtain ⟨hin, _⟩ := dirData_sound hd
    simp only
    by_cases h16 : bytes.len < 16
    · simp only [if_pos h16]
    by_cases hm : (v.img.base + bytes.off) % 4 ≠ 0
    · simp only [if_neg h16, if_pos hm]
    have hm' : (v.img.base + bytes.off) % 4 = 0 := by omega
    have tail : ∀ k site (mk : Ref → Ref → CodeView), k ≤ bytes.len →
        (cstrTail v bytes k site >>= fun name => Out.ok (mk ⟨bytes.off, k, 4⟩ name)) = cvTail v bytes k mk := by
      intro k site mk hk
      unfold cstrTail cvTail
      rw [if_neg (by omega)]
      cases cstrFromBytes v.b (bytes.off + k) (bytes.len - k) <;> rfl
    simp only [if_neg h16, if_neg hm, rawRef_eq_ok (show bytes.off + 4 ≤ v.img.bytes.size by omega) (Nat.mod_one _),
      rawRef_eq_ok (show bytes.off + 16 ≤ v.img.bytes.size by omega) hm', Out.bind_ok]
    by_cases hnb : le32 v.b bytes.off = sigNB10
    · simp only [if_pos hnb]
      exact tail 16 _ .cv20 (by omega)
    by_cases hrs : le32 v.b bytes.off = sigRSDS
    · simp only [if_neg hnb, if_pos hrs]
      by_cases h24 : bytes.len < 24
      · simp only [if_pos h24]
      simp only [if_neg h24, rawRef_eq_ok (show bytes.off + 24 ≤ v.img.bytes.size by omega) hm', Out.bind_ok]
      exact tail 24 _ .cv70 (by omega)
    · simp only [if_neg hnb, if_neg hrs]

theorem codeView_sound {v : View} {d : Nat} {cv : CodeView} (h : codeView v d = .ok cv) :
    ∃ data, dirData v d = some data ∧ (v.img.base + data.off) % 4 = 0 ∧
      ((∃ n, cv = .cv20 ⟨data.off, 16, 4⟩ ⟨data.off + 16, n + 1, 1⟩ ∧ le32 v.b data.off = sigNB10 ∧ 16 ≤ data.len ∧
          Spec.IsCStr v.b (data.off + 16) (data.len - 16) n) ∨
       (∃ n, cv = .cv70 ⟨data.off, 24, 4⟩ ⟨data.off + 24, n + 1, 1⟩ ∧ le32 v.b data.off = sigRSDS ∧ 24 ≤ data.len ∧
          Spec.IsCStr v.b (data.off + 24) (data.len - 24) n)) := by
  rw [codeView_eq] at h
  cases hd : dirData v d with
  | none => rw [hd] at h; cases h
  | some bytes =>
    rw [hd] at h
    simp only at h
    refine ⟨bytes, rfl, ?_⟩
    split at h; · cases h
    split at h; · cases h
    rename_i h16 hm
    refine ⟨by omega, ?_⟩
    split at h
    · rename_i hnb
      obtain ⟨n, rfl, hn⟩ := cvTail_eq_ok.1 h
      exact .inl ⟨n, rfl, hnb, by omega, hn⟩
    split at h
    · rename_i hrs
      split at h; · cases h
      obtain ⟨n, rfl, hn⟩ := cvTail_eq_ok.1 h
      exact .inr ⟨n, rfl, hrs, by omega, hn⟩
    · cases h

theorem codeView_safe (v : View) (d : Nat) :
    OkOrErr (codeView v d) ∧ ∀ cv, codeView v d = .ok cv → Spec.cvRefsOK v.img cv := by
  constructor
  · have tail : ∀ bytes k mk, OkOrErr (cvTail v bytes k mk) := fun bytes k mk => by
      unfold cvTail
      cases cstrFromBytes v.b (bytes.off + k) (bytes.len - k)
      · exact okOrErr_err _
      · exact okOrErr_ok _
    rw [codeView_eq]
    repeat' split
    all_goals first | exact okOrErr_err _ | exact tail ..
  · intro cv h
    obtain ⟨data, hd, hal, hc⟩ := codeView_sound h
    obtain ⟨hin, _⟩ := dirData_sound hd
    rcases hc with ⟨n, rfl, _, h16, hn, _⟩ | ⟨n, rfl, _, h24, hn, _⟩ <;>
      exact ⟨⟨by simp only; omega, hal⟩, ⟨by simp only; omega, Nat.mod_one _⟩⟩

/-- the shape shared by `dbg` and `pgo` -/
def castEntry (v : View) (d min : Nat) (size : Ref → Nat) (site : String) : Out Ref :=
  match dirData v d with
  | none => .err .bounds
  | some data =>
    if data.len < min then .err .bounds
    else if (v.img.base + data.off) % 4 ≠ 0 then .err .misaligned
    else rawRef site v.img data.off (size data) 4

theorem dbgEntry_eq (v : View) (d : Nat) : dbgEntry v d = castEntry v d 12 (fun _ => 12) "dbg:IMAGE_DEBUG_MISC" := rfl
theorem pgoEntry_eq (v : View) (d : Nat) :
    pgoEntry v d = castEntry v d 4 (fun data => 4 * (data.len / 4)) "pgo:from_raw_parts" := rfl

theorem castEntry_bind (v : View) (d min : Nat) (size : Ref → Nat) (site : String) :
    castEntry v d min size site = (Out.ofOption .bounds (dirData v d)).bind fun data =>
      if data.len < min then .err .bounds
      else if (v.img.base + data.off) % 4 ≠ 0 then .err .misaligned
      else rawRef site v.img data.off (size data) 4 := by
  unfold castEntry; cases dirData v d <;> rfl

theorem castEntry_eq {v : View} {d min : Nat} {size : Ref → Nat} {site : String}
    (hs : ∀ data : Ref, min ≤ data.len → size data ≤ data.len) :
    castEntry v d min size site =
      match dirData v d with
      | none => .err .bounds
      | some data =>
        if data.len < min then .err .bounds
        else if (v.img.base + data.off) % 4 ≠ 0 then .err .misaligned
        else .ok ⟨data.off, size data, 4⟩ := by
  unfold castEntry
  cases hd : dirData v d with
  | none => rfl
  | some data =>
    simp only
    split; · rfl
    split; · rfl
    have := hs data (by omega)
    have := (dirData_sound hd).1
    exact rawRef_eq_ok (by omega) (by omega)

theorem castEntry_ok_iff {v : View} {d min : Nat} {size : Ref → Nat} {site : String}
    (hs : ∀ data : Ref, min ≤ data.len → size data ≤ data.len) (r : Ref) :
    castEntry v d min size site = .ok r ↔
      ∃ data, dirData v d = some data ∧ min ≤ data.len ∧ (v.img.base + data.off) % 4 = 0 ∧
        r = ⟨data.off, size data, 4⟩ := by
  rw [castEntry_eq hs]
  cases hd : dirData v d with
  | none => exact ⟨nofun, fun ⟨_, h, _⟩ => by cases h⟩
  | some data =>
    simp only [ite_err_eq_ok]
    constructor
    · rintro ⟨h1, h2, h3⟩
      cases h3
      exact ⟨data, rfl, by omega, by omega, rfl⟩
    · rintro ⟨_, h, h1, h2, rfl⟩
      cases h
      exact ⟨by omega, by omega, rfl⟩

theorem castEntry_errors (v : View) (d min : Nat) (size : Ref → Nat) (site : String) :
    (dirData v d = none → castEntry v d min size site = .err .bounds) ∧
    (∀ data, dirData v d = some data → data.len < min → castEntry v d min size site = .err .bounds) ∧
    (∀ data, dirData v d = some data → min ≤ data.len → (v.img.base + data.off) % 4 ≠ 0 →
      castEntry v d min size site = .err .misaligned) := by
  unfold castEntry
  refine ⟨fun h => by rw [h], fun data h hl => by rw [h]; simp only; rw [if_pos hl], fun data h hl hm => ?_⟩
  rw [h]; simp only; rw [if_neg (by omega), if_pos hm]

theorem castEntry_safe {v : View} {d min : Nat} {size : Ref → Nat} {site : String}
    (hs : ∀ data : Ref, min ≤ data.len → size data ≤ data.len) :
    OkOrErr (castEntry v d min size site) ∧ ∀ r, castEntry v d min size site = .ok r → RefOK v.img r := by
  constructor
  · rw [castEntry_eq hs]
    repeat' split
    all_goals first | exact okOrErr_err _ | exact okOrErr_ok _
  · intro r hr
    obtain ⟨data, hd, hmin, hal, rfl⟩ := (castEntry_ok_iff hs r).1 hr
    have := hs data hmin
    exact ⟨by simp only; have := (dirData_sound hd).1; omega, hal⟩

theorem dbgEntry_safe (v : View) (d : Nat) : OkOrErr (dbgEntry v d) ∧ ∀ r, dbgEntry v d = .ok r → RefOK v.img r :=
  castEntry_safe fun _ h => h

theorem pgoEntry_safe (v : View) (d : Nat) : OkOrErr (pgoEntry v d) ∧ ∀ r, pgoEntry v d = .ok r → RefOK v.img r :=
  castEntry_safe fun _ _ => by omega

theorem wrapEntry_eq_bind {α : Type} (f : α → Entry) (o : Out α) :
    (o >>= fun a => Out.ok (f a)) = Spec.wrapEntry f o := by
  cases o <;> rfl

theorem wrapEntry_safe {α : Type} {img : Img} {x : Out α} {f : α → Entry}
    (h : OkOrErr x ∧ ∀ a, x = .ok a → Spec.entryRefsOK img (f a)) :
    OkOrErr (x >>= fun a => Out.ok (f a)) ∧
    ∀ e, (x >>= fun a => Out.ok (f a)) = .ok e → Spec.entryRefsOK img e := by
  obtain ⟨t1, t2⟩ := h
  rcases t1 with ⟨a, ha⟩ | ⟨e, he⟩
  · rw [ha]; exact ⟨okOrErr_ok _, fun e he => by cases he; exact t2 a ha⟩
  · rw [he]; exact ⟨okOrErr_err _, fun _ h => by cases h⟩

theorem dirEntry_safe (v : View) (d : Nat) :
    OkOrErr (dirEntry v d) ∧ ∀ e, dirEntry v d = .ok e → Spec.entryRefsOK v.img e := by
  unfold dirEntry
  simp only
  split
  · exact wrapEntry_safe (codeView_safe v d)
  split
  · exact wrapEntry_safe (dbgEntry_safe v d)
  split
  · exact wrapEntry_safe (pgoEntry_safe v d)
  refine ⟨okOrErr_ok _, fun e he => ?_⟩
  cases he
  cases hd : dirData v d with
  | none => trivial
  | some r => exact ⟨(dirData_sound hd).1, by rw [(dirData_sound hd).2]; exact Nat.mod_one _⟩

/-! ### CodeView records against the documented layouts -/

theorem sig_nb10 {b : Bytes} {off : Nat} (h : Spec.hasSig b off 'N' 'B' '1' '0') : le32 b off = sigNB10 := by
  obtain ⟨h0, h1, h2, h3⟩ := h
  unfold le32 sigNB10
  rw [h0, h1, h2, h3]
  decide

theorem sig_rsds {b : Bytes} {off : Nat} (h : Spec.hasSig b off 'R' 'S' 'D' 'S') : le32 b off = sigRSDS := by
  obtain ⟨h0, h1, h2, h3⟩ := h
  unfold le32 sigRSDS
  rw [h0, h1, h2, h3]
  decide

theorem codeView_of_nb10 (v : View) (d : Nat) (data : Ref) (hd : dirData v d = some data)
    (hal : (v.img.base + data.off) % 4 = 0) (n : Nat) (h : Spec.IsNB10 v.b data.off data.len n) :
    codeView v d = .ok (.cv20 ⟨data.off, 16, 4⟩ ⟨data.off + 16, n + 1, 1⟩) := by
  have hfit := h.fits
  rw [codeView_eq, hd]
  simp only
  rw [if_neg (by omega), if_neg (by omega), if_pos (sig_nb10 h.sig)]
  exact cvTail_eq_ok.2 ⟨n, rfl, h.path⟩

theorem codeView_of_rsds (v : View) (d : Nat) (data : Ref) (hd : dirData v d = some data)
    (hal : (v.img.base + data.off) % 4 = 0) (n : Nat) (h : Spec.IsRSDS v.b data.off data.len n) :
    codeView v d = .ok (.cv70 ⟨data.off, 24, 4⟩ ⟨data.off + 24, n + 1, 1⟩) := by
  have hfit := h.fits
  have hs := sig_rsds h.sig
  rw [codeView_eq, hd]
  simp only
  rw [if_neg (by omega), if_neg (by omega), if_neg (by rw [hs]; decide), if_pos hs, if_neg (by omega)]
  exact cvTail_eq_ok.2 ⟨n, rfl, h.path⟩

/-! ### pdb_file_name -/

theorem pdbFileNameFrom_some (v : View) (t : Ref) :
    ∀ (fuel i : Nat) (r : Ref), pdbFileNameFrom v t fuel i = some r →
      ∃ j cv, i ≤ j ∧ j < i + fuel ∧ dirEntry v (debugEntryOff t j) = .ok (.codeView cv) ∧ r = cv.name ∧
        ∀ j', i ≤ j' → j' < j → ∀ cv', dirEntry v (debugEntryOff t j') ≠ .ok (.codeView cv') := by
  intro fuel
  induction fuel with
  | zero => intro i r h; cases h
  | succ fuel ih =>
    intro i r h
    rw [pdbFileNameFrom] at h
    split at h
    · rename_i cv hcv
      cases h
      exact ⟨i, cv, Nat.le_refl _, by omega, hcv, rfl, fun j' h1 h2 => by omega⟩
    · rename_i hne
      obtain ⟨j, cv, h1, h2, h3, h4, h5⟩ := ih (i + 1) r h
      refine ⟨j, cv, by omega, by omega, h3, h4, ?_⟩
      intro j' g1 g2 cv' hcv'
      by_cases hj : j' = i
      · subst hj; exact hne cv' hcv'
      · exact h5 j' (by omega) g2 cv' hcv'

theorem pdbFileName_of_first {v : View} {t : Ref} {cv : CodeView} (h0 : 0 < debugCount t)
    (h : dirEntry v (debugEntryOff t 0) = .ok (.codeView cv)) : pdbFileName v t = some cv.name := by
  obtain ⟨n, hn⟩ : ∃ n, debugCount t = n + 1 := ⟨debugCount t - 1, by omega⟩
  rw [pdbFileName, hn, pdbFileNameFrom, h]

/-! ### POGO iterator -/

/-- one call of `next` as a pure step on the window: `&self.image[2 + len + 1..]` is in range because the name, NUL
included, lies inside the words after the first two -/
def pgoStep (b : Bytes) (st : Nat × Nat) : Option PgoItem × (Nat × Nat) :=
  if st.2 ≥ 3 then
    match cstrFromBytes b (st.1 + 8) (4 * (st.2 - 2)) with
    | none => (none, st)
    | some name => (some ⟨le32 b st.1, le32 b (st.1 + 4), name⟩,
        (st.1 + 4 * (2 + (name.len - 1) / 4 + 1), st.2 - (2 + (name.len - 1) / 4 + 1)))
  else (none, st)

theorem pgoNext_eq (b : Bytes) (st : Nat × Nat) : pgoNext b st = .ok (pgoStep b st) := by
  unfold pgoNext pgoStep
  simp only
  split
  · cases hc : cstrFromBytes b (st.1 + 8) (4 * (st.2 - 2)) with
    | none => rfl
    | some name =>
      obtain ⟨_, _, g3, _⟩ := cstrFromBytes_some hc
      simp only
      rw [if_neg (by omega)]
  · rfl

theorem pgoStep_spec (b : Bytes) (st : Nat × Nat) :
    ((pgoStep b st).1 = none → (pgoStep b st).2 = st) ∧
    ∀ it, (pgoStep b st).1 = some it →
      (pgoStep b st).2.2 + 3 ≤ st.2 ∧ (pgoStep b st).2.1 + 4 * (pgoStep b st).2.2 = st.1 + 4 * st.2 ∧
      st.1 + 8 ≤ it.name.off ∧ it.name.off + it.name.len ≤ (pgoStep b st).2.1 ∧ it.name.align = 1 := by
  unfold pgoStep
  split
  · cases hc : cstrFromBytes b (st.1 + 8) (4 * (st.2 - 2)) with
    | none => exact ⟨fun _ => rfl, nofun⟩
    | some name =>
      obtain ⟨g1, g2, g3, g4, _⟩ := cstrFromBytes_some hc
      refine ⟨nofun, fun it h => ?_⟩
      cases h
      simp only
      omega
  · exact ⟨fun _ => rfl, nofun⟩

def pgoList (b : Bytes) (st : Nat × Nat) : List PgoItem :=
  match _ : (pgoStep b st).1 with
  | none => []
  | some it => it :: pgoList b (pgoStep b st).2
termination_by st.2
decreasing_by have := ((pgoStep_spec b st).2 it ‹_›).1; omega

theorem pgoList_unfold (b : Bytes) (st : Nat × Nat) :
    pgoList b st = match (pgoStep b st).1 with
      | none => []
      | some it => it :: pgoList b (pgoStep b st).2 := by
  rw [pgoList]
  split <;> rename_i h <;> rw [h]

theorem pgoLoop_eq (b : Bytes) : ∀ (fuel off n : Nat), n < fuel → pgoLoop b fuel off n = .ok (pgoList b (off, n))
  | 0, _, _, h => by omega
  | fuel + 1, off, n, h => by
    rw [pgoLoop, pgoNext_eq, pgoList_unfold]
    simp only [Out.bind_ok]
    cases hs : (pgoStep b (off, n)).1 with
    | none => rfl
    | some it =>
      have := ((pgoStep_spec b (off, n)).2 it hs).1
      simp only at this ⊢
      rw [pgoLoop_eq b fuel _ _ (by omega)]
      rfl

theorem pgoItemsFrom_eq (b : Bytes) (st : Nat × Nat) : pgoItemsFrom b st = .ok (pgoList b st) :=
  pgoLoop_eq b _ _ _ (Nat.lt_succ_self _)

theorem pgoStep_head (b : Bytes) (st : Nat × Nat) :
    (pgoStep b st).1 = (pgoList b st).head? ∧ pgoList b (pgoStep b st).2 = (pgoList b st).tail := by
  have e := pgoList_unfold b st
  cases h : (pgoStep b st).1 with
  | none =>
    rw [h] at e
    rw [((pgoStep_spec b st).1 h), e]
    exact ⟨rfl, rfl⟩
  | some it =>
    rw [h] at e
    rw [e]
    exact ⟨rfl, rfl⟩

theorem pgoNext_none {b : Bytes} {st st' : Nat × Nat} (h : pgoNext b st = .ok (none, st')) :
    st' = st ∧ pgoList b st = [] := by
  rw [pgoNext_eq] at h
  have e := Out.ok.inj h
  have h1 : (pgoStep b st).1 = none := by rw [e]
  exact ⟨by rw [← (pgoStep_spec b st).1 h1, e], List.head?_eq_none_iff.1 ((pgoStep_head b st).1.symm.trans h1)⟩

theorem pgoList_bounds (b : Bytes) (st : Nat × Nat) :
    3 * (pgoList b st).length ≤ st.2 ∧
    ∀ it ∈ pgoList b st, st.1 + 8 ≤ it.name.off ∧ it.name.off + it.name.len ≤ st.1 + 4 * st.2 ∧ it.name.align = 1 := by
  fun_induction pgoList b st with
  | case1 st h => exact ⟨by simp, nofun⟩
  | case2 st it h ih =>
    obtain ⟨h1, h2, h3, h4, h5⟩ := (pgoStep_spec b st).2 it h
    obtain ⟨g1, g2⟩ := ih
    refine ⟨by simp only [List.length_cons]; omega, fun x hx => ?_⟩
    rcases List.mem_cons.1 hx with rfl | hx
    · omega
    · have := g2 x hx; omega

theorem pgoNth_eq (b : Bytes) : ∀ (k : Nat) (st : Nat × Nat),
    ∃ st', pgoNth b k st = .ok ((pgoList b st)[k]?, st') ∧ pgoList b st' = (pgoList b st).drop (k + 1)
  | 0, st => ⟨(pgoStep b st).2, by rw [pgoNth, pgoNext_eq, ← List.head?_eq_getElem?, ← (pgoStep_head b st).1],
      by rw [(pgoStep_head b st).2, List.drop_one]⟩
  | k + 1, st => by
    obtain ⟨hh, ht⟩ := pgoStep_head b st
    rw [pgoNth, pgoNext_eq]
    simp only [Out.bind_ok]
    cases hl : pgoList b st with
    | nil =>
      rw [hl] at hh ht
      rw [hh]
      exact ⟨_, rfl, by simpa using ht⟩
    | cons x xs =>
      rw [hl] at hh ht
      rw [hh]
      obtain ⟨st', h1, h2⟩ := pgoNth_eq b k (pgoStep b st).2
      rw [ht] at h1 h2
      exact ⟨st', by simpa using h1, by simpa using h2⟩

theorem pgoCountLoop_eq (b : Bytes) : ∀ (fuel : Nat) (st : Nat × Nat) (acc : Nat), (pgoList b st).length < fuel →
    pgoCountLoop b fuel st acc = .ok (acc + (pgoList b st).length)
  | 0, _, _, h => by omega
  | fuel + 1, st, acc, h => by
    obtain ⟨hh, ht⟩ := pgoStep_head b st
    rw [pgoCountLoop, pgoNext_eq]
    simp only [Out.bind_ok]
    cases hl : pgoList b st with
    | nil => rw [hl] at hh; rw [hh]; rfl
    | cons x xs =>
      rw [hl] at hh ht h
      rw [hh]
      simp only [List.head?_cons]
      rw [pgoCountLoop_eq b fuel _ _ (by rw [ht]; simpa using h), ht, List.length_cons, List.tail_cons,
        Nat.add_assoc, Nat.add_comm 1]

theorem pgoCount_eq (b : Bytes) (st : Nat × Nat) : pgoCount b st = .ok (pgoList b st).length := by
  rw [pgoCount, pgoCountLoop_eq b _ st 0 (by have := (pgoList_bounds b st).1; omega), Nat.zero_add]

theorem pogoLayout_le {b : Bytes} {off stop : Nat} {recs : List (Nat × Nat × Nat)}
    (h : Spec.PogoLayout b off recs stop) : off ≤ stop := by
  induction h with
  | nil off => exact Nat.le_refl _
  | cons off rva size n rest stop _ _ _ _ _ ih => omega

theorem pgoList_layout {b : Bytes} {off stop : Nat} {recs : List (Nat × Nat × Nat)}
    (h : Spec.PogoLayout b off recs stop) :
    ∀ n, stop ≤ off + 4 * n → off + 4 * n < stop + 12 → pgoList b (off, n) = Spec.pogoExpected off recs := by
  induction h with
  | nil off =>
    intro n h1 h2
    rw [pgoList_unfold, pgoStep, if_neg (by simp only; omega)]
    rfl
  | cons off rva size L rest stop h1 h2 h3 h4 hrest ih =>
    intro n g1 g2
    have hle := pogoLayout_le hrest
    have hc : cstrFromBytes b (off + 8) (4 * (n - 2)) = some ⟨off + 8, L + 1, 1⟩ :=
      cstrFromBytes_of_isCStr ⟨by omega, h3, h4⟩
    rw [pgoList_unfold, pgoStep, if_pos (by simp only; omega)]
    simp only [hc, Nat.add_sub_cancel]
    rw [show off + 4 * (2 + L / 4 + 1) = off + 8 + 4 * (L / 4 + 1) by omega, ih _ (by omega) (by omega), ← h1, ← h2]
    rfl

theorem pogoExpected_map : ∀ (recs : List (Nat × Nat × Nat)) (off : Nat),
    (Spec.pogoExpected off recs).map (fun it => (it.rva, it.size, it.name.len - 1)) = recs
  | [], _ => rfl
  | (rva, size, n) :: rest, off => by
    simp only [Spec.pogoExpected, List.map_cons, Nat.add_sub_cancel, pogoExpected_map rest]

/-! ### exception directory: function bytes and unwind info -/

theorem unwindInfo_eq (v : View) (t : Ref) (i : Nat) :
    unwindInfo v t i = (v.at (.rva (rfUnwind v.b t i)) 4 1).bind fun s =>
      if s.len < 4 + 2 * byteAt v.b (s.off + 2) then .err .bounds else .ok ⟨s.off, 4, 1⟩ := by
  unfold unwindInfo
  have e : v.slice (rfUnwind v.b t i) 4 1 = v.at (.rva (rfUnwind v.b t i)) 4 1 := rfl
  rw [e]
  cases h : v.at (.rva (rfUnwind v.b t i)) 4 1 with
  | ok s =>
    obtain ⟨⟨h1, _⟩, h2, _⟩ := View.at_sound v _ 4 1 s h
    simp only
    rw [rawRef_eq_ok (by omega) (Nat.mod_one _)]
    rfl
  | _ => rfl

theorem unwindInfo_ok_iff (v : View) (t : Ref) (i : Nat) (im : Ref) :
    unwindInfo v t i = .ok im ↔
      ∃ s, v.at (.rva (rfUnwind v.b t i)) 4 1 = .ok s ∧ im = ⟨s.off, 4, 1⟩ ∧
        4 + 2 * byteAt v.b (s.off + 2) ≤ s.len := by
  rw [unwindInfo_eq]
  constructor
  · intro h
    obtain ⟨s, hs, h⟩ := Out.bind_eq_ok h
    obtain ⟨hc, h⟩ := ite_err_eq_ok.1 h
    cases h
    exact ⟨s, hs, rfl, by omega⟩
  · rintro ⟨s, hs, rfl, hle⟩
    rw [hs]
    exact if_neg (by omega)

/-! ### TLS: the zero-terminated callback list -/

theorem vaListUntilZero_eq_find (b : Bytes) (ps : Nat) : ∀ (avail off : Nat),
    Spec.vaListUntilZero b off ps avail =
      ((List.range avail).find? fun j => leN b (off + j * ps) ps == 0).map fun n =>
        (List.range n).map fun j => leN b (off + j * ps) ps
  | 0, _ => rfl
  | avail + 1, off => by
    have e : ∀ j, off + ps + j * ps = off + (j + 1) * ps := fun j => by rw [Nat.succ_mul]; omega
    rw [Spec.vaListUntilZero, vaListUntilZero_eq_find b ps avail, List.range_succ_eq_map, List.find?_cons,
      Nat.zero_mul, Nat.add_zero, List.find?_map]
    by_cases h : leN b off ps = 0
    · simp [h]
    · simp only [h, if_false, beq_eq_false_iff_ne.2 h, Option.map_map, Function.comp_def, e, List.range_succ_eq_map,
        List.map_cons, List.map_map, Nat.zero_mul, Nat.add_zero]

theorem vaListUntilZero_eq_some {b : Bytes} {ps avail off : Nat} {l : List Nat} :
    Spec.vaListUntilZero b off ps avail = some l ↔
      l.length + 1 ≤ avail ∧ leN b (off + l.length * ps) ps = 0 ∧
      (∀ j, j < l.length → leN b (off + j * ps) ps ≠ 0) ∧
      l = (List.range l.length).map fun j => leN b (off + j * ps) ps := by
  rw [vaListUntilZero_eq_find, Option.map_eq_some_iff]
  constructor
  · rintro ⟨n, hn, rfl⟩
    obtain ⟨h1, h2, h3⟩ := List.find?_range_eq_some.1 hn
    simp only [List.length_map, List.length_range]
    exact ⟨List.mem_range.1 h2, by simpa using h1, fun j hj => by simpa using h3 j hj, trivial⟩
  · rintro ⟨h1, h2, h3, h4⟩
    exact ⟨l.length, List.find?_range_eq_some.2 ⟨by simpa using h2, List.mem_range.2 h1,
      fun j hj => by simpa using h3 j hj⟩, h4.symm⟩

theorem vaListUntilZero_none (b : Bytes) (ps : Nat) :
    ∀ (avail off : Nat), (∀ j, j < avail → leN b (off + j * ps) ps ≠ 0) →
      Spec.vaListUntilZero b off ps avail = none := by
  intro avail off h
  rw [vaListUntilZero_eq_find, List.find?_eq_none.2 fun j hj => by simpa using h j (List.mem_range.1 hj)]
  rfl

theorem tlsCallbacks_eq {v : View} {t s : Ref} (hat : v.at (.va (tlsCallBacks v t)) 0 v.fmt.ptrSize = .ok s) :
    tlsCallbacks v t =
      match Spec.vaListUntilZero v.b s.off v.fmt.ptrSize (s.len / v.fmt.ptrSize) with
      | some l => .ok ⟨s.off, l.length * v.fmt.ptrSize, v.fmt.ptrSize⟩
      | none => .err .bounds := by
  unfold tlsCallbacks
  rw [View.dervaSliceS_eq_I, dervaSliceFI_eq v _ _ _ (ptrSize_pos v.fmt), hat, vaListUntilZero_eq_find]
  cases h : List.find? _ _ <;> simp [Out.bind, Out.ofOption, h]
theorem tlsCallbacks_of_list {v : View} {t s : Ref} {l : List Nat}
    (hat : v.at (.va (tlsCallBacks v t)) 0 v.fmt.ptrSize = .ok s)
    (hl : Spec.vaListUntilZero v.b s.off v.fmt.ptrSize (s.len / v.fmt.ptrSize) = some l) :
    tlsCallbacks v t = .ok ⟨s.off, l.length * v.fmt.ptrSize, v.fmt.ptrSize⟩ := by
  rw [tlsCallbacks_eq hat, hl]

/-! ### security directory -/

/-- the `u32` sum cannot overflow a `u64`; of the two `debug_assert!`s of `Security::new` the length one holds by the
checks before it (`size % 8 = 0`, `size ≠ 0`), the alignment one by `va % 8 = 0` together with the hypothesis `hb` -/
theorem securityTryFrom_eq (v : View) (hb : v.img.base % 4 = 0) :
    securityTryFrom v =
      if v.kind ≠ .file then .err .unmapped
      else match v.dataDir 4 with
        | none => .err .null
        | some (va, size) =>
          if va = 0 then .err .null
          else if va % 8 ≠ 0 ∨ size % 8 ≠ 0 then .err .misaligned
          else if size = 0 then .err .bounds
          else if va + size ≤ v.b.size then .ok ⟨va, size, 1⟩ else .err .bounds := by
  unfold securityTryFrom
  by_cases hk : v.kind ≠ .file
  · rw [if_pos hk, if_pos hk]
  rw [if_neg hk, if_neg hk]
  cases hd : v.dataDir 4 with
  | none => rfl
  | some p =>
    obtain ⟨va, size⟩ := p
    obtain ⟨l1, l2⟩ := dataDir_lt hd
    simp only
    by_cases h0 : va = 0
    · rw [if_pos h0, if_pos h0]
    by_cases hm : va % 8 ≠ 0 ∨ size % 8 ≠ 0
    · rw [if_neg h0, if_neg h0, if_pos hm, if_pos hm]
    by_cases hz : size = 0
    · rw [if_neg h0, if_neg h0, if_neg hm, if_neg hm, if_pos hz, if_pos hz]
    rw [if_neg h0, if_neg h0, if_neg hm, if_neg hm, if_neg hz, if_neg hz]
    unfold cadd64
    rw [if_pos (by omega)]
    simp only
    by_cases hin : va + size ≤ v.b.size
    · rw [if_pos ⟨by omega, hin⟩, if_neg (by omega), if_neg (by omega), Nat.add_sub_cancel_left, if_pos hin]
    · rw [if_neg (fun h => hin h.2), if_neg hin]

theorem securityTryFrom_ok_iff (v : View) (hb : v.img.base % 4 = 0) (r : Ref) :
    securityTryFrom v = .ok r ↔
      v.kind = .file ∧ ∃ va size, v.dataDir 4 = some (va, size) ∧ Spec.CertWellFormed v.b.size va size ∧
        r = ⟨va, size, 1⟩ := by
  rw [securityTryFrom_eq v hb, ite_err_eq_ok]
  unfold Spec.CertWellFormed
  cases hd : v.dataDir 4 with
  | none => exact ⟨fun h => (by cases h.2), fun ⟨_, _, _, h, _⟩ => by cases h⟩
  | some p =>
    obtain ⟨va, size⟩ := p
    simp only [ite_err_eq_ok]
    constructor
    · rintro ⟨hk, h0, hm, hz, h⟩
      split at h <;> cases h
      exact ⟨Decidable.of_not_not hk, va, size, rfl, by omega, rfl⟩
    · rintro ⟨hk, _, _, h, hw, rfl⟩
      cases h
      exact ⟨fun h => h hk, by omega, by omega, by omega, if_pos (by omega)⟩

theorem securityTryFrom_okOrErr (v : View) (hb : v.img.base % 4 = 0) : OkOrErr (securityTryFrom v) := by
  rw [securityTryFrom_eq v hb]
  repeat' split
  all_goals first | exact okOrErr_ok _ | exact okOrErr_err _

/-! ### the specification's layout predicates as decidable conjunctions -/

theorem isNB10_iff {b : Bytes} {off len n : Nat} :
    Spec.IsNB10 b off len n ↔ Spec.hasSig b off 'N' 'B' '1' '0' ∧ 16 ≤ len ∧
      n + 1 ≤ len - 16 ∧ byteAt b (off + 16 + n) = 0 ∧ ∀ j, j < n → byteAt b (off + 16 + j) ≠ 0 :=
  ⟨fun h => ⟨h.sig, h.fits, h.path⟩, fun ⟨h1, h2, h3⟩ => ⟨h1, h2, h3⟩⟩

theorem isRSDS_iff {b : Bytes} {off len n : Nat} :
    Spec.IsRSDS b off len n ↔ Spec.hasSig b off 'R' 'S' 'D' 'S' ∧ 24 ≤ len ∧
      n + 1 ≤ len - 24 ∧ byteAt b (off + 24 + n) = 0 ∧ ∀ j, j < n → byteAt b (off + 24 + j) ≠ 0 :=
  ⟨fun h => ⟨h.sig, h.fits, h.path⟩, fun ⟨h1, h2, h3⟩ => ⟨h1, h2, h3⟩⟩

/-- `PogoLayout`, record by record, as a conjunction of decidable facts -/
def pogoLayoutAt (b : Bytes) (stop : Nat) : Nat → List (Nat × Nat × Nat) → Prop
  | off, [] => off = stop
  | off, (rva, size, n) :: rest =>
    le32 b off = rva ∧ le32 b (off + 4) = size ∧ byteAt b (off + 8 + n) = 0 ∧
    (∀ j, j < n → byteAt b (off + 8 + j) ≠ 0) ∧ pogoLayoutAt b stop (off + 8 + 4 * (n / 4 + 1)) rest

theorem pogoLayout_of_at {b : Bytes} {stop : Nat} : ∀ {recs : List (Nat × Nat × Nat)} {off : Nat},
    pogoLayoutAt b stop off recs → Spec.PogoLayout b off recs stop
  | [], _, h => h ▸ .nil _
  | (_, _, _) :: _, _, ⟨h1, h2, h3, h4, h5⟩ => .cons _ _ _ _ _ _ h1 h2 h3 h4 (pogoLayout_of_at h5)

end Pelite.Dirs
