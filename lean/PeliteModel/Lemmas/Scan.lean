import PeliteModel.Lemmas.ScanPlan
/-!
Above one call of `next` (`Lemmas/ScanPlan.lean`): repeated `next` (`scanAll`), the interpreter behind `next`,
`finds`, the reference list, and the states a `Matches` object can reach (`Reach`).
-/
namespace Pelite.Scan
open Pelite.Pattern Pelite.Exec

/-! ### repeated `next` -/

theorem IsCand_mono {v : Pe.View} {ql lo lo' hi p : Nat} (h : IsCand v ql lo hi p) (hlo : lo' ≤ p) :
    IsCand v ql lo' hi p := by
  unfold IsCand at h ⊢
  split at h
  · obtain ⟨_, h2⟩ := h; exact ⟨hlo, h2⟩
  · obtain ⟨s, hs, _, h2⟩ := h; exact ⟨s, hs, hlo, h2⟩

theorem IsCand_lo {v : Pe.View} {ql lo hi p : Nat} (h : IsCand v ql lo hi p) : lo ≤ p := by
  unfold IsCand at h
  split at h
  · exact h.1
  · obtain ⟨s, _, h1, _⟩ := h; exact h1

theorem scanAll_succ_ok {nx : MSt → Array Nat → Out Res} {n : Nat} {m : MSt} {save : Array Nat} {a : All}
    (h : scanAll nx (n + 1) m save = .ok a) :
    ∃ r, nx m save = .ok r ∧
      ((r.found = false ∧ a = ⟨[], r.m, r.save, true⟩) ∨
       (r.found = true ∧ ∃ a', scanAll nx n r.m r.save = .ok a' ∧ a = { a' with hits := (r.pos, r.save) :: a'.hits })) := by
  simp only [scanAll] at h
  obtain ⟨r, hr, h⟩ := Out.bind_eq_ok h
  refine ⟨r, hr, ?_⟩
  cases hf : r.found with
  | false => rw [hf, if_neg (by simp)] at h; cases h; exact .inl ⟨rfl, rfl⟩
  | true =>
    rw [hf, if_pos rfl] at h
    obtain ⟨a', ha', h⟩ := Out.bind_eq_ok h
    cases h
    exact .inr ⟨rfl, a', ha', rfl⟩

theorem scanAll_sound {ex : Interp} {nx : MSt → Array Nat → Out Res} (hi : Nat)
    (hnx : ∀ m save, ∃ r, nx m save = .ok r ∧ NextSound ex m r) :
    ∀ n (m : MSt) save, m.stop = hi →
      ∃ a, scanAll nx n m save = .ok a ∧ a.m.stop = hi ∧
        (∀ h ∈ a.hits, m.start ≤ h.1 ∧ h.1 < hi ∧ Acc ex h.1 h.2) ∧
        (a.hits.map (·.1)).Pairwise (· < ·) ∧
        (hi - m.start < n → a.exhausted = true) := by
  intro n
  induction n with
  | zero =>
    intro m save hm
    exact ⟨_, rfl, hm, (fun h hh => by cases hh), List.Pairwise.nil, fun h => by omega⟩
  | succ n ih =>
    intro m save hm
    obtain ⟨r, hr, hs⟩ := hnx m save
    simp only [scanAll, hr, bind_ok']
    cases hf : r.found with
    | false =>
      rw [if_neg (by simp)]
      exact ⟨_, rfl, by rw [hs.stop_eq, hm], (fun h hh => by cases hh), List.Pairwise.nil, fun _ => rfl⟩
    | true =>
      rw [if_pos rfl]
      obtain ⟨a1, a2, a3, a4, a5⟩ := hs.found hf
      obtain ⟨a, ha, hb1, hb2, hb3, hb4⟩ := ih r.m r.save (by rw [hs.stop_eq, hm])
      rw [ha]
      simp only [bind_ok']
      refine ⟨_, rfl, hb1, ?_, ?_, ?_⟩
      · intro h hh
        rcases List.mem_cons.1 hh with rfl | hh
        · exact ⟨a1, by omega, a5⟩
        · obtain ⟨c1, c2, c3⟩ := hb2 h hh
          exact ⟨by omega, c2, c3⟩
      · simp only [List.map_cons, List.pairwise_cons]
        refine ⟨?_, hb3⟩
        intro x hx
        obtain ⟨h, hh, rfl⟩ := List.mem_map.1 hx
        have := (hb2 h hh).1
        omega
      · intro hn
        apply hb4
        omega

theorem scanAll_complete {ex : Interp} {v : Pe.View} {qs : List Nat} {nx : MSt → Array Nat → Out Res} (hi : Nat)
    (hnx : ∀ m save, ∃ r, nx m save = .ok r ∧ NextOK ex v qs m r) :
    ∀ n (m : MSt) save a, m.stop = hi → scanAll nx n m save = .ok a → a.exhausted = true →
      ∀ p, IsCand v qs.length m.start hi p → ¬ deadV ex v qs p → p ∈ a.hits.map (·.1) := by
  intro n
  induction n with
  | zero =>
    intro m save a _ ha hex
    simp only [scanAll, Out.ok.injEq] at ha
    subst ha
    cases hex
  | succ n ih =>
    intro m save a hm ha hex p hc hnd
    obtain ⟨r, hr, ⟨hf, rfl⟩ | ⟨hf, a', ha', rfl⟩⟩ := scanAll_succ_ok ha
    all_goals
      obtain ⟨r', hr', hs⟩ := hnx m save
      rw [hr] at hr'; cases hr'
      rw [← hm] at hc
    · exact absurd (hs.notfound hf p hc) hnd
    · simp only [List.map_cons, List.mem_cons]
      by_cases hpe : p = r.pos
      · exact .inl hpe
      · right
        by_cases hlt : p < r.m.start
        · exact absurd (hs.skipped hf p hc hlt hpe) hnd
        · apply ih r.m r.save a' (by rw [hs.stop_eq, hm]) ha' hex p _ hnd
          rw [← hm]
          exact IsCand_mono hc (by omega)

/-! ### the interpreter behind `next` -/

theorem setupGo_lt (pat : List Atom) (hok : pat.all Atom.ok = true) : ∀ room, ∀ q ∈ setupGo pat room, q < 256 := by
  induction pat with
  | nil => intro room q hq; simp [setupGo] at hq
  | cons a rest ih =>
    intro room q hq
    have hrest : rest.all Atom.ok = true := by
      simp only [List.all_cons, Bool.and_eq_true] at hok; exact hok.2
    have ha : Atom.ok a = true := by
      simp only [List.all_cons, Bool.and_eq_true] at hok; exact hok.1
    cases a <;> simp only [setupGo] at hq <;> try (first | exact ih hrest _ q hq | (simp at hq; done))
    next b =>
      split at hq
      · simp at hq
      · rcases List.mem_cons.1 hq with rfl | hq
        · simpa [Atom.ok] using ha
        · exact ih hrest _ q hq

theorem setup_lt (pat : List Atom) (hok : pat.all Atom.ok = true) : ∀ q ∈ setup pat, q < 256 :=
  setupGo_lt pat hok _

theorem interp_total (v : Pe.View) (hsz : v.b.size < 4294967296) (pat : List Atom) : (interp v pat).Total :=
  fun c s => run_total (ofView_wf v hsz) pat c s

theorem execOK_of_run {v : Pe.View} {pat : List Atom} (hnr : pat.all noRead = true) {p : Nat} {s s' : Array Nat} {b : Bool}
    (h : interp v pat p s = .ok (b, s')) : execOK v pat p = b := by
  obtain ⟨t, ht⟩ := run_save_indep (ofView v) pat hnr p s #[] s' b h
  unfold execOK
  rw [ht]
  cases b <;> rfl

theorem interp_indep (v : Pe.View) (hsz : v.b.size < 4294967296) (pat : List Atom)
    (hnr : pat.all noRead = true) : (interp v pat).Indep := by
  intro c s1 s2
  obtain ⟨b, t1, h1⟩ := interp_total v hsz pat c s1
  obtain ⟨t2, h2⟩ := run_save_indep (ofView v) pat hnr c s1 s2 t1 b h1
  exact ⟨b, t1, t2, h1, h2⟩

open Pelite.Pe in
/-- the section-table hypothesis of C10 (sorted, disjoint) implies that of C11 (disjoint in any order) -/
theorem SecWF.secsDisjoint : ∀ {secs : List Sec}, SecWF secs → PatSem.SecsDisjoint secs
  | [], _ => fun _ hs => by cases hs
  | a :: rest, h => by
    have ih := h.tail.secsDisjoint
    have hle := h.head_le
    have hnw := fun t ht => (h.1 t ht).1
    have ha := hnw a (List.mem_cons_self ..)
    intro s hs t ht x hsx htx
    rw [containsRva_iff] at hsx htx
    unfold wadd32 at hsx htx
    rcases List.mem_cons.1 hs with rfl | hs' <;> rcases List.mem_cons.1 ht with rfl | ht'
    · rfl
    · have := hle t ht'; have := hnw t ht; omega
    · have := hle s hs'; have := hnw s hs; omega
    · exact ih s hs' t ht' x (by rw [containsRva_iff]; exact hsx) (by rw [containsRva_iff]; exact htx)

open Pelite.Pe in
theorem firstV_of_wf (secs : List Sec) (hwf : SecWF secs) (s : Sec) (hs : s ∈ secs) (rva : Nat) (h1 : s.va ≤ rva)
    (h2 : rva < s.va + max s.vs s.rs) : firstV secs rva = some s :=
  PatSem.firstV_unique hwf.secsDisjoint hs (by
    have := (hwf.1 s hs).1
    rw [containsRva_iff]; unfold wadd32; omega)

open Pelite.Pe in
theorem prefix_in_store {v : Pe.View} (hsz : v.b.size < 4294967296) {pat : List Atom}
    (hok : pat.all Atom.ok = true) (hwf : v.kind = .file → SecWF v.secs) {p : Nat} {s s' : Array Nat}
    (h : interp v pat p s = .ok (true, s')) : ¬ PrefixAbsent v (setup pat) p := by
  have hpre := run_prefix (ofView_wf v hsz) pat hok p s s' h
  intro hd
  unfold PrefixAbsent at hd
  cases hk : v.kind with
  | view =>
    rw [hk] at hd
    refine absurd ((winEq_true_iff ..).2 fun t b hb => ?_) (by rw [hd.2]; simp)
    obtain ⟨_, _, hx⟩ := ofView_read_view hk (hpre t b hb)
    exact hx.symm
  | file =>
    rw [hk] at hd
    obtain ⟨sec, hsec, ⟨i1, i2, i3⟩, hw⟩ := hd
    refine absurd ((winEq_true_iff ..).2 fun t b hb => ?_) (by rw [hw]; simp)
    have ht : t < (setup pat).length := by
      rcases Nat.lt_or_ge t (setup pat).length with h' | h'
      · exact h'
      · rw [List.getElem?_eq_none h'] at hb; cases hb
    obtain ⟨s0, o, l, hf, hro, hx⟩ := ofView_read_file hk (hpre t b hb)
    obtain ⟨w1, w2, w3⟩ := (hwf hk).1 sec hsec
    rw [firstV_of_wf v.secs (hwf hk) sec hsec (p + t) (by omega) (by omega)] at hf
    cases hf
    have hir : sec.InRange := ⟨by omega, by omega, by omega, w2⟩
    obtain ⟨_, _, _, _, ho, _⟩ := (rangeOne_ok_iff hir _ _ _ _ _).1 hro
    subst ho
    have hidx : sec.prd + (p + t - sec.va) = sec.prd + (p - sec.va) + t := by omega
    rw [hidx] at hx
    exact hx.symm

theorem deadV_not_execOK {v : Pe.View} {pat : List Atom} {lo hi p : Nat} (h : Hyp v pat lo hi)
    (hd : deadV (interp v pat) v (setup pat) p) : execOK v pat p = false := by
  obtain ⟨hok, hnr, hsz, _, _, hwf⟩ := h
  rcases deadV_iff.1 hd with ⟨s, s', hr⟩ | hd
  · exact execOK_of_run hnr hr
  · cases hb : execOK v pat p with
    | false => rfl
    | true =>
      obtain ⟨b, s', hr⟩ := interp_total v hsz pat p #[]
      have hb' := execOK_of_run hnr hr
      rw [hb] at hb'
      subst hb'
      exact absurd hd (prefix_in_store hsz hok hwf hr)

theorem next_sound (v : Pe.View) (hsz : v.b.size < 4294967296) (pat : List Atom) (m : MSt) (save : Array Nat) :
    ∃ r, next v pat m save = .ok r ∧ NextSound (interp v pat) m r :=
  nextWith_sound (interp_total v hsz pat) v (setup pat) m save

theorem nextWith_spec {ex : Interp} (hT : ex.Total) (v : Pe.View) (hsz : v.b.size < 4294967296)
    (qs : List Nat) (hwf : v.kind = .file → SecWF v.secs) (m : MSt) (save : Array Nat) :
    ∃ r, nextWith ex v qs m save = .ok r ∧ NextOK ex v qs m r := by
  obtain ⟨r, hr, hs⟩ := nextWith_sound hT v qs m save
  have D := nextWith_returns (Interp.keeps_true ex) v qs m save r hr
  exact ⟨r, hr, hs, fun h => (D.acc h).2, fun h p hc => (D.dead hsz hwf _ p hc (IsCand_lo hc)).1 h,
    fun h p hc => (D.dead hsz hwf _ p hc (IsCand_lo hc)).2 h⟩

theorem next_spec {v : Pe.View} {pat : List Atom} {lo hi : Nat} (h : Hyp v pat lo hi) (m : MSt) (save : Array Nat) :
    ∃ r, next v pat m save = .ok r ∧ NextOK (interp v pat) v (setup pat) m r :=
  nextWith_spec (interp_total v h.2.2.1 pat) v h.2.2.1 (setup pat) h.2.2.2.2.2 m save

theorem next_advance {v : Pe.View} {pat : List Atom} {m : MSt} {save : Array Nat} {r : Res}
    (h : next v pat m save = .ok r) : Advance m r :=
  (nextWith_returns (Interp.keeps_true _) v (setup pat) m save r h).adv

/-! ### `finds` -/

/-- `E` is an abstract success predicate that the interpreter decides (`hacc`, `hdead`); the premise of the last
conjunct says that no examined position outside the candidates executes successfully. -/
theorem findsWith_spec {ex : Interp} {v : Pe.View} {qs : List Nat} {nx : MSt → Array Nat → Out Res} (hi : Nat)
    (hnx : ∀ m save, ∃ r, nx m save = .ok r ∧ NextOK ex v qs m r)
    (E : Nat → Bool) (hacc : ∀ p s, Acc ex p s → E p = true) (hdead : ∀ p, deadV ex v qs p → E p = false)
    (m : MSt) (save : Array Nat) (hm : m.stop = hi) :
    ∃ b s, findsWith nx m save = .ok (b, s) ∧
      (b = true → ∃ c, Acc ex c s ∧ IsScanPos v m.start hi c ∧
        ∀ p, IsCand v qs.length m.start hi p → E p = true → p = c) ∧
      ((∀ c, IsScanPos v m.start hi c → E c = true → IsCand v qs.length m.start hi c) →
        (b = true ↔ ∃ c, ∀ p, (IsCand v qs.length m.start hi p ∧ E p = true) ↔ p = c)) := by
  obtain ⟨r1, hr1, hs1⟩ := hnx m save
  unfold findsWith
  simp only [hr1, bind_ok']
  cases hf1 : r1.found with
  | false =>
    refine ⟨false, r1.save, by simp, (fun h => by cases h), fun _ => ⟨(fun h => by cases h), ?_⟩⟩
    rintro ⟨c, hc⟩
    have hcc := (hc c).2 rfl
    have := hdead c (hs1.notfound hf1 c (by rw [hm]; exact hcc.1))
    rw [hcc.2] at this; cases this
  | true =>
    have hstop1 : r1.m.stop = hi := by rw [hs1.stop_eq, hm]
    obtain ⟨r2, hr2, hs2⟩ := hnx r1.m #[]
    simp only [hr2, bind_ok', Bool.not_true, Bool.false_eq_true, if_false]
    obtain ⟨a1, a2, a3, a4, a5⟩ := hs1.found hf1
    have hsp1 := hs1.scanpos hf1
    rw [hm] at hsp1
    have huniq : r2.found = false → ∀ p, IsCand v qs.length m.start hi p → E p = true → p = r1.pos := by
      intro hf2 p hc hE
      cases hpe : decide (p = r1.pos) with
      | true => exact of_decide_eq_true hpe
      | false =>
        have hpe := of_decide_eq_false hpe
        exfalso
        by_cases hlt : p < r1.m.start
        · have := hdead p (hs1.skipped hf1 p (by rw [hm]; exact hc) hlt hpe)
          rw [hE] at this; cases this
        · have := hdead p (hs2.notfound hf2 p (by rw [hstop1]; exact IsCand_mono hc (by omega)))
          rw [hE] at this; cases this
    refine ⟨!r2.found, r1.save, rfl, ?_, ?_⟩
    · intro hb
      exact ⟨r1.pos, a5, hsp1, huniq (by simpa using hb)⟩
    · intro hG
      constructor
      · intro hb
        refine ⟨r1.pos, fun p => ⟨fun ⟨hc, hE⟩ => huniq (by simpa using hb) p hc hE, ?_⟩⟩
        · rintro rfl
          exact ⟨hG _ hsp1 (hacc _ _ a5), hacc _ _ a5⟩
      · rintro ⟨c, hc⟩
        have h1c : r1.pos = c := (hc r1.pos).1 ⟨hG _ hsp1 (hacc _ _ a5), hacc _ _ a5⟩
        cases hf2 : r2.found with
        | false => rfl
        | true =>
          exfalso
          obtain ⟨b1, b2, b3, b4, b5⟩ := hs2.found hf2
          have hsp2 := hs2.scanpos hf2
          rw [hstop1] at hsp2
          have hsp2' : IsScanPos v m.start hi r2.pos := ⟨by omega, hsp2.2⟩
          have h2c : r2.pos = c := (hc r2.pos).1 ⟨hG _ hsp2' (hacc _ _ b5), hacc _ _ b5⟩
          omega

theorem finds_spec {v : Pe.View} {pat : List Atom} {lo hi : Nat} (h : Hyp v pat lo hi) (save : Array Nat) :
    ∃ b s, finds v pat lo hi save = .ok (b, s) ∧
      (b = true → ∃ c, Acc (interp v pat) c s ∧ IsScanPos v lo hi c ∧
        ∀ p, IsCand v (setup pat).length lo hi p → execOK v pat p = true → p = c) ∧
      ((∀ c, IsScanPos v lo hi c → execOK v pat c = true → IsCand v (setup pat).length lo hi c) →
        (b = true ↔ ∃ c, ∀ p, (IsCand v (setup pat).length lo hi p ∧ execOK v pat p = true) ↔ p = c)) :=
  findsWith_spec (nx := next v pat) hi (next_spec h) (execOK v pat) (fun _ _ ⟨_, hs0⟩ => execOK_of_run h.2.1 hs0)
    (fun _ hd => deadV_not_execOK h hd) (matchesInit lo hi) save rfl

/-! ### the executable reference -/

theorem mem_candidates (v : Pe.View) (m lo hi p : Nat) : p ∈ candidates v m lo hi ↔ IsCand v m lo hi p := by
  unfold candidates IsCand
  split
  · simp only [List.mem_filter, List.mem_range'_1, decide_eq_true_eq]
    omega
  · simp only [List.mem_flatMap, List.mem_filter, List.mem_range'_1, decide_eq_true_eq]
    constructor
    · rintro ⟨s, hs, _, hc⟩; exact ⟨s, hs, hc⟩
    · rintro ⟨s, hs, hc⟩
      refine ⟨s, hs, ?_, hc⟩
      obtain ⟨c1, c2, c3, c4, c5, c6, c7⟩ := hc
      omega

theorem candidates_sorted (v : Pe.View) (m lo hi : Nat) (hwf : v.kind = .file → SecWF v.secs) :
    (candidates v m lo hi).Pairwise (· < ·) := by
  unfold candidates
  split
  · exact List.Pairwise.filter _ List.pairwise_lt_range'
  · next hk =>
    rw [List.pairwise_flatMap]
    refine ⟨fun s _ => List.Pairwise.filter _ List.pairwise_lt_range', (hwf hk).2.imp fun hab x hx y hy => ?_⟩
    -- `x` lies in the stored and mapped part of its section, `y` not below the start of a later one
    obtain ⟨-, -, hx1, hx2, -⟩ := of_decide_eq_true (List.mem_filter.1 hx).2
    obtain ⟨-, -, hy1, -⟩ := of_decide_eq_true (List.mem_filter.1 hy).2
    omega

theorem mem_specMatches (v : Pe.View) (pat : List Atom) (lo hi p : Nat) :
    p ∈ specMatches v pat lo hi ↔ IsCand v (setup pat).length lo hi p ∧ execOK v pat p = true := by
  unfold specMatches
  rw [List.mem_filter, mem_candidates]

/-! ### `finds` and the scan loop

The second `next` of `finds` runs on `&mut save[..0]`, that of a scan loop on the caller's array: `hag`
(`nextWith_agree`, patterns without `Check` / `Pir`) relates the two. -/

theorem findsWith_iff_scanAll {nx : MSt → Array Nat → Out Res} (hnx : ∀ m save, ∃ r, nx m save = .ok r)
    (hag : ∀ m s1 s2 r1 r2, nx m s1 = .ok r1 → nx m s2 = .ok r2 → r1.Agree r2)
    (m : MSt) (save : Array Nat) (n : Nat) :
    ∃ b s, findsWith nx m save = .ok (b, s) ∧
      ∀ a, scanAll nx (n + 2) m save = .ok a →
        (b = true ↔ a.hits.length = 1) ∧ (b = true → ∃ c, a.hits = [(c, s)]) := by
  obtain ⟨r1, hr1⟩ := hnx m save
  unfold findsWith
  simp only [hr1, bind_ok', scanAll]
  cases hf1 : r1.found with
  | false =>
    refine ⟨false, r1.save, by simp, ?_⟩
    intro a ha
    rw [if_neg (by simp)] at ha
    cases ha
    exact ⟨by simp, fun h => by cases h⟩
  | true =>
    obtain ⟨r2, hr2⟩ := hnx r1.m #[]
    obtain ⟨r2', hr2'⟩ := hnx r1.m r1.save
    have hfa : r2.found = r2'.found := (hag _ _ _ _ _ hr2 hr2').1
    refine ⟨!r2.found, r1.save, by simp [hr2], ?_⟩
    intro a ha
    rw [if_pos rfl] at ha
    simp only [hr2', bind_ok'] at ha
    cases hf2 : r2'.found with
    | false =>
      rw [hf2, if_neg (by simp)] at ha
      simp only [bind_ok', Out.ok.injEq] at ha
      subst ha
      rw [hfa, hf2]
      exact ⟨by simp, fun _ => ⟨r1.pos, rfl⟩⟩
    | true =>
      rw [hf2, if_pos rfl] at ha
      obtain ⟨a', ha', ha⟩ := Out.bind_eq_ok ha
      obtain ⟨a'', _, ha'⟩ := Out.bind_eq_ok ha'
      simp only [Out.ok.injEq] at ha ha'
      subst ha
      subst ha'
      rw [hfa, hf2]
      exact ⟨by simp, fun h => by cases h⟩

theorem scanAll_rel {ex : Interp} {R : Array Nat → Array Nat → Prop} (hK : ex.Keeps R) (v : Pe.View) (qs : List Nat) :
    ∀ n (m : MSt) save a, scanAll (nextWith ex v qs) n m save = .ok a → R save a.save ∧ ∀ h ∈ a.hits, R save h.2 := by
  intro n
  induction n with
  | zero =>
    intro m save a h
    cases h
    exact ⟨hK.refl _, fun h hh => by cases hh⟩
  | succ n ih =>
    intro m save a h
    obtain ⟨r, hr, ⟨_, rfl⟩ | ⟨_, a', ha', rfl⟩⟩ := scanAll_succ_ok h
    · exact ⟨(nextWith_returns hK _ _ _ _ _ hr).rel, fun x hx => by cases hx⟩
    · have hR := (nextWith_returns hK _ _ _ _ _ hr).rel
      obtain ⟨h1, h2⟩ := ih _ _ _ ha'
      refine ⟨hK.trans _ _ _ hR h1, fun x hx => ?_⟩
      rcases List.mem_cons.1 hx with rfl | hx
      · exact hR
      · exact hK.trans _ _ _ hR (h2 x hx)

/-- the states a `Matches` object can be in after finitely many RETURNING calls of `next` (abstract
`nx`, each call on an arbitrary save array) when it started in state `m` -/
inductive Reach (nx : MSt → Array Nat → Out Res) (m : MSt) : MSt → Prop
  | refl : Reach nx m m
  | step {m' : MSt} {save : Array Nat} {r : Res} : Reach nx m m' → nx m' save = .ok r → Reach nx m r.m

theorem Reach_hits {nx : MSt → Array Nat → Out Res}
    (hnx : ∀ m save r, nx m save = .ok r → Advance m r) {m m' : MSt} (h : Reach nx m m') :
    m'.stop = m.stop ∧ m.start ≤ m'.start ∧ m'.start ≤ max m.start m.stop ∧ m.hits ≤ m'.hits ∧
    m'.hits + m.start ≤ m.hits + m'.start := by
  induction h with
  | refl => exact ⟨rfl, Nat.le_refl _, Nat.le_max_left _ _, Nat.le_refl _, Nat.le_refl _⟩
  | step _ hr ih =>
    obtain ⟨h1, h2, h3, h4, h5⟩ := ih
    have A := hnx _ _ _ hr
    have := A.stop_eq; have := A.start_le; have := A.start_bound; have := A.hits_le; have := A.hits_ge
    exact ⟨by omega, by omega, by omega, by omega, by omega⟩

theorem scanAll_reach {nx : MSt → Array Nat → Out Res} :
    ∀ n (m0 m : MSt) save a, Reach nx m0 m → scanAll nx n m save = .ok a → Reach nx m0 a.m := by
  intro n
  induction n with
  | zero => intro m0 m save a hm h; cases h; exact hm
  | succ n ih =>
    intro m0 m save a hm h
    obtain ⟨r, hr, ⟨_, rfl⟩ | ⟨_, a', ha', rfl⟩⟩ := scanAll_succ_ok h
    · exact Reach.step hm hr
    · exact ih _ _ _ a' (Reach.step hm hr) ha'

theorem scanAll_hits {nx : MSt → Array Nat → Out Res}
    (hnx : ∀ m save r, nx m save = .ok r → Advance m r) :
    ∀ n (m : MSt) save a, scanAll nx n m save = .ok a →
      m.hits + a.hits.length ≤ a.m.hits ∧ ∀ x ∈ a.hits, m.start ≤ x.1 ∧ x.1 < a.m.start := by
  intro n
  induction n with
  | zero => intro m save a h; cases h; exact ⟨Nat.le_refl _, fun x hx => by cases hx⟩
  | succ n ih =>
    intro m save a h
    obtain ⟨r, hr, ⟨_, rfl⟩ | ⟨hf, a', ha', rfl⟩⟩ := scanAll_succ_ok h
    · exact ⟨(hnx _ _ _ hr).hits_ge, fun x hx => by cases hx⟩
    · have A := hnx _ _ _ hr
      obtain ⟨h4, h6⟩ := ih _ _ _ ha'
      obtain ⟨f1, f2, f3⟩ := A.found hf
      have := (Reach_hits hnx (scanAll_reach n r.m r.m r.save a' .refl ha')).2.1
      have := A.start_le
      refine ⟨by simp only [List.length_cons]; omega, fun x hx => ?_⟩
      rcases List.mem_cons.1 hx with rfl | hx
      · simp only; omega
      · have := h6 x hx; simp only; omega

end Pelite.Scan
