import PeliteModel.Model.Version
import PeliteModel.Spec.Version
/-!
C13: `parse_tlv` (what a successful parse returns, totality, extents) and one level of the parser loop
(`items`, `forEach` as a run over it).
-/
set_option linter.unusedSimpArgs false
set_option linter.unnecessarySimpa false

namespace Pelite.Version

theorem nodeLen_ge (w : Sl) : 4 ≤ nodeLen w := Nat.le_max_left ..

namespace Sl
theorem drop_off (s : Sl) (n : Nat) : (s.drop n).off = s.off + n := rfl
theorem drop_len (s : Sl) (n : Nat) : (s.drop n).len = s.len - n := List.length_drop
theorem take_off (s : Sl) (n : Nat) : (s.take n).off = s.off := rfl
theorem take_len (s : Sl) (n : Nat) : (s.take n).len = min n s.len := List.length_take
end Sl
theorem wstrn_off (s : Sl) : (wstrn s).off = s.off := rfl
theorem wstrn_len_le (s : Sl) : (wstrn s).len ≤ s.len := (List.takeWhile_sublist _).length_le

theorem parseTlv_ok_iff {vlt : Vlt} {w : Sl} {t : Tlv} {r : Sl} :
    parseTlv vlt w = .ok (t, r) ↔
      4 ≤ w.len ∧ nodeLen w ≤ w.len ∧ ∃ vl, valueLen vlt w = some vl ∧
      let node := w.take (nodeLen w)
      let key := wstrn (node.drop 3)
      let body := node.drop (min (align2 key.len + 4) node.len)
      (node.drop 3).len ≠ key.len ∧ vl ≤ body.len ∧
      t = ⟨key, body.take vl, body.drop (min (align2 vl) body.len)⟩ ∧
      r = w.drop (min (align2 (nodeLen w)) w.len) := by
  rw [parseTlv_eq_total]
  unfold parseTlvTotal
  cases valueLen vlt w with
  | none => simp
  | some vl =>
    simp only [gt_iff_lt, Option.some.injEq, exists_eq_left']
    -- each early return is an `Err`, and the check that failed is a conjunct on the right
    repeat' split
    · exact ⟨nofun, by omega⟩
    · exact ⟨nofun, by omega⟩
    · exact ⟨nofun, fun h => absurd ‹_› h.2.2.1⟩
    · exact ⟨nofun, by omega⟩
    · have hv : vl ≤ _ := Nat.le_of_not_gt ‹_›
      rw [(Sl.take_len _ vl).trans (Nat.min_eq_left hv)]
      exact ⟨fun h => by cases h; exact ⟨by omega, by omega, ‹_›, hv, rfl, rfl⟩,
        fun ⟨_, _, _, _, ht, hr⟩ => by rw [ht, hr]⟩

structure TlvEq (vlt : Vlt) (w : Sl) (t : Tlv) (r : Sl) : Prop where
  len4 : 4 ≤ w.len
  lenL : nodeLen w ≤ w.len
  vl : valueLen vlt w = some t.value.len
  key : t.key = ⟨w.off + 3, ((w.ws.take (nodeLen w)).drop 3).takeWhile (fun x => x != 0)⟩
  klen : t.key.len + 4 ≤ nodeLen w
  value : t.value = ⟨w.off + min (align2 t.key.len + 4) (nodeLen w),
      (((w.ws.take (nodeLen w)).drop (min (align2 t.key.len + 4) (nodeLen w))).take t.value.len)⟩
  vfit : min (align2 t.key.len + 4) (nodeLen w) + t.value.len ≤ nodeLen w
  children : t.children =
      ⟨w.off + min (align2 t.key.len + 4) (nodeLen w)
          + min (align2 t.value.len) (nodeLen w - min (align2 t.key.len + 4) (nodeLen w)),
       ((w.ws.take (nodeLen w)).drop (min (align2 t.key.len + 4) (nodeLen w))).drop
          (min (align2 t.value.len) (nodeLen w - min (align2 t.key.len + 4) (nodeLen w)))⟩
  rest : r = ⟨w.off + min (align2 (nodeLen w)) w.len, w.ws.drop (min (align2 (nodeLen w)) w.len)⟩

theorem parseTlv_ok_eq {vlt : Vlt} {w : Sl} {t : Tlv} {r : Sl}
    (h : parseTlv vlt w = .ok (t, r)) : TlvEq vlt w t r := by
  obtain ⟨h4, hL, vl, hvl, hk, hv, rfl, rfl⟩ := parseTlv_ok_iff.mp h
  have hnode : (w.take (nodeLen w)).len = nodeLen w := by rw [Sl.take_len]; omega
  have hkl := wstrn_len_le ((w.take (nodeLen w)).drop 3)
  have hval := (Sl.take_len _ vl).trans (Nat.min_eq_left hv)
  simp only [hnode, Sl.drop_len] at hk hv hkl hval
  refine ⟨h4, hL, ?_, rfl, ?_, ?_, ?_, ?_, rfl⟩ <;> simp only [hnode, hval, Sl.drop_len]
  · exact hvl
  · omega
  · rfl
  · omega
  · rfl

theorem parseTlv_total (vlt : Vlt) (w : Sl) :
    (∃ t r, parseTlv vlt w = .ok (t, r)) ∨ parseTlv vlt w = .err .invalid := by
  rw [parseTlv_eq_total]
  unfold parseTlvTotal
  dsimp only
  repeat' split
  all_goals first
    | exact Or.inr rfl
    | exact Or.inl ⟨_, _, rfl⟩

/-- the slice is empty or starts on a 32-bit boundary (the block itself starts on one) -/
def Sl.Al (s : Sl) : Prop := s.len ≠ 0 → s.off % 2 = 0

def Sl.Sub (a w : Sl) : Prop :=
  w.off ≤ a.off ∧ a.off + a.len ≤ w.off + w.len ∧ a.ws = (w.ws.drop (a.off - w.off)).take a.len

theorem Sl.Sub.refl (w : Sl) : w.Sub w := by
  refine ⟨Nat.le_refl _, Nat.le_refl _, ?_⟩
  simp [Sl.len]

theorem Sl.Sub.trans {a b c : Sl} (h1 : a.Sub b) (h2 : b.Sub c) : a.Sub c := by
  obtain ⟨h1a, h1b, h1c⟩ := h1
  obtain ⟨h2a, h2b, h2c⟩ := h2
  refine ⟨by omega, by omega, ?_⟩
  rw [h1c, h2c]
  simp only [Sl.len] at *
  rw [List.drop_take, List.drop_drop, List.take_take]
  congr 1
  · omega
  · congr 1; omega

theorem Sl.drop_sub (s : Sl) {n : Nat} (h : n ≤ s.len) : (s.drop n).Sub s := by
  refine ⟨Nat.le_add_right .., ?_, ?_⟩
  · simp only [Sl.drop, Sl.len, List.length_drop] at *; omega
  · simp only [Sl.drop, Sl.len, Nat.add_sub_cancel_left, List.take_length]

theorem Sl.take_sub (s : Sl) (n : Nat) : (s.take n).Sub s := by
  refine ⟨Nat.le_refl _, ?_, ?_⟩
  · simp only [Sl.take, Sl.len, List.length_take]; omega
  · simp only [Sl.take, Sl.len, Nat.sub_self, List.drop_zero, List.length_take, List.take_eq_take_iff]; omega

theorem wstrn_sub (s : Sl) : (wstrn s).Sub s := by
  refine ⟨Nat.le_refl _, Nat.add_le_add_left (wstrn_len_le s) _, ?_⟩
  simp only [wstrn, Sl.len, Nat.sub_self, List.drop_zero]
  exact List.prefix_iff_eq_take.1 (List.takeWhile_prefix _)


/-- where one parsed node and the resumed input `r` lie in the input `w` of `parse_tlv`; `NodeIn` below is the part that
survives when `w` is widened to an enclosing slice -/
structure TlvExt (w : Sl) (t : Tlv) (r : Sl) : Prop where
  len4 : 4 ≤ nodeLen w
  lenL : nodeLen w ≤ w.len
  keyOff : t.key.off = w.off + 3
  keyEnd : t.key.off + t.key.len + 1 ≤ t.value.off
  valEnd : t.value.off + t.value.len ≤ t.children.off
  chEnd : t.children.off + t.children.len = w.off + nodeLen w
  restOff : w.off + nodeLen w ≤ r.off
  restEnd : r.off + r.len = w.off + w.len
  keySub : t.key.Sub w
  valSub : t.value.Sub w
  chSub : t.children.Sub w
  restSub : r.Sub w
  alV : w.Al → t.value.Al
  alC : w.Al → t.children.Al
  alR : w.Al → r.Al

theorem align2_ge (x : Nat) : x ≤ align2 x := by unfold align2; omega
theorem align2_even (x : Nat) : align2 x % 2 = 0 := by unfold align2; omega
theorem align2_eq (x : Nat) : align2 x = x + x % 2 := by unfold align2; omega

theorem clamp_spec {x a n : Nat} (hxa : x ≤ a) (ha : a % 2 = 0) (hxn : x ≤ n) :
    x ≤ min a n ∧ min a n ≤ n ∧ (min a n < n → min a n % 2 = 0) := by omega

theorem Sl.Al.take {s : Sl} (hs : s.Al) (n : Nat) : (s.take n).Al := by
  simp only [Sl.Al, Sl.take_len, Sl.take_off] at hs ⊢; omega

theorem Sl.Al.drop {s : Sl} (hs : s.Al) {n : Nat} (hn : n < s.len → n % 2 = 0) : (s.drop n).Al := by
  simp only [Sl.Al, Sl.drop_len, Sl.drop_off] at hs ⊢; omega

theorem parseTlv_ok_ext {vlt : Vlt} {w : Sl} {t : Tlv} {r : Sl}
    (h : parseTlv vlt w = .ok (t, r)) : TlvExt w t r := by
  obtain ⟨h4, hL, vl, -, hk, hv, rfl, rfl⟩ := parseTlv_ok_iff.mp h
  have hnode : (w.take (nodeLen w)).len = nodeLen w := by rw [Sl.take_len]; omega
  have sNode := w.take_sub (nodeLen w)
  have sKey := (wstrn_sub _).trans (((w.take (nodeLen w)).drop_sub (n := 3) (by have := nodeLen_ge w; omega)).trans sNode)
  have hk4 : (wstrn ((w.take (nodeLen w)).drop 3)).len + 4 ≤ (w.take (nodeLen w)).len := by
    have := wstrn_len_le ((w.take (nodeLen w)).drop 3)
    rw [Sl.drop_len] at hk this
    have := nodeLen_ge w
    omega
  clear hk h4
  -- each of the three `min (align2 _) len` bounds becomes an opaque `m` that `clamp_spec` places between the unaligned
  -- bound and the length, even unless it hit the length: extents are then `omega`, alignment is the parity fact
  obtain ⟨a1, b1, e1⟩ := clamp_spec (Nat.add_le_add_right (align2_ge _) 4)
    (by have := align2_even (wstrn ((w.take (nodeLen w)).drop 3)).len; omega) hk4
  generalize min (align2 (wstrn ((w.take (nodeLen w)).drop 3)).len + 4) (w.take (nodeLen w)).len = m1 at *
  have sBody := ((w.take (nodeLen w)).drop_sub b1).trans sNode
  obtain ⟨a2, b2, e2⟩ := clamp_spec (align2_ge vl) (align2_even vl) hv
  generalize min (align2 vl) ((w.take (nodeLen w)).drop m1).len = m2 at *
  have sChildren := (Sl.drop_sub _ b2).trans sBody
  obtain ⟨a3, b3, e3⟩ := clamp_spec (align2_ge (nodeLen w)) (align2_even _) hL
  generalize min (align2 (nodeLen w)) w.len = m3 at *
  refine ⟨nodeLen_ge w, hL, rfl, ?_, ?_, ?_, ?_, ?_, sKey, (Sl.take_sub _ _).trans sBody, sChildren,
    w.drop_sub b3, fun hw => ((hw.take _).drop e1).take _, fun hw => ((hw.take _).drop e1).drop e2, fun hw => hw.drop e3⟩
  all_goals
    clear e1 e2 e3
    simp only [Sl.drop_off, Sl.drop_len, Sl.take_off, Sl.take_len, wstrn_off, hnode] at b1 b2 hv ⊢
    omega

/-- the TLVs the loop `for tlv in Parser{words, vlt}.filter_map(Result::ok)` is run on -/
def items (vlt : Vlt) (w : Sl) : List Tlv :=
  if w.len = 0 then [] else
  match _h : parseTlv vlt w with
  | .ok (t, r) => t :: items vlt r
  | _ => []
termination_by w.len
decreasing_by exact parseTlv_rest_lt _h

def runSteps {σ : Type} (step : Tlv → σ → Out (σ × Bool)) : List Tlv → σ → Out σ
  | [], s => .ok s
  | t :: ts, s =>
    match step t s with
    | .ok (s', true) => runSteps step ts s'
    | .ok (s', false) => .ok s'
    | .err e => .err e
    | .panic m => .panic m
    | .ub m => .ub m
    | .diverge => .diverge

theorem items_nil {vlt : Vlt} {w : Sl} (h : w.len = 0) : items vlt w = [] := by
  rw [items]; simp [h]

theorem items_ok {vlt : Vlt} {w : Sl} {t : Tlv} {r : Sl}
    (h : parseTlv vlt w = .ok (t, r)) : items vlt w = t :: items vlt r := by
  have h0 : w.len ≠ 0 := by have := (parseTlv_ok_iff.mp h).1; omega
  rw [items]; simp only [h0, if_false]
  split
  · rename_i t' r' heq; rw [h] at heq; cases heq; rfl
  · rename_i hne; exact absurd h (hne _ _)

theorem items_err {vlt : Vlt} {w : Sl} {e : Err} (h : parseTlv vlt w = .err e) : items vlt w = [] := by
  rw [items]
  split
  · rfl
  · split
    · rename_i t' r' heq; rw [h] at heq; cases heq
    · rfl

theorem forEach_eq_runSteps {σ : Type} (vlt : Vlt) (step : Tlv → σ → Out (σ × Bool)) (w : Sl) (s : σ) :
    forEach vlt step w s = runSteps step (items vlt w) s := by
  fun_induction forEach vlt step w s <;>
    first
    | (rw [items_nil ‹_›]; rfl)
    | (rw [items_ok ‹_›]; simp only [runSteps, *])
    | (rw [items_err ‹_›]; rfl)
    | (have := parseTlv_total vlt ‹Sl›; simp_all)

theorem forEach_err {σ : Type} {vlt : Vlt} {step : Tlv → σ → Out (σ × Bool)} {w : Sl} {s : σ} {e : Err}
    (h : parseTlv vlt w = .err e) : forEach vlt step w s = .ok s := by
  rw [forEach_eq_runSteps, items_err h]; rfl

def Tlv.start (t : Tlv) : Nat := t.key.off - 3
def Tlv.stop (t : Tlv) : Nat := t.children.off + t.children.len

structure NodeIn (t : Tlv) (w : Sl) : Prop where
  start : w.off ≤ t.start
  keyOff : t.key.off = t.start + 3
  keyEnd : t.key.off + t.key.len + 1 ≤ t.value.off
  valEnd : t.value.off + t.value.len ≤ t.children.off
  size : t.start + 4 ≤ t.stop
  stop : t.stop ≤ w.off + w.len
  keySub : t.key.Sub w
  valSub : t.value.Sub w
  chSub : t.children.Sub w

theorem NodeIn.mono {t : Tlv} {r w : Sl} (h : NodeIn t r) (hs : r.Sub w) : NodeIn t w := by
  obtain ⟨a, b, c, d, e, f, g1, g2, g3⟩ := h
  have h1 := hs.1
  have h2 := hs.2.1
  exact ⟨by omega, b, c, d, e, by omega, g1.trans hs, g2.trans hs, g3.trans hs⟩

theorem TlvExt.nodeIn {w : Sl} {t : Tlv} {r : Sl} (e : TlvExt w t r) : NodeIn t w := by
  obtain ⟨h4, hL, hko, hke, hve, hce, hro, hre, s1, s2, s3, s4, _, _, _⟩ := e
  refine ⟨?_, ?_, hke, hve, ?_, ?_, s1, s2, s3⟩ <;> simp only [Tlv.start, Tlv.stop] <;> omega

theorem items_ext (vlt : Vlt) (w : Sl) :
    (∀ t ∈ items vlt w, NodeIn t w) ∧ (items vlt w).Pairwise (fun a b => a.stop ≤ b.start) := by
  fun_induction items vlt w with
  | case1 | case3 => exact ⟨nofun, .nil⟩
  | case2 w h0 t r h ih =>
    obtain ⟨ih1, ih2⟩ := ih
    have e := parseTlv_ok_ext h
    refine ⟨?_, ?_⟩
    · intro x hx
      rcases List.mem_cons.mp hx with hx | hx
      · subst hx; exact e.nodeIn
      · exact (ih1 x hx).mono e.restSub
    · refine List.Pairwise.cons ?_ ih2
      intro b hb
      have hb' := (ih1 b hb).start
      have := e.chEnd
      have := e.restOff
      simp only [Tlv.stop]; omega

theorem items_al (vlt : Vlt) (w : Sl) (hw : w.Al) :
    ∀ t ∈ items vlt w, t.value.Al ∧ t.children.Al := by
  fun_induction items vlt w with
  | case1 | case3 => nofun
  | case2 w h0 t r h ih =>
    intro x hx
    have e := parseTlv_ok_ext h
    rcases List.mem_cons.mp hx with hx | hx
    · subst hx; exact ⟨e.alV hw, e.alC hw⟩
    · exact ih (e.alR hw) x hx

/-- a weight that every node can pay out of its own words (four for the header and the key's NUL, and its
children's) sums to at most the words of the level's input -/
theorem items_weight_le (vlt : Vlt) (f : Tlv → Nat) (w : Sl)
    (hf : ∀ t ∈ items vlt w, 4 * f t ≤ 4 + t.children.len) : 4 * ((items vlt w).map f).sum ≤ w.len := by
  fun_induction items vlt w with
  | case1 | case3 => simp
  | case2 w h0 t r h ih =>
    have e := parseTlv_ok_ext h
    have h1 := hf t (List.mem_cons_self ..)
    have h2 := ih (fun x hx => hf x (List.mem_cons_of_mem _ hx))
    have := e.chEnd; have := e.restOff; have := e.restEnd; have := e.keyOff; have := e.keyEnd; have := e.valEnd
    simp only [List.map_cons, List.sum_cons] at *
    omega

theorem items_length_le (vlt : Vlt) (w : Sl) : 4 * (items vlt w).length ≤ w.len := by
  have h := items_weight_le vlt (fun _ => 1) w (fun _ _ => by omega)
  rwa [List.map_const', List.sum_replicate_nat, Nat.mul_one] at h

end Pelite.Version
