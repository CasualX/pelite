import PeliteModel.Spec.Resources
/-!
C12: the name comparison of the code (`Name::eq`, `eq_string`, `str::parse::<u32>`, `decode_utf16`, the `RSRC_TYPES`
table) against the documented matching rules.
-/
namespace Pelite.Resources
open Pelite

/-- the name of one table entry (without the `#`) starts with an upper case letter, so `#NAME` never continues with a digit -/
def nameShapeOK (p : Nat × String) : Bool :=
  match asc p.2 with
  | c :: _ => decide (65 ≤ c ∧ c ≤ 90)
  | [] => false

/-- one evaluation for both tables: the string comparisons dominate its cost -/
theorem type_tables :
    (∀ n, n < 25 → typeName rsrcTypes n = typeString n) ∧
    ∀ p ∈ msResourceTypes, p.1 < 25 ∧ nameShapeOK p = true := by
  decide +kernel

theorem typeName_eq (n : Nat) : typeName rsrcTypes n = typeString n := by
  by_cases h : n < 25
  · exact type_tables.1 n h
  · have h1 : rsrcTypes[n]? = none := List.getElem?_eq_none (by simp [rsrcTypes]; omega)
    have h2 : msResourceTypes.find? (fun p => decide (p.1 = n)) = none := by
      rw [List.find?_eq_none]
      intro p hp
      have := (type_tables.2 p hp).1
      simp; omega
    unfold typeName typeString
    rw [h1, h2]
    rfl

theorem typeString_shape {n : Nat} {s : List Nat} (h : typeString n = some s) :
    ∃ c t, s = 35 :: c :: t ∧ 65 ≤ c ∧ c ≤ 90 := by
  unfold typeString at h
  cases hf : msResourceTypes.find? (fun p => decide (p.1 = n)) with
  | none => rw [hf] at h; cases h
  | some p =>
    rw [hf] at h
    simp only [Option.map_some, Option.some.injEq] at h
    have hs := (type_tables.2 p (List.mem_of_find?_eq_some hf)).2
    unfold nameShapeOK at hs
    cases ha : asc p.2 with
    | nil => rw [ha] at hs; cases hs
    | cons c t => rw [ha] at hs h; exact ⟨c, t, h.symm, of_decide_eq_true hs⟩

/-! ### `str::parse::<u32>` -/

theorem foldl_dec_ge (ds : List Nat) (acc : Nat) : acc ≤ ds.foldl (fun a d => a * 10 + (d - 48)) acc := by
  induction ds generalizing acc with
  | nil => exact Nat.le_refl _
  | cons d ds ih =>
    simp only [List.foldl_cons]
    exact Nat.le_trans (by omega) (ih _)

theorem parseDigits_eq_some (ds : List Nat) : ∀ (acc v : Nat), acc < 4294967296 →
    (parseDigits ds acc = some v ↔
      (∀ c ∈ ds, 48 ≤ c ∧ c ≤ 57) ∧ v = ds.foldl (fun a d => a * 10 + (d - 48)) acc ∧ v < 4294967296) := by
  induction ds with
  | nil =>
    intro acc v hacc
    simp only [parseDigits, Option.some.injEq, List.not_mem_nil, false_imp_iff, implies_true, List.foldl_nil, true_and]
    constructor
    · intro h; subst h; exact ⟨rfl, hacc⟩
    · intro h; exact h.1.symm
  | cons c rest ih =>
    intro acc v hacc
    unfold parseDigits
    by_cases hc : 48 ≤ c ∧ c ≤ 57
    · rw [if_pos hc]
      dsimp only
      by_cases hv : acc * 10 + (c - 48) < 4294967296
      · rw [if_pos hv, ih _ _ hv]
        simp only [List.mem_cons, forall_eq_or_imp, List.foldl_cons]
        constructor
        · rintro ⟨h1, h2, h3⟩; exact ⟨⟨hc, h1⟩, h2, h3⟩
        · rintro ⟨⟨_, h1⟩, h2, h3⟩; exact ⟨h1, h2, h3⟩
      · rw [if_neg hv]
        simp only [List.mem_cons, forall_eq_or_imp, List.foldl_cons]
        constructor
        · intro h; cases h
        · rintro ⟨_, h2, h3⟩
          have := foldl_dec_ge rest (acc * 10 + (c - 48))
          omega
    · rw [if_neg hc]
      simp only [List.mem_cons, forall_eq_or_imp]
      constructor
      · intro h; cases h
      · rintro ⟨⟨h1, _⟩, _⟩; exact absurd h1 hc

theorem parseU32_digit (d : Nat) (ds : List Nat) (hd : 49 ≤ d ∧ d ≤ 57) : parseU32 (d :: ds) = parseDigits (d :: ds) 0 := by
  cases ds with
  | nil =>
    show (if d = 43 ∨ d = 45 then none else parseDigits [d] 0) = _
    rw [if_neg (by omega)]
  | cons x xs =>
    show (if d = 43 then parseDigits (x :: xs) 0 else parseDigits (d :: x :: xs) 0) = _
    rw [if_neg (by omega)]

theorem isIdString_iff (n d : Nat) (ds : List Nat) :
    isIdString n (35 :: d :: ds) = true ↔ (49 ≤ d ∧ d ≤ 57) ∧ (∀ c ∈ ds, 48 ≤ c ∧ c ≤ 57) ∧ decVal (d :: ds) = n := by
  simp only [isIdString, Bool.decide_and, Bool.and_eq_true, decide_eq_true_eq, List.all_eq_true]
  constructor
  · rintro ⟨h1, h2, h3, h4⟩; exact ⟨⟨h1, h2⟩, h3, h4⟩
  · rintro ⟨⟨h1, h2⟩, h3, h4⟩; exact ⟨h1, h2, h3, h4⟩

theorem isIdString_head {n : Nat} {s : List Nat} (h : isIdString n s = true) : ∃ d ds, s = 35 :: d :: ds := by
  unfold isIdString at h
  split at h
  · exact ⟨_, _, rfl⟩
  · cases h

theorem typeString_ne_digit {n d : Nat} {ds : List Nat} (hd : d ≤ 57) : typeString n ≠ some (35 :: d :: ds) := fun h => by
  obtain ⟨c, u, he, h1, _⟩ := typeString_shape h
  simp only [List.cons.injEq, true_and] at he
  omega

theorem eqString_id_iff (n : Nat) (s : List Nat) (hn : n < 4294967296) :
    (Name.id n).eqString s = true ↔ isIdString n s = true ∨ typeString n = some s := by
  -- unless `s = '#' :: d :: ds` both sides are false; then the digit branch (`#<id>`) and the table branch (`#TYPE`)
  -- exclude each other, because a `#TYPE` name continues with a letter (`typeString_shape`)
  have hfalse : (∀ d ds, s ≠ 35 :: d :: ds) → ¬ (isIdString n s = true ∨ typeString n = some s) := by
    rintro hs (hi | ht)
    · obtain ⟨d, ds, h⟩ := isIdString_head hi; exact hs d ds h
    · obtain ⟨c, u, h, _⟩ := typeString_shape ht; exact hs c u h
  unfold Name.eqString
  dsimp only
  match s with
  | [] => rw [if_pos (by simp)]; exact iff_of_false (by simp) (hfalse (by intro d ds h; cases h))
  | [a] => rw [if_pos (by simp)]; exact iff_of_false (by simp) (hfalse (by intro d ds h; cases h))
  | a :: d :: ds =>
    by_cases ha : a = 35
    · subst ha
      rw [if_neg (by simp)]
      simp only [List.getD_cons_succ, List.getD_cons_zero, List.drop_succ_cons, List.drop_zero]
      by_cases hd : d > 48 ∧ d ≤ 57
      · rw [if_pos hd, parseU32_digit d ds (by omega), or_iff_left (typeString_ne_digit hd.2), isIdString_iff]
        have key := parseDigits_eq_some (d :: ds) 0 n (by omega)
        simp only [List.mem_cons, forall_eq_or_imp] at key
        cases hp : parseDigits (d :: ds) 0 with
        | none =>
          rw [hp] at key
          exact iff_of_false (by simp) fun ⟨h1, h2, h3⟩ => nomatch key.2 ⟨⟨by omega, h2⟩, h3.symm, hn⟩
        | some v =>
          rw [hp, Option.some.injEq] at key
          dsimp only
          rw [decide_eq_true_eq]
          constructor
          · rintro rfl; obtain ⟨⟨_, k1⟩, k2, _⟩ := key.1 rfl; exact ⟨by omega, k1, k2.symm⟩
          · rintro ⟨h1, h2, h3⟩; exact (key.2 ⟨⟨by omega, h2⟩, h3.symm, hn⟩).symm
      · rw [if_neg hd, typeName_eq, or_iff_right (fun hi => hd (by have := ((isIdString_iff n d ds).1 hi).1; omega))]
        cases typeString n with
        | none => simp
        | some t => simp [eq_comm]
    · rw [if_pos (by simp [ha])]
      exact iff_of_false (by simp) (hfalse (by intro d' ds' h; simp only [List.cons.injEq] at h; exact ha h.1))

theorem eqString_id (n : Nat) (s : List Nat) (hn : n < 4294967296) :
    (Name.id n).eqString s = (isIdString n s || typeString n == some s) := by
  rw [Bool.eq_iff_iff, eqString_id_iff n s hn]
  simp

/-! ### UTF-8 / UTF-16 -/

def AllScalar (cs : List Nat) : Prop := ∀ c ∈ cs, IsScalar c

theorem map_cons_scalar {c : Nat} {o : Option (List Nat)} (hc : IsScalar c) (ih : ∀ cs, o = some cs → AllScalar cs) :
    ∀ cs, Option.map (fun x => c :: x) o = some cs → AllScalar cs := by
  intro cs h
  cases o with
  | none => cases h
  | some cs' => cases h; exact List.forall_mem_cons.2 ⟨hc, ih cs' rfl⟩

theorem utf8Chars_scalar (s : List Nat) : ∀ cs, utf8Chars s = some cs → AllScalar cs := by
  -- cases 1, 2, 3, 6, 9 of `utf8Chars`: end of input, then the accepted 1-, 2-, 3- and 4-byte forms; the byte
  -- ranges of table 3-7 are what makes the assembled value a scalar.  All other cases answer `none`.
  fun_induction utf8Chars s
  case case1 => intro cs h; cases h; intro x hx; cases hx
  case case2 => rename_i b0 rest h ih; exact map_cons_scalar (Or.inl (by omega)) ih
  case case3 =>
    rename_i b0 h1 h2 b1 rest1 h3 ih
    simp only [isCont, decide_eq_true_eq] at h3
    exact map_cons_scalar (Or.inl (by omega)) ih
  case case6 =>
    rename_i b0 h1 h2 h3 b1 b2 rest2 lo hi h4 ih
    simp only [isCont, decide_eq_true_eq, lo, hi] at h4
    refine map_cons_scalar ?_ ih
    unfold IsScalar
    by_cases e0 : b0 = 224
    · simp [e0] at h4; omega
    · by_cases e1 : b0 = 237
      · simp [e1] at h4; omega
      · simp [e0, e1] at h4; omega
  case case9 =>
    rename_i b0 h1 h2 h3 h4 b1 b2 b3 rest3 lo hi h5 ih
    simp only [isCont, decide_eq_true_eq, lo, hi] at h5
    refine map_cons_scalar ?_ ih
    unfold IsScalar
    by_cases e0 : b0 = 240
    · simp [e0] at h5; omega
    · by_cases e1 : b0 = 244
      · simp [e1] at h5; omega
      · simp [e0, e1] at h5; omega
  all_goals (intro cs h; cases h)

theorem decodeUtf16_bmp (u : Nat) (rest : List Nat) (h : u < 0xD800 ∨ 0xE000 ≤ u) :
    decodeUtf16 (u :: rest) = .ok u :: decodeUtf16 rest := by
  cases rest with
  | nil => simp only [decodeUtf16]; rw [if_pos h]
  | cons u2 r => simp only [decodeUtf16]; rw [if_pos h]

theorem decodeUtf16_pair (u u2 : Nat) (rest : List Nat) (h1 : 0xD800 ≤ u ∧ u < 0xDC00) (h2 : 0xDC00 ≤ u2 ∧ u2 ≤ 0xDFFF) :
    decodeUtf16 (u :: u2 :: rest) = .ok ((u % 0x400) * 0x400 + u2 % 0x400 + 0x10000) :: decodeUtf16 rest := by
  simp only [decodeUtf16]
  rw [if_neg (by omega), if_neg (by omega), if_neg (by omega)]

theorem decode_encode : ∀ (cs : List Nat), AllScalar cs → decodeUtf16 (utf16Encode cs) = cs.map .ok
  | [], _ => rfl
  | c :: cs, h => by
    have hc : IsScalar c := h c (by simp)
    have ih := decode_encode cs (fun x hx => h x (by simp [hx]))
    unfold IsScalar at hc
    unfold utf16Encode
    by_cases hlt : c < 0x10000
    · rw [if_pos hlt, decodeUtf16_bmp c _ (by omega), ih]; rfl
    · rw [if_neg hlt, decodeUtf16_pair _ _ _ (by omega) (by omega), ih]
      simp only [List.map_cons, List.cons.injEq, U16Item.ok.injEq, and_true]
      omega

theorem decode_eq_map_ok (ws : List Nat) : ∀ cs : List Nat, (∀ w ∈ ws, w < 65536) →
    decodeUtf16 ws = cs.map .ok → ws = utf16Encode cs := by
  fun_induction decodeUtf16 ws with
  | case1 => intro cs _ h; cases cs <;> simp_all [utf16Encode]
  | case2 u hu =>
    intro cs hw h
    cases cs with
    | nil => simp at h
    | cons c cs =>
      simp only [List.map_cons, List.cons.injEq, U16Item.ok.injEq] at h
      obtain ⟨rfl, h⟩ := h
      rw [List.map_eq_nil_iff.1 h.symm, utf16Encode, if_pos (hw u (by simp)), utf16Encode]
  | case3 u hu => intro cs _ h; cases cs <;> simp at h
  | case4 u u2 rest hu ih =>
    intro cs hw h
    cases cs with
    | nil => simp at h
    | cons c cs =>
      simp only [List.map_cons, List.cons.injEq, U16Item.ok.injEq] at h
      obtain ⟨rfl, h⟩ := h
      rw [utf16Encode, if_pos (hw u (by simp)), ← ih cs (fun w hw' => hw w (by simp [hw'])) h]
  | case5 u u2 rest hu h1 ih => intro cs _ h; cases cs <;> simp at h
  | case6 u u2 rest hu h1 h2 ih => intro cs _ h; cases cs <;> simp at h
  | case7 u u2 rest hu h1 h2 ih =>
    intro cs hw h
    cases cs with
    | nil => simp at h
    | cons c cs =>
      simp only [List.map_cons, List.cons.injEq, U16Item.ok.injEq] at h
      obtain ⟨rfl, h⟩ := h
      have := hw u (by simp)
      rw [utf16Encode, if_neg (by omega), ← ih cs (fun w hw' => hw w (by simp [hw'])) h]
      simp only [List.cons.injEq, and_true]
      omega

theorem decode_eq_iff (ws cs : List Nat) (hw : ∀ w ∈ ws, w < 65536) (hc : AllScalar cs) :
    decodeUtf16 ws = cs.map .ok ↔ ws = utf16Encode cs := by
  constructor
  · exact decode_eq_map_ok ws cs hw
  · intro h; rw [h]; exact decode_encode cs hc

theorem strChars_scalar (s : List Nat) : AllScalar (strChars s) := by
  unfold strChars
  cases h : utf8Chars s with
  | none => intro x hx; cases hx
  | some cs => exact utf8Chars_scalar s cs h

/-! ### `Name::eq` against the documented rules -/

/-- the stored fields are as wide as in the image: a `u32` id, `u16` words -/
def RName.InRange : RName → Prop
  | .id n => n < 4294967296
  | .wide ws => ∀ w ∈ ws, w < 65536

theorem nameAt_inRange {r : Resources} {f : Nat} {nm : RName} (h : NameAt r f nm) : nm.InRange := by
  cases nm with
  | id n => obtain ⟨_, h2⟩ := h; show n < 4294967296; omega
  | wide ws =>
    obtain ⟨_, _, _, _, h5⟩ := h
    intro w hw
    rw [h5] at hw
    simp only [wordsAt, List.mem_map, List.mem_range] at hw
    obtain ⟨i, _, rfl⟩ := hw
    exact le16_lt _ _

theorem eq_eq_nameMatch (nm : RName) (q : Name) (h : nm.InRange) : nm.toName.eq q = nameMatch nm q := by
  cases nm with
  | id n =>
    cases q with
    | id m => rfl
    | wide ws => rfl
    | str s =>
      show (Name.id n).eqString s = _
      rw [eqString_id n s h]; rfl
  | wide ws =>
    cases q with
    | id m => rfl
    | wide vs => rfl
    | str s =>
      show (Name.wide ws).eqString s = _
      unfold Name.eqString nameMatch
      dsimp only
      have := decode_eq_iff ws (strChars s) h (strChars_scalar s)
      by_cases hd : decodeUtf16 ws = (strChars s).map .ok
      · rw [decide_eq_true hd, decide_eq_true (this.1 hd)]
      · rw [decide_eq_false hd, decide_eq_false (fun he => hd (this.2 he))]

end Pelite.Resources
