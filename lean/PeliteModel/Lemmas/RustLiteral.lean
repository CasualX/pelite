import PeliteModel.Model.Pattern
import PeliteModel.Spec.RustLiteral
/-!
Lemmas tying the model of `parse_str_literal` (`unescape`, Model/Pattern.lean) to the independent
meaning of Rust string literals (`Spec.rustLitValue`, Spec/RustLiteral.lean), and the facts about the
reference writer `escapeWith`.  Core-only.
-/
namespace Pelite.Pattern
open Spec

/-! ## Unfolding `litBody` (well-founded recursion) -/

theorem litBody_bs (cs : List Char) : litBody ('\\' :: cs) =
    match escapeSeq cs with
    | none => none
    | some (oc, rest) =>
      match litBody rest with
      | some (v, r) => some (oc.toList ++ v, r)
      | none => none := by
  rw [litBody]
  split
  · simp_all
  · next oc rest h => rw [h]; dsimp only; rcases litBody rest with _ | ⟨v, r⟩ <;> rfl
theorem litBody_plain (c : Char) (cs : List Char) (h1 : c ≠ '"') (h2 : c ≠ '\r') (h3 : c ≠ '\\') :
    litBody (c :: cs) = match litBody cs with
      | some (v, r) => some (c :: v, r)
      | none => none := by
  rw [litBody]
  · rcases litBody cs with _ | ⟨v, r⟩ <;> rfl
  all_goals simp_all

/-! ## `unescapeGo` against `litBody` -/

/-- the backslash escapes `parse_str_literal` implements: the char after the backslash, the char denoted -/
def escTable : List (Char × Char) :=
  [('\\', '\\'), ('"', '"'), ('\'', '\''), ('t', '\t'), ('r', '\r'), ('n', '\n')]

theorem esc_spec {e d : Char} (h : (e, d) ∈ escTable) (rest : List Char) :
    (∀ acc, unescapeGo ('\\' :: e :: rest) acc = unescapeGo rest (d :: acc)) ∧
    escapeSeq (e :: rest) = some (some d, rest) := by
  simp only [escTable, List.mem_cons, Prod.mk.injEq, List.not_mem_nil, or_false] at h
  rcases h with ⟨rfl, rfl⟩ | ⟨rfl, rfl⟩ | ⟨rfl, rfl⟩ | ⟨rfl, rfl⟩ | ⟨rfl, rfl⟩ | ⟨rfl, rfl⟩ <;>
    exact ⟨fun _ => by rw [unescapeGo], by rw [escapeSeq]⟩

theorem escapeSeq_supported (c : Char) (cs : List Char) (oc : Option Char) (rest : List Char)
    (h : escapeSeq (c :: cs) = some (oc, rest)) (h0 : c ≠ '0') (hx : c ≠ 'x') (hu : c ≠ 'u') (hn : c ≠ '\n') :
    ∃ d, (c, d) ∈ escTable ∧ oc = some d ∧ rest = cs := by
  generalize hl : c :: cs = l at h
  fun_cases escapeSeq l
  all_goals simp_all [escapeSeq, escTable]

theorem unescapeGo_plain (c : Char) (cs acc : List Char) (h1 : c ≠ '\\') (h2 : c ≠ '"') :
    unescapeGo (c :: cs) acc = unescapeGo cs (c :: acc) := by
  rw [unescapeGo]
  · intro h; exact h1 h
  · intro h; exact h2 h

theorem unescapeGo_sound (cs acc out : List Char) (h : unescapeGo cs acc = .ok out) (hcr : '\r' ∉ cs) :
    ∃ v rest, litBody cs = some (v, rest) ∧ out = acc.reverse ++ v := by
  fun_induction unescapeGo cs acc
  -- case11: closing quote; case12: plain char; case3–8: the six escapes; the rest: errors
  all_goals try (simp at h; done)
  case case11 tail acc => exact ⟨[], tail, by rw [litBody], by simp_all⟩
  case case12 c cs acc h1 h2 ih =>
    obtain ⟨v, rest, hv, rfl⟩ := ih h (by simp_all)
    refine ⟨c :: v, rest, ?_, by simp⟩
    rw [litBody_plain c cs (by simpa using h2) (by intro h; simp [h] at hcr) (by simpa using h1), hv]
  all_goals
    rename_i ih
    obtain ⟨v, rest, hv, rfl⟩ := ih h (by simp_all)
    rw [litBody_bs]; simp [escapeSeq, hv]

theorem unescapeGo_litBody (cs : List Char) (acc v rest : List Char) (h : litBody cs = some (v, rest)) :
    (usesUnsupported cs = false ∧ unescapeGo cs acc = .ok (acc.reverse ++ v)) ∨
    (usesUnsupported cs = true ∧
      (unescapeGo cs acc = .error .unicodeEscape ∨ unescapeGo cs acc = .error (.unknownEscape '0') ∨
       unescapeGo cs acc = .error (.unknownEscape 'x') ∨ unescapeGo cs acc = .error (.unknownEscape '\n'))) := by
  -- along `usesUnsupported`: it steps over `\` + char as `unescapeGo` and `litBody` both do on the supported escapes;
  -- its catch-all case (`case4`) excludes `\` followed by a char, which is what `h2 d cs rfl rfl` refutes
  fun_induction usesUnsupported cs generalizing acc v
  case case1 => simp [litBody] at h
  case case2 => simp [litBody] at h; simp [unescapeGo, h.1]
  case case3 c cs ih =>
    by_cases hc : c = '0' ∨ c = 'x' ∨ c = 'u' ∨ c = '\n'
    · rcases hc with rfl | rfl | rfl | rfl <;> simp [unescapeGo]
    obtain ⟨h0, hx, huu, hn⟩ : c ≠ '0' ∧ c ≠ 'x' ∧ c ≠ 'u' ∧ c ≠ '\n' := by simpa [not_or] using hc
    simp only [h0, hx, huu, hn, decide_false, Bool.false_or]
    rw [litBody_bs] at h
    split at h
    · cases h
    · next oc rest' he =>
      obtain ⟨d, hd, rfl, rfl⟩ := escapeSeq_supported c cs oc rest' he h0 hx huu hn
      split at h
      · next v' r hv =>
        cases h
        rw [(esc_spec hd _).1]
        simpa using ih (d :: acc) v' hv
      · cases h
  case case4 c cs h1 h2 ih =>
    by_cases hb : c = '\\'
    · subst hb
      cases cs with
      | nil => simp [litBody_bs, escapeSeq] at h
      | cons d cs => exact (h2 d cs rfl rfl).elim
    · by_cases hr : c = '\r'
      · subst hr; simp [litBody] at h
      · rw [litBody_plain c cs (by simpa using h1) hr hb] at h
        split at h
        · next v' r hv =>
          cases h
          rw [unescapeGo_plain c cs acc hb (by simpa using h1)]
          simpa using ih (c :: acc) v' hv
        · cases h

/-! ## The reference writer -/

theorem escChar_cases (b : Bool) (c : Char) :
    (escChar b c = [c] ∧ c ≠ '\\' ∧ c ≠ '"') ∨ ∃ e, escChar b c = ['\\', e] ∧ (e, c) ∈ escTable := by
  by_cases h1 : c = '\\'
  · subst h1; exact .inr ⟨'\\', rfl, by decide⟩
  by_cases h2 : c = '"'
  · subst h2; exact .inr ⟨'"', rfl, by decide⟩
  cases b
  · exact .inl ⟨by simp [escChar, h1, h2], h1, h2⟩
  by_cases h3 : c = '\''
  · subst h3; exact .inr ⟨'\'', rfl, by decide⟩
  by_cases h4 : c = '\t'
  · subst h4; exact .inr ⟨'t', rfl, by decide⟩
  by_cases h5 : c = '\r'
  · subst h5; exact .inr ⟨'r', rfl, by decide⟩
  by_cases h6 : c = '\n'
  · subst h6; exact .inr ⟨'n', rfl, by decide⟩
  exact .inl ⟨by simp [escChar, h1, h2, h3, h4, h5, h6], h1, h2⟩

theorem unescapeGo_escChar (b : Bool) (c : Char) (rest acc : List Char) :
    unescapeGo (escChar b c ++ rest) acc = unescapeGo rest (c :: acc) := by
  rcases escChar_cases b c with ⟨e, h1, h2⟩ | ⟨_, e, ht⟩
  · rw [e]; exact unescapeGo_plain c rest acc h1 h2
  · rw [e]; exact (esc_spec ht rest).1 acc

theorem unescapeGo_body : ∀ (cs : List Char) (bs : List Bool) (rest acc : List Char),
    unescapeGo (escapeBody bs cs ++ rest) acc = unescapeGo rest (cs.reverse ++ acc) := by
  intro cs
  induction cs with
  | nil => intro bs rest acc; cases bs <;> simp [escapeBody]
  | cons c cs ih =>
    intro bs rest acc
    cases bs <;> simp only [escapeBody, List.append_assoc, unescapeGo_escChar, ih] <;> simp

theorem litBody_escChar (b : Bool) (c : Char) (rest v r : List Char) (h : '\r' ∉ escChar b c)
    (hv : litBody rest = some (v, r)) : litBody (escChar b c ++ rest) = some (c :: v, r) := by
  rcases escChar_cases b c with ⟨e, h1, h2⟩ | ⟨_, e, ht⟩
  · rw [e] at h ⊢
    rw [List.singleton_append, litBody_plain c rest h2 (by simpa [eq_comm] using h) h1, hv]
  · rw [e, List.cons_append, List.cons_append, List.nil_append, litBody_bs, (esc_spec ht _).2]
    simp only [hv, Option.toList_some, List.singleton_append]

theorem litBody_escapeBody (cs : List Char) (bs : List Bool) (junk : List Char)
    (h : '\r' ∉ escapeBody bs cs) : litBody (escapeBody bs cs ++ '"' :: junk) = some (cs, junk) := by
  induction cs generalizing bs with
  | nil => cases bs <;> simp [escapeBody, litBody]
  | cons c cs ih =>
    cases bs <;>
    · simp only [escapeBody, List.mem_append, not_or] at h
      simp only [escapeBody, List.append_assoc]
      exact litBody_escChar _ _ _ _ _ h.1 (ih _ h.2)

theorem cr_not_mem_escChar_true (c : Char) : '\r' ∉ escChar true c := by
  by_cases hc : c = '\r'
  · subst hc; decide
  · rcases escChar_cases true c with ⟨e, _, _⟩ | ⟨x, e, ht⟩
    · rw [e]; simpa [eq_comm] using hc
    · have : ∀ p ∈ escTable, p.1 ≠ '\r' := by decide
      rw [e]; simpa [eq_comm] using this _ ht

theorem cr_not_mem_escape (cs : List Char) : '\r' ∉ escape cs := by
  unfold escape escapeWith
  have : '\r' ∉ escapeBody [] cs := by
    induction cs with
    | nil => simp [escapeBody]
    | cons c cs ih => simp [escapeBody, cr_not_mem_escChar_true, ih]
  simp [this]

theorem body_of_rustLitValue {lit cs : List Char} (h : rustLitValue lit = some cs) :
    ∃ body rest, lit = '"' :: body ∧ litBody body = some (cs, rest) := by
  unfold rustLitValue rustLitLex at h
  split at h
  · next body =>
    cases hb : litBody body with
    | none => simp [hb] at h
    | some p => exact ⟨body, p.2, rfl, by simp [hb] at h; rw [← h, hb]⟩
  · simp at h

theorem macroAtoms_of_unescape {lit s : List Char} (hu : unescape lit = .ok s) :
    macroAtoms lit = match parse (utf8 s) with
      | .ok atoms => .ok atoms
      | .err k pos => .error (.invalidPattern k pos)
      | .panic site => .error (.parserPanic site)
      | .diverge => .error (.parserPanic "diverge") := by
  unfold macroAtoms; rw [hu]; rfl

end Pelite.Pattern
