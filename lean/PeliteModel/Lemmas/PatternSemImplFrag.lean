import PeliteModel.Lemmas.PatternSemImplMain
/-!
Lemmas for C11 (semantic half): on the fragment `InFragment` the two reference semantics agree.

When no `Many` is trimmed, `dropTrailing true p = p`; when every `[a-b]` retries over its documented scope (`scopeOK`),
backtracking into the continuation is unobservable: `semI … κ = sem … >>= κ`.
-/
namespace Pelite.PatSem
open Pelite.Pattern Pelite.Exec

def DropId (F : List Atom) (n : Nat) (items : List Item) : Prop :=
  ∀ (k : Nat) (pend : Option Nat) (pc q : Nat) (e : Bool), At F pc (comp k pend items) →
    q = pc + (comp k pend items).length → (e = true → n ≤ q) → dropTrailing e items = items

def DropIdAlts (F : List Atom) (n : Nat) (bodies : List (List Item)) : Prop :=
  ∀ (k pc q : Nat) (e : Bool), At F pc (compAlts k bodies) →
    q = pc + (compAlts k bodies).length → (e = true → n ≤ q) → dropTrailingAlts e bodies = bodies

/-- no `Many` behind the cut: no `[a-b]` is a trailing one -/
theorem dropTrailing_id {F : List Atom} {n : Nat} (hcut : Cut F n)
    (hnm : ∀ i a, n ≤ i → F[i]? = some a → isMany a = false) : ∀ items : List Item, DropId F n items := by
  apply seqInd (P := DropId F n) (Q := DropIdAlts F n)
  · intro k pend pc q e _ _ _; rw [dropTrailing]
  · intro it r hp ih k pend pc q e hA hq he
    rw [comp_cons] at hA hq
    rw [dropTrailing_plain e r hp, ih _ _ _ q e hA.right (by rw [hq, add_length_append]) he]
  · intro a b r ih k pend pc q e hA hq he
    rw [comp_range_split] at hA hq
    have hq' := hq.trans (add_length_append _ _ _)
    have hf : (e && r.all trailingItem) = false := by
      cases ht : (e && r.all trailingItem) with
      | false => rfl
      | true =>
        have hn := cut_le hcut (xs := [.many ((b - a) % 256)]) (List.forall_mem_singleton.2 rfl) hA.right hq' he ht
        cases hnm _ _ hn hA.right.left.head
    rw [dropTrailing, hf, if_neg Bool.false_ne_true,
      ih k none _ q e hA.right.right (hq'.trans (add_length_append _ _ _)) he]
  · intro j gap body r ihb ih k pend pc q e hA hq he
    rw [comp_group_split] at hA hq
    have hq' := hq.trans (add_length_append _ _ _)
    rw [dropTrailing, ih _ none _ q e hA.right.right (hq'.trans (add_length_append _ _ _)) he,
      ihb k none _ _ _ hA.left.right (add_length_append _ _ _)
        (cut_le hcut (xs := [.pop]) (List.forall_mem_singleton.2 rfl) hA.right hq' he)]
  · intro bodies r ihb ih k pend pc q e hA hq he
    rw [comp_alt_split] at hA hq
    have hq' := hq.trans (add_length_append _ _ _)
    rw [dropTrailing, ih _ none _ q e hA.right hq' he,
      ihb k _ _ _ hA.left.right (add_length_append _ _ _)
        (cut_le hcut (xs := []) (fun _ h => nomatch h) hA.right hq' he)]
  · intro k pc q e _ _ _; rw [dropTrailingAlts]
  · intro b bs ihb ihbs k pc q e hA hq he
    cases bs with
    | nil =>
      simp only [compAlts] at hA hq
      simp only [dropTrailingAlts]
      rw [ihb k none (pc + 1) q e hA.tail (by rw [hq, List.length_cons]; omega) he]
    | cons b' bs =>
      rw [compAlts_cons2_split] at hA hq
      have hq' := hq.trans (add_length_append _ _ _)
      rw [dropTrailingAlts_cons2, dropTrailing_false,
        ihbs k _ q e hA.right.right (hq'.trans (add_length_append _ _ _)) he]

theorem dropTrailing_of_fragment {p : Pat} (h : InFragment p = true) : dropTrailing true p = p := by
  simp only [InFragment, Bool.and_eq_true, Bool.not_eq_true', List.any_eq_false] at h
  let F := compileRaw p
  have hnm : ∀ i a, (trimEnd F).length ≤ i → F[i]? = some a → isMany a = false := by
    intro i a hle ha
    rw [trim_split F, List.getElem?_append_right hle] at ha
    simpa using h.2 a (List.mem_of_getElem? ha)
  exact dropTrailing_id (cut_trimEnd F) hnm p 1 none 1 F.length true (compileRaw_at p) (compileRaw_length p)
    (fun _ => trimEnd_length_le F)

def Total (κ : Kont) : Prop := ∀ c, (κ c).isSome = true

theorem Total.done : Total Kont.done := fun _ => rfl

theorem bindK_isSome {res : Option (Nat × Caps)} {κ : Kont} (hκ : Total κ) : (bindK res κ).isSome = res.isSome := by
  cases res with
  | none => rfl
  | some x =>
    obtain ⟨c, w⟩ := x
    simp only [bindK]
    have := hκ c
    cases hk : κ c with
    | none => rw [hk] at this; cases this
    | some y => obtain ⟨c2, w2⟩ := y; rfl

theorem firstSome_bindK {f : Nat → Option (Nat × Caps)} {κ : Kont} (hκ : Total κ) :
    ∀ m i, firstSome (fun j => bindK (f j) κ) m i = bindK (firstSome f m i) κ
  | 0, _ => rfl
  | m + 1, i => by
    simp only [firstSome]
    cases hf : f i with
    | none => simp only [bindK]; exact firstSome_bindK hκ m (i + 1)
    | some x =>
      have h1 := bindK_isSome (res := f i) hκ
      rw [hf] at h1
      cases hb : bindK (some x) κ with
      | none => rw [hb] at h1; cases h1
      | some y => rfl

theorem sem_silent (S : ScanI) : ∀ (r : List Item) (k c : Nat), silent r = true → (sem S k r c).isSome = true := by
  intro r
  induction r with
  | nil => intro k c _; rfl
  | cons it r ih =>
    intro k c h
    simp only [silent, List.all_cons, Bool.and_eq_true] at h
    have ihr := fun k c => ih k c (by simpa [silent] using h.2)
    have hit := h.1
    cases it <;> simp only [silentItem, reduceCtorEq, decide_eq_true_eq] at hit
    case ws s =>
      rw [sem_cons S k _ r c (by intro a b h; cases h)]
      simp only [semItem, slotsItem, addCaps_nil]; exact ihr _ _
    case skip m =>
      rw [sem_cons S k _ r c (by intro a b h; cases h)]
      simp only [semItem, slotsItem, addCaps_nil]; exact ihr _ _
    case str bs =>
      subst hit
      rw [sem_cons S k _ r c (by intro a b h; cases h)]
      simp only [semItem, List.map_nil, matchBytes, Option.map_some, slotsItem, addCaps_nil]; exact ihr _ _

/-- matching against `κ` is matching the sequence and then `κ`; where the sequence ends its frame (`t`) a `[a-b]` may
stand in it, and then `κ` must be unable to fail: otherwise the retry over `κ` would be observable -/
def SemEq (S : ScanI) (items : List Item) : Prop :=
  ∀ (k : Nat) (t : Bool) (c : Nat) (κ : Kont), scopeOK t items = true → (t = true → Total κ) →
    semI S k items c κ = bindK (sem S k items c) κ

def SemEqAlts (S : ScanI) (bodies : List (List Item)) : Prop :=
  ∀ (k : Nat) (tl : Bool) (c : Nat) (κ : Kont), scopeOKAlts tl bodies = true → (tl = true → Total κ) →
    semAltsI S k bodies c κ = bindK (semAlts S k bodies c) κ

theorem semI_cons_eq_sem {S : ScanI} {k : Nat} {it : Item} {r : List Item} {c : Nat} {κ : Kont}
    (hnr : ∀ a b, it ≠ .range a b)
    (hit : semI S k (it :: r) c κ = bindK (semItem S k it c) (fun c1 => semI S (slotsItem k it) r c1 κ))
    (ih : ∀ c1, semI S (slotsItem k it) r c1 κ = bindK (sem S (slotsItem k it) r c1) κ) :
    semI S k (it :: r) c κ = bindK (sem S k (it :: r) c) κ := by
  rw [hit, funext ih, bindK_assoc, sem_cons S k it r c hnr]
  rfl

theorem semI_eq_sem_both (S : ScanI) : (∀ items : List Item, SemEq S items) ∧ (∀ bodies : List (List Item), SemEqAlts S bodies) := by
  apply seqAltsInd (P := SemEq S) (Q := SemEqAlts S)
  · intro k t c κ _ _
    rw [semI, sem]
    simp [bindK, addCaps_nil]
  · intro it r hp ih k t c κ hsc hκ
    rw [scopeOK_plain t r hp] at hsc
    exact semI_cons_eq_sem (plain_ne hp).1 (semI_plain S k r c κ hp) (fun c1 => ih _ t c1 κ hsc hκ)
  · intro a b r ih k t c κ hsc hκ
    simp only [scopeOK, Bool.and_eq_true] at hsc
    rw [semI, sem]
    cases S.slice (addRva c a) with
    | none => rfl
    | some ol =>
      simp only [ih k t _ κ hsc.2 hκ]
      exact firstSome_bindK (f := fun i => sem S k r (addRva (addRva c a) i)) (hκ hsc.1) _ _
  · intro j gap body r ihb ih k t c κ hsc hκ
    simp only [scopeOK, Bool.and_eq_true] at hsc
    refine semI_cons_eq_sem (fun _ _ h => nomatch h) ?_ (fun c1 => ih _ t c1 κ hsc.2 hκ)
    rw [semI_group_eq]
    congr 1
    -- the body is a frame of its own in both
    unfold groupRes
    simp only [semItem]
    cases j.target S c with
    | none => rfl
    | some tg =>
      simp only [ihb k true tg Kont.done hsc.1 (fun _ => Total.done), bindK_done]
      rfl
  · intro bodies r ihb ih k t c κ hsc hκ
    simp only [scopeOK, Bool.and_eq_true] at hsc
    refine semI_cons_eq_sem (fun _ _ h => nomatch h) ?_ (fun c1 => ih _ t c1 κ hsc.2 hκ)
    rw [semI]
    refine ihb k (t && silent r) c _ hsc.1 (fun htl c1 => ?_)
    -- behind a last alternative that ends its frame only silent items follow: the rest cannot fail
    rw [Bool.and_eq_true] at htl
    rw [ih _ t c1 κ hsc.2 hκ, bindK_isSome (hκ htl.1)]
    exact sem_silent S r _ _ htl.2
  · intro k tl c κ _ _
    simp [semAltsI, semAlts, bindK]
  · intro b bs ihb ihbs k tl c κ hsc hκ
    cases bs with
    | nil =>
      simp only [scopeOKAlts] at hsc
      simp only [semAltsI, semAlts]
      rw [ihb k tl c κ hsc hκ]
      cases sem S k b c <;> rfl
    | cons b' bs =>
      rw [scopeOKAlts_cons2, Bool.and_eq_true] at hsc
      rw [semAltsI_cons2, ihb k true c Kont.done hsc.1 (fun _ => Total.done), bindK_done]
      have hsa : semAlts S k (b :: b' :: bs) c =
          match sem S k b c with
          | some r => some r
          | none => semAlts S k (b' :: bs) c := by rw [semAlts]; rfl
      rw [hsa]
      cases sem S k b c with
      | none => exact ihbs k tl c κ hsc.2 hκ
      | some x => obtain ⟨c1, w1⟩ := x; rfl

theorem semI_eq_sem (S : ScanI) : ∀ items : List Item, SemEq S items := (semI_eq_sem_both S).1

theorem denoteImpl_eq_denote (S : ScanI) {p : Pat} (h : InFragment p = true) (c : Nat) :
    denoteImpl S p c = denote S p c := by
  have hsc : scopeOK true p = true := by
    simp only [InFragment, Bool.and_eq_true] at h; exact h.1
  unfold denoteImpl denote
  rw [dropTrailing_of_fragment h, semI_eq_sem S p 1 true c Kont.done hsc (fun _ => Total.done), bindK_done]

section Run
variable {S : ScanI} (hS : S.WF) {U : List Atom}
include hS

/-- T2 on the fragment as a statement about a PIECE of code: wherever the code of the alternatives of a `( | )` stands in a
program `U` — inside a hand-written atom list as well — running it is running what follows it from the documented cursor,
with the documented captures in the save array (`Runs`); with `tl = false` nothing is asked of what follows.  It is the one
user of an arbitrary return (`goOn`, `runs_iff_runsK`) and of the disjunct `scopeOK false … = true` of `SeqOK` / `AltsOK`;
whole patterns use `RetTrue` -/
theorem alts_runs (hB : ∀ b, Atom.byte b ∈ U → b < 256) (hC : Coherent S) :
    ∀ (bodies : List (List Item)) (k d pc c : Nat) (sv : Array Nat) (pcR : Nat) (tl : Bool), bodies ≠ [] →
    wfAlts d bodies = true → scopeOKAlts tl bodies = true → At U pc (compAlts k bodies) → c < 4294967296 →
    (tl = true → IsTerm S U (pc + (compAlts k bodies).length) pcR) →
    Runs S U k pc (compAlts k bodies).length 0 c sv (semAlts S k bodies c) := by
  intro bodies k d pc c sv pcR tl hne hwf hsc hA hc hterm
  have hn : ¬ max U.length (pc + (compAlts k bodies).length) + 1 ≤ pc + (compAlts k bodies).length := by omega
  have h := (comp_runsK_both hS (Cut.none (n := max U.length (pc + (compAlts k bodies).length) + 1) (by omega)) hB hC).2
    bodies k d pc _ c sv (goOn S U (pc + (compAlts k bodies).length)) false false Kont.done hne hwf hA rfl hc
    ⟨nofun, fun h => absurd h hn⟩ id ?_
  · rw [List.take_of_length_le (by omega)] at h
    have := h fun c1 sv1 hc1 => ⟨sv1, .inl rfl, SaveOK.refl _ _, Writes.nil _, hc1⟩
    rwa [dropTrailing_false_both.2, (semI_eq_sem_both S).2 bodies k tl c Kont.done hsc (fun _ => Total.done), bindK_done,
      ← runs_iff_runsK] at this
  · cases tl with
    | false => exact .inl hsc
    | true => exact .inr fun c1 sv1 => congrArg Prod.fst (hterm rfl c1 sv1)

end Run

end Pelite.PatSem
