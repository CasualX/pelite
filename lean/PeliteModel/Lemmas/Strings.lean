import PeliteModel.Spec.Strings
/-! Helper lemmas for C20 and, for the enumerator as an iterator, C18. -/
namespace Pelite.Strings

theorem printableTable_eq : Generated.printableTable = (List.range 256).map specPrintable := by decide +kernel

/-- Regenerated table = documented set.  Re-checked by the kernel against the table the probe
extracted from the current source. -/
theorem printable_table_eq_spec : ∀ b, b < 256 → printable b = specPrintable b := by
  intro b hb
  unfold printable
  rw [printableTable_eq, List.getD_eq_getElem?_getD, List.getElem?_map, List.getElem?_range hb]
  rfl

theorem printable_byteAt (bytes : Bytes) (j : Nat) :
    printable (byteAt bytes j) = specPrintable (byteAt bytes j) :=
  printable_table_eq_spec _ (byteAt_lt bytes j)

theorem specPrintable_zero : specPrintable 0 = false := by decide

/-- left boundary: a run may start at `s` -/
def Bnd (bytes : Bytes) (s : Nat) : Prop := s = 0 ∨ specPrintable (byteAt bytes (s - 1)) = false

/-- all bytes in `[s,i)` printable -/
def AllP (bytes : Bytes) (s i : Nat) : Prop := ∀ j, s ≤ j → j < i → specPrintable (byteAt bytes j) = true

theorem AllP_step {bytes s i} (h : AllP bytes s i) (hp : specPrintable (byteAt bytes i) = true) :
    AllP bytes s (i+1) := by
  intro j h1 h2
  by_cases hj : j = i
  · subst hj; exact hp
  · exact h j h1 (by omega)

theorem AllP_empty (bytes s) : AllP bytes s s := by intro j h1 h2; omega

/-- `[s, e)` is a maximal printable run that may start at `s` -/
structure Run (bytes : Bytes) (s e : Nat) : Prop where
  bnd : Bnd bytes s
  le : s ≤ e
  fits : e ≤ bytes.size
  all : AllP bytes s e
  stop : e < bytes.size → specPrintable (byteAt bytes e) = false

theorem qual_start {bytes cfg g s i} (hq : Qualifies bytes cfg g) (hs : s ≤ g.start)
    (hall : AllP bytes s i) : g.start = s ∨ i < g.start := by
  rcases hq.2.2.2.1 with hb | hb
  · omega
  · by_cases hlt : s < g.start ∧ g.start ≤ i
    · rw [hall (g.start - 1) (by omega) (by omega)] at hb; cases hb
    · omega

theorem qual_len {bytes cfg g s e} (hq : Qualifies bytes cfg g) (hs : g.start = s) (hr : Run bytes s e) :
    g.len = e - s := by
  obtain ⟨_, hsz, hp, _, hk⟩ := hq
  have h1 : ¬ (e < g.start + g.len) := fun h => by
    have := hr.stop (by omega)
    rw [hp e (by have := hr.le; omega) h] at this; cases this
  have h2 : ¬ (g.start + g.len < e) := fun h => by
    have hpr := hr.all (g.start + g.len) (by omega) h
    rcases hk with ⟨_, hz, _⟩ | ⟨_, _, hnp, _⟩ | ⟨he, _⟩
    · rw [hz, specPrintable_zero] at hpr; cases hpr
    · rw [hpr] at hnp; cases hnp
    · have := hr.fits; omega
  omega

/-- The case distinction the enumerator and the reference share: the run `[s, e)` as a `Found`, if it meets the
threshold of what ends it (NUL, another byte, the end of the buffer). -/
def runAt (bytes : Bytes) (cfg : Config) (s e : Nat) : Option Found :=
  if e < bytes.size then
    if byteAt bytes e = 0 then (if cfg.minLenNul ≤ e - s then some ⟨s, e - s, true⟩ else none)
    else if !cfg.strictNul ∧ cfg.minLen ≤ e - s then some ⟨s, e - s, false⟩ else none
  else if !cfg.strictNul ∧ cfg.minLen ≤ e - s then some ⟨s, e - s, false⟩ else none

theorem runAt_eq_some_iff {bytes : Bytes} {cfg : Config} {s e : Nat} (hr : Run bytes s e) (hlt : s < e) (g : Found) :
    runAt bytes cfg s e = some g ↔ Qualifies bytes cfg g ∧ g.start = s := by
  have hse : s + (e - s) = e := by omega
  have hfits := hr.fits
  -- the conjuncts of `Qualifies` that do not depend on what ends the run
  have base : ∀ n, 1 ≤ (Found.mk s (e - s) n).len ∧ (Found.mk s (e - s) n).start + (Found.mk s (e - s) n).len ≤ bytes.size ∧
      (∀ j, s ≤ j → j < s + (e - s) → specPrintable (byteAt bytes j) = true) ∧
      (s = 0 ∨ specPrintable (byteAt bytes (s - 1)) = false) :=
    fun n => ⟨by simp only; omega, by simp only; omega, fun j h1 h2 => hr.all j h1 (by omega), hr.bnd⟩
  constructor
  · intro h
    unfold runAt at h
    split at h
    · next he =>
      split at h
      · next hz =>
        split at h
        · next hm =>
          cases h
          obtain ⟨b1, b2, b3, b4⟩ := base true
          exact ⟨⟨b1, b2, b3, b4, .inl ⟨by simp only; omega, by simp only; rw [hse]; exact hz, rfl, hm⟩⟩, rfl⟩
        · cases h
      · next hz =>
        split at h
        · next hm =>
          cases h
          obtain ⟨b1, b2, b3, b4⟩ := base false
          exact ⟨⟨b1, b2, b3, b4, .inr (.inl ⟨by simp only; omega, by simp only; rw [hse]; exact hz,
            by simp only; rw [hse]; exact hr.stop he, rfl, by simpa using hm.1, hm.2⟩)⟩, rfl⟩
        · cases h
    · next he =>
      split at h
      · next hm =>
        cases h
        obtain ⟨b1, b2, b3, b4⟩ := base false
        exact ⟨⟨b1, b2, b3, b4, .inr (.inr ⟨by simp only; omega, rfl, by simpa using hm.1, hm.2⟩)⟩, rfl⟩
      · cases h
  · rintro ⟨hq, hs⟩
    have hl := qual_len hq hs hr
    obtain ⟨gs, gl, gn⟩ := g
    simp only at hs hl
    subst hs hl
    have hk := hq.2.2.2.2
    simp only [hse] at hk
    unfold runAt
    rcases hk with ⟨h1, h2, h3, h4⟩ | ⟨h1, h2, _, h3, h4, h5⟩ | ⟨h1, h3, h4, h5⟩
    · rw [if_pos h1, if_pos h2, if_pos h4, h3]
    · rw [if_pos h1, if_neg h2, if_pos ⟨by simp [h4], h5⟩, h3]
    · rw [if_neg (by omega), if_pos ⟨by simp [h4], h5⟩, h3]

theorem runAt_len {bytes : Bytes} {cfg : Config} {s e : Nat} {g : Found} (h : runAt bytes cfg s e = some g) :
    cfg.minLen ≤ e - s ∨ cfg.minLenNul ≤ e - s := by
  unfold runAt at h
  by_cases h1 : cfg.minLen ≤ e - s
  · exact .inl h1
  · by_cases h2 : cfg.minLenNul ≤ e - s
    · exact .inr h2
    · simp [h1, h2] at h

/-! ### `scan` = skip printable bytes, then `runAt` or start afresh -/

theorem scan_printable {bytes : Bytes} {cfg : Config} {start i : Nat} (hlt : i < bytes.size)
    (hp : printable (byteAt bytes i) = true) : scan bytes cfg start i = scan bytes cfg start (i + 1) := by
  rw [scan, if_pos hlt]
  simp only [hp, if_true]

theorem scan_stop {bytes : Bytes} {cfg : Config} {start i : Nat} (hm : 1 ≤ cfg.minLen)
    (hstop : i < bytes.size → printable (byteAt bytes i) = false) :
    scan bytes cfg start i =
      match runAt bytes cfg start i with
      | some f => some (f, if i < bytes.size then i + 1 else i)
      | none => if i < bytes.size then scan bytes cfg (i + 1) (i + 1) else none := by
  rw [scan]
  unfold runAt
  by_cases hlt : i < bytes.size
  · simp only [if_pos hlt, hstop hlt, Bool.false_eq_true, if_false, ge_iff_le]
    by_cases hz : byteAt bytes i = 0
    · simp only [if_pos hz]; split <;> rfl
    · simp only [if_neg hz]
      cases cfg.strictNul
      · simp only [Bool.not_false, if_true, true_and]; split <;> rfl
      · simp
  · simp only [if_neg hlt, ge_iff_le]
    by_cases hc : (!cfg.strictNul) = true ∧ cfg.minLen ≤ i - start
    · -- the code also asks `start ≠ i`: that is `1 ≤ minLen ≤ i - start`
      rw [if_pos hc, if_pos ⟨by omega, hc.1, hc.2⟩]
    · rw [if_neg hc, if_neg (fun h => hc ⟨h.2.1, h.2.2⟩)]

/-- `next` from the run boundary `start`: the first qualifying run at or after it -/
def ScanPost (bytes : Bytes) (cfg : Config) (start : Nat) : Option (Found × Nat) → Prop
  | none => ∀ g, Qualifies bytes cfg g → start ≤ g.start → False
  | some (f, off') =>
      Qualifies bytes cfg f ∧ start ≤ f.start ∧
      (off' = f.start + f.len + 1 ∨ (off' = f.start + f.len ∧ off' = bytes.size)) ∧
      off' ≤ bytes.size ∧ (off' < bytes.size → Bnd bytes off') ∧
      (∀ g, Qualifies bytes cfg g → start ≤ g.start → g.start < off' → g = f)

theorem ScanPost_weaken {bytes cfg start s' r} (hle : start ≤ s')
    (hno : ∀ g, Qualifies bytes cfg g → start ≤ g.start → g.start < s' → False)
    (h : ScanPost bytes cfg s' r) : ScanPost bytes cfg start r := by
  have key : ∀ g, Qualifies bytes cfg g → start ≤ g.start → s' ≤ g.start := fun g hq hs =>
    Nat.le_of_not_lt (hno g hq hs)
  match r, h with
  | none, h => exact fun g hq hs => h g hq (key g hq hs)
  | some (f, off'), ⟨a, b, c, d, e, u⟩ =>
    exact ⟨a, by omega, c, d, e, fun g hq hs hlt => u g hq (key g hq hs) hlt⟩

theorem scan_post {bytes : Bytes} {cfg : Config} (hm : 1 ≤ cfg.minLen) (hn : 1 ≤ cfg.minLenNul)
    (start i : Nat) (hsi : start ≤ i) (hi : i ≤ bytes.size) (hb : Bnd bytes start)
    (hall : AllP bytes start i) : ScanPost bytes cfg start (scan bytes cfg start i) := by
  generalize hk : bytes.size - i = k
  induction k using Nat.strongRecOn generalizing start i with
  | ind k ih =>
  by_cases hp : i < bytes.size ∧ printable (byteAt bytes i) = true
  · rw [scan_printable hp.1 hp.2]
    exact ih _ (by omega) start (i + 1) (by omega) (by omega) hb
      (AllP_step hall (by rw [← printable_byteAt]; exact hp.2)) rfl
  · have hstop : i < bytes.size → printable (byteAt bytes i) = false := fun h => by
      cases hc : printable (byteAt bytes i) with
      | false => rfl
      | true => exact absurd ⟨h, hc⟩ hp
    have hr : Run bytes start i := ⟨hb, hsi, hi, hall, fun h => by rw [← printable_byteAt]; exact hstop h⟩
    have key : ∀ g, Qualifies bytes cfg g → start ≤ g.start → g.start ≤ i → runAt bytes cfg start i = some g := by
      intro g hq hs hle
      have hgs : g.start = start := by have := qual_start hq hs hall; omega
      have := qual_len hq hgs hr
      exact (runAt_eq_some_iff hr (by have := hq.1; omega) g).2 ⟨hq, hgs⟩
    have hbnd : i + 1 < bytes.size → Bnd bytes (i + 1) := fun h => .inr (hr.stop (by omega))
    rw [scan_stop hm hstop]
    cases hrun : runAt bytes cfg start i with
    | some f =>
      -- thresholds ≥ 1 make the reported run non-empty (`Qualifies` wants a length ≥ 1)
      obtain ⟨hq, hfs⟩ := (runAt_eq_some_iff hr (by have := runAt_len hrun; omega) f).1 hrun
      have hfl := qual_len hq hfs hr
      refine ⟨hq, by omega, ?_, ?_, ?_, fun g hg hs hlt => ?_⟩
      · split <;> omega
      · split <;> omega
      · split
        · exact hbnd
        · omega
      · have := key g hg hs (by split at hlt <;> omega)
        rw [hrun] at this
        exact (Option.some.inj this).symm
    | none =>
      have hno : ∀ g, Qualifies bytes cfg g → start ≤ g.start → g.start ≤ i → False := fun g hg hs hle => by
        have := key g hg hs hle; rw [hrun] at this; cases this
      by_cases hlt : i < bytes.size
      · simp only [if_pos hlt]
        exact ScanPost_weaken (by omega) (fun g hg hs h => hno g hg hs (by omega))
          (ih _ (by omega) (i + 1) (i + 1) (Nat.le_refl _) (by omega) (.inr (hr.stop hlt)) (AllP_empty _ _) rfl)
      · simp only [if_neg hlt]
        exact fun g hg hs => hno g hg hs (by have := hg.1; have := hg.2.1; omega)

theorem next_post {bytes : Bytes} {cfg : Config} (hm : 1 ≤ cfg.minLen) (hn : 1 ≤ cfg.minLenNul) {off : Nat}
    (hoff : off ≤ bytes.size) (hb : Bnd bytes off) : ScanPost bytes cfg off (next bytes cfg off) :=
  scan_post hm hn off off (Nat.le_refl _) hoff hb (AllP_empty _ _)

/-! ### the enumerator as an iterator: `None` is absorbing, the provided methods, call histories (C18) -/

theorem step_of_none {bytes : Bytes} {cfg : Config} {off : Nat} (h : next bytes cfg off = none) :
    step bytes cfg off = (none, off) := by
  unfold step; rw [h]

theorem nexts_of_none {bytes : Bytes} {cfg : Config} {off : Nat} (h : next bytes cfg off = none) (n : Nat) :
    nexts bytes cfg off n = List.replicate n none := by
  induction n with
  | zero => rfl
  | succ n ih => rw [nexts, step_of_none h, ih, List.replicate_succ]

theorem next_finalOff (bytes : Bytes) (cfg : Config) (fuel off : Nat) (hfuel : bytes.size - off < fuel) :
    next bytes cfg (finalOff bytes cfg fuel off) = none := by
  induction fuel generalizing off with
  | zero => omega
  | succ fuel ih =>
    unfold finalOff
    cases h : next bytes cfg off with
    | none => exact h
    | some p =>
      obtain ⟨f, off'⟩ := p
      have := next_decreases h
      exact ih off' (by omega)

theorem itemsFrom_of_none {bytes : Bytes} {cfg : Config} {off : Nat} (h : next bytes cfg off = none) :
    itemsFrom bytes cfg off = [] := by
  rw [itemsFrom]
  split
  · rfl
  · next f off' h' => rw [h] at h'; cases h'

theorem itemsFrom_of_some {bytes : Bytes} {cfg : Config} {off : Nat} {f : Found} {off' : Nat}
    (h : next bytes cfg off = some (f, off')) :
    itemsFrom bytes cfg off = f :: itemsFrom bytes cfg off' := by
  rw [itemsFrom]
  split
  · next h' => rw [h] at h'; cases h'
  · next f1 off1 h' => rw [h] at h'; cases h'; rfl

theorem nthFound_spec (bytes : Bytes) (cfg : Config) (k off : Nat) :
    (nthFound bytes cfg off k).1 = (itemsFrom bytes cfg off)[k]? ∧
    itemsFrom bytes cfg (nthFound bytes cfg off k).2 = (itemsFrom bytes cfg off).drop (k + 1) := by
  induction k generalizing off with
  | zero =>
    unfold nthFound step
    cases h : next bytes cfg off with
    | none => simp [itemsFrom_of_none h]
    | some p => obtain ⟨f, off'⟩ := p; simp [itemsFrom_of_some h]
  | succ k ih =>
    unfold nthFound
    cases h : next bytes cfg off with
    | none => simp [itemsFrom_of_none h]
    | some p =>
      obtain ⟨f, off'⟩ := p
      obtain ⟨h1, h2⟩ := ih off'
      simp only [itemsFrom_of_some h, List.getElem?_cons_succ, List.drop_succ_cons]
      exact ⟨h1, h2⟩

theorem countFound_eq (bytes : Bytes) (cfg : Config) (off n : Nat) :
    countFound bytes cfg off n = n + (itemsFrom bytes cfg off).length := by
  fun_induction countFound bytes cfg off n with
  | case1 off n h => rw [itemsFrom_of_none h]; rfl
  | case2 off n f off' h _ ih => rw [ih, itemsFrom_of_some h, List.length_cons]; omega

theorem enumAll_eq_itemsFrom (bytes : Bytes) (cfg : Config) (fuel off : Nat) (hfuel : bytes.size - off < fuel) :
    enumAll bytes cfg fuel off = .ok (itemsFrom bytes cfg off) := by
  induction fuel generalizing off with
  | zero => omega
  | succ fuel ih =>
    unfold enumAll
    cases h : next bytes cfg off with
    | none => simp only [itemsFrom_of_none h]
    | some p =>
      obtain ⟨f, off'⟩ := p
      have := next_decreases h
      simp only [ih off' (by omega), itemsFrom_of_some h]

open Pelite.Seq

theorem stepOp_spec (bytes : Bytes) (cfg : Config) (off : Nat) (o : Seq.Op) :
    (stepOp bytes cfg off o).1 = (stepSeq Hint.unknown (itemsFrom bytes cfg off) o).1 ∧
    itemsFrom bytes cfg (stepOp bytes cfg off o).2 = (stepSeq Hint.unknown (itemsFrom bytes cfg off) o).2 := by
  cases o with
  | next =>
    unfold stepOp step
    cases h : next bytes cfg off with
    | none => simp [stepSeq, DequeSpec.next, itemsFrom_of_none h]
    | some p => obtain ⟨f, off'⟩ := p; simp [stepSeq, DequeSpec.next, itemsFrom_of_some h]
  | nth n =>
    obtain ⟨h1, h2⟩ := nthFound_spec bytes cfg n off
    simp [stepOp, stepSeq, DequeSpec.nth, h1, h2]
  | sizeHint => simp [stepOp, stepSeq, sizeHintFound, Hint.unknown]
  | count => simp [stepOp, stepSeq, countFound_eq]
  | clone => simp [stepOp, stepSeq]

theorem runOps_eq_runSeq (bytes : Bytes) (cfg : Config) (ops : List Seq.Op) (off : Nat) :
    runOps bytes cfg off ops = runSeq Hint.unknown (itemsFrom bytes cfg off) ops := by
  induction ops generalizing off with
  | nil => rfl
  | cons o os ih =>
    obtain ⟨h1, h2⟩ := stepOp_spec bytes cfg off o
    rw [runOps, runSeq, ih, h1, h2]

/-! ### the executable reference `specAll` against `Qualifies` -/

theorem runEnd_spec (bytes : Bytes) : ∀ (fuel s : Nat), bytes.size - s ≤ fuel →
    s ≤ runEnd bytes s fuel ∧ (s ≤ bytes.size → runEnd bytes s fuel ≤ bytes.size) ∧
    AllP bytes s (runEnd bytes s fuel) ∧
    (runEnd bytes s fuel < bytes.size → specPrintable (byteAt bytes (runEnd bytes s fuel)) = false) := by
  intro fuel
  induction fuel with
  | zero =>
    intro s h
    unfold runEnd
    exact ⟨Nat.le_refl _, fun h => h, AllP_empty _ _, fun h' => by omega⟩
  | succ fuel ih =>
    intro s h
    unfold runEnd
    by_cases hc : s < bytes.size ∧ specPrintable (byteAt bytes s) = true
    · rw [if_pos hc]
      obtain ⟨h1, h2, h3, h4⟩ := ih (s + 1) (by omega)
      refine ⟨by omega, fun _ => h2 (by omega), ?_, h4⟩
      intro j hj1 hj2
      by_cases hj : j = s
      · subst hj; exact hc.2
      · exact h3 j (by omega) hj2
    · rw [if_neg hc]
      refine ⟨Nat.le_refl _, fun h => h, AllP_empty _ _, fun h' => ?_⟩
      cases hp : specPrintable (byteAt bytes s) with
      | false => rfl
      | true => exact absurd ⟨h', hp⟩ hc

theorem specRunAt_eq_some_iff (bytes : Bytes) (cfg : Config) (s : Nat) (g : Found) :
    specRunAt bytes cfg s = some g ↔ Qualifies bytes cfg g ∧ g.start = s := by
  obtain ⟨e1, e2, e3, e4⟩ := runEnd_spec bytes (bytes.size - s) s (Nat.le_refl _)
  unfold specRunAt
  generalize runEnd bytes s (bytes.size - s) = e at *
  by_cases hc : s < bytes.size ∧ (s = 0 ∨ specPrintable (byteAt bytes (s - 1)) = false)
  · have hr : Run bytes s e := ⟨hc.2, e1, e2 (by omega), e3, e4⟩
    rw [if_pos hc]
    by_cases hl : e - s = 0
    · simp only [if_pos hl]
      refine ⟨nofun, fun ⟨hq, hs⟩ => ?_⟩
      have := qual_len hq hs hr
      have := hq.1
      omega
    · simp only [if_neg hl]
      exact runAt_eq_some_iff hr (by omega) g
  · rw [if_neg hc]
    refine ⟨nofun, fun ⟨hq, hs⟩ => absurd ⟨?_, hs ▸ hq.2.2.2.1⟩ hc⟩
    have := hq.1; have := hq.2.1; omega

theorem mem_specAll (bytes : Bytes) (cfg : Config) (g : Found) :
    g ∈ specAll bytes cfg ↔ Qualifies bytes cfg g := by
  unfold specAll
  rw [List.mem_filterMap]
  constructor
  · rintro ⟨s, _, hs⟩
    exact ((specRunAt_eq_some_iff bytes cfg s g).1 hs).1
  · intro hq
    refine ⟨g.start, List.mem_range.2 ?_, (specRunAt_eq_some_iff bytes cfg g.start g).2 ⟨hq, rfl⟩⟩
    have := hq.1; have := hq.2.1; omega

theorem specAll_sorted (bytes : Bytes) (cfg : Config) :
    (specAll bytes cfg).Pairwise (fun a b => a.start < b.start) := by
  unfold specAll
  refine List.Pairwise.filterMap _ ?_ List.pairwise_lt_range
  intro s s' hlt g hg g' hg'
  rw [((specRunAt_eq_some_iff bytes cfg s g).1 hg).2, ((specRunAt_eq_some_iff bytes cfg s' g').1 hg').2]
  exact hlt

theorem sorted_ext {α : Type} (k : α → Nat) (l1 l2 : List α)
    (h1 : l1.Pairwise (fun a b => k a < k b)) (h2 : l2.Pairwise (fun a b => k a < k b))
    (hm : ∀ g, g ∈ l1 ↔ g ∈ l2) : l1 = l2 :=
  have nd : ∀ {l : List α}, l.Pairwise (fun a b => k a < k b) → l.Nodup :=
    fun h => h.imp (fun h e => by rw [e] at h; omega)
  ((List.perm_ext_iff_of_nodup (nd h1) (nd h2)).2 hm).eq_of_pairwise (fun a b _ _ h h' => by omega) h1 h2

/-! ### the `u32` offset field -/

theorem next_off_le {bytes : Bytes} {cfg : Config} {off : Nat} {f : Found} {off' : Nat}
    (h : next bytes cfg off = some (f, off')) : off' ≤ bytes.size := by
  by_cases hoff : bytes.size ≤ off
  · rw [next_beyond hoff] at h; cases h
  · exact (next_progress (by omega) h).2

theorem nextT_eq_next (bytes : Bytes) (cfg : Config) (h : bytes.size < 4294967296) :
    nextT bytes cfg = next bytes cfg := by
  funext off
  unfold nextT
  cases hn : next bytes cfg off with
  | none => rfl
  | some p =>
    obtain ⟨f, off'⟩ := p
    have := next_off_le hn
    simp only [trunc32]
    rw [Nat.mod_eq_of_lt (by omega)]

theorem addressT_eq (base : Nat) (f : Found) : addressT base f = address base f := by
  unfold addressT address trunc32 wadd32
  omega

theorem enumAll_eq_itemsW (bytes : Bytes) (cfg : Config) : ∀ (fuel off : Nat),
    enumAll bytes cfg fuel off = itemsW (next bytes cfg) fuel off := by
  intro fuel
  induction fuel with
  | zero => intro off; rfl
  | succ fuel ih =>
    intro off
    unfold enumAll itemsW
    cases next bytes cfg off with
    | none => rfl
    | some p => obtain ⟨f, off'⟩ := p; simp only [ih]

theorem stepW_next (bytes : Bytes) (cfg : Config) (off : Nat) : stepW (next bytes cfg) off = step bytes cfg off := by
  unfold stepW step
  cases next bytes cfg off with
  | none => rfl
  | some p => rfl

theorem nthW_next (bytes : Bytes) (cfg : Config) : ∀ (k off : Nat),
    nthW (next bytes cfg) off k = nthFound bytes cfg off k := by
  intro k
  induction k with
  | zero => intro off; unfold nthW nthFound; exact stepW_next bytes cfg off
  | succ k ih =>
    intro off
    unfold nthW nthFound
    cases next bytes cfg off with
    | none => rfl
    | some p => obtain ⟨f, off'⟩ := p; exact ih off'

theorem itemsW_next (bytes : Bytes) (cfg : Config) (fuel off : Nat) (hfuel : bytes.size - off < fuel) :
    itemsW (next bytes cfg) fuel off = .ok (itemsFrom bytes cfg off) := by
  rw [← enumAll_eq_itemsW]
  exact enumAll_eq_itemsFrom bytes cfg fuel off hfuel

theorem countW_next (bytes : Bytes) (cfg : Config) : ∀ (fuel off n : Nat), bytes.size - off < fuel →
    countW (next bytes cfg) fuel off n = .ok (countFound bytes cfg off n) := by
  intro fuel
  induction fuel with
  | zero => intro off n h; omega
  | succ fuel ih =>
    intro off n hfuel
    unfold countW
    cases h : next bytes cfg off with
    | none => simp only [countFound_eq, itemsFrom_of_none h, List.length_nil, Nat.add_zero]
    | some p =>
      obtain ⟨f, off'⟩ := p
      have := next_decreases h
      simp only
      rw [ih off' (n + 1) (by omega), countFound_eq, countFound_eq, itemsFrom_of_some h, List.length_cons]
      congr 1
      omega

theorem stepOpW_next (bytes : Bytes) (cfg : Config) (fuel off : Nat) (hfuel : bytes.size - off < fuel) (o : Op) :
    stepOpW (next bytes cfg) fuel off o = .ok (stepOp bytes cfg off o) := by
  cases o with
  | next => simp only [stepOpW, stepOp, stepW_next]
  | nth n => simp only [stepOpW, stepOp, nthW_next]
  | sizeHint => rfl
  | count => simp only [stepOpW, stepOp, countW_next bytes cfg fuel off 0 hfuel, Out.bind_ok]
  | clone => simp only [stepOpW, stepOp, itemsW_next bytes cfg fuel off hfuel, Out.bind_ok]

theorem runOpsW_next (bytes : Bytes) (cfg : Config) (fuel : Nat) (hfuel : bytes.size < fuel) :
    ∀ (ops : List Op) (off : Nat), runOpsW (next bytes cfg) fuel off ops = .ok (runOps bytes cfg off ops) := by
  intro ops
  induction ops with
  | nil => intro off; rfl
  | cons o os ih =>
    intro off
    unfold runOpsW runOps
    rw [stepOpW_next bytes cfg fuel off (by omega) o]
    simp only [Out.bind_ok]
    rw [ih]
    rfl

end Pelite.Strings
