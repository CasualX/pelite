import PeliteModel.Spec.Convert
import PeliteModel.Lemmas.PeHdr
/-! Helper lemmas for C06: algebra of `blit`, the section-copy step shared by `to_view` and
`to_file`, the fold over the section table, the initial (zero filled + headers) vector; `HdrAgree`;
the hand-built PE32 file `tinyPe` of the C06 and C03 witnesses. -/
namespace Pelite.Pe

theorem blit_size (dst src : Bytes) (doff soff len : Nat) (hd : doff + len ≤ dst.size)
    (hs : soff + len ≤ src.size) : (blit dst doff src soff len).size = dst.size := by
  unfold blit
  simp only [Array.size_append, Array.size_extract]
  omega

theorem blit_getElem? (dst src : Bytes) (doff soff len : Nat) (hd : doff + len ≤ dst.size)
    (hs : soff + len ≤ src.size) (i : Nat) :
    (blit dst doff src soff len)[i]? =
      if doff ≤ i ∧ i < doff + len then src[soff + (i - doff)]? else dst[i]? := by
  unfold blit
  simp only [Array.getElem?_append, Array.size_append, Array.size_extract, Array.getElem?_extract]
  have e1 : min doff dst.size - 0 = doff := by omega
  have e2 : min (soff + len) src.size - soff = len := by omega
  have e3 : min dst.size dst.size - (doff + len) = dst.size - (doff + len) := by omega
  rw [e1, e2, e3]
  by_cases h1 : i < doff
  · have a1 : i < doff + len := by omega
    have a2 : ¬ (doff ≤ i ∧ i < doff + len) := by omega
    rw [if_neg a2]
    simp only [a1, h1, if_true, Nat.zero_add]
  · by_cases h2 : i < doff + len
    · have a2 : (doff ≤ i ∧ i < doff + len) := by omega
      have a3 : i - doff < len := by omega
      rw [if_pos a2]
      simp only [h1, h2, a3, if_true, if_false]
    · have a2 : ¬ (doff ≤ i ∧ i < doff + len) := by omega
      rw [if_neg a2]
      simp only [h2, if_false]
      by_cases h3 : i < dst.size
      · have a4 : i - (doff + len) < dst.size - (doff + len) := by omega
        rw [if_pos a4]; congr 1; omega
      · have a4 : ¬ i - (doff + len) < dst.size - (doff + len) := by omega
        rw [if_neg a4]; simp; omega

theorem byteAt_blit_in (dst src : Bytes) (doff soff len : Nat) (hd : doff + len ≤ dst.size)
    (hs : soff + len ≤ src.size) (j : Nat) (hj : j < len) :
    byteAt (blit dst doff src soff len) (doff + j) = byteAt src (soff + j) := by
  rw [byteAt_eq, byteAt_eq, blit_getElem? dst src doff soff len hd hs, if_pos (by omega)]
  have : doff + j - doff = j := by omega
  rw [this]

theorem byteAt_blit_out (dst src : Bytes) (doff soff len : Nat) (hd : doff + len ≤ dst.size)
    (hs : soff + len ≤ src.size) (i : Nat) (hi : i < doff ∨ doff + len ≤ i) :
    byteAt (blit dst doff src soff len) i = byteAt dst i := by
  rw [byteAt_eq, byteAt_eq, blit_getElem? dst src doff soff len hd hs, if_neg (by omega)]

/-! ### the section-copy step, generic in which pair is the destination -/

/-- how the end of the destination range is obtained from the wrapped end `e` and the vector
length `n`: as is (`to_view`) or clamped to the vector (`to_file`) -/
def endExact (e _n : Nat) : Nat := e
def endClamp (e n : Nat) : Nat := min e n

theorem endExact_le (e n : Nat) : endExact e n ≤ e := Nat.le_refl _
theorem endClamp_le (e n : Nat) : endClamp e n ≤ e := Nat.min_le_left _ _

/-- `dest = vec.get_mut(d .. E(d.wrapping_add(dl), vec.len()))`,
`src = image.get(so .. so.wrapping_add(sl))`, copy the common prefix when both exist. -/
def cstep (E : Nat → Nat → Nat) (image vec : Bytes) (d dl so sl : Nat) : Bytes :=
  let dend := E (wadd32 d dl) vec.size
  let send := wadd32 so sl
  if d ≤ dend ∧ dend ≤ vec.size ∧ so ≤ send ∧ send ≤ image.size then
    blit vec d image so (min (dend - d) (send - so))
  else vec

theorem toViewStep_eq (image vec : Bytes) (s : Sec) :
    toViewStep image vec s = cstep endExact image vec s.va s.vs s.prd s.rs := rfl
theorem toFileStep_eq (image vec : Bytes) (s : Sec) :
    toFileStep image vec s = cstep endClamp image vec s.prd s.rs s.va s.vs := rfl

theorem cstep_size (E : Nat → Nat → Nat) (image vec : Bytes) (d dl so sl : Nat) :
    (cstep E image vec d dl so sl).size = vec.size := by
  unfold cstep
  dsimp only
  split
  · rw [blit_size] <;> omega
  · rfl

theorem cstep_out (E : Nat → Nat → Nat) (hE : ∀ e n, E e n ≤ e) (image vec : Bytes)
    (d dl so sl : Nat) (i : Nat) (hi : i < d ∨ d + min dl sl ≤ i) :
    byteAt (cstep E image vec d dl so sl) i = byteAt vec i := by
  unfold cstep
  dsimp only
  split
  · rename_i hg
    have h0 := hE (wadd32 d dl) vec.size
    have h1 : wadd32 d dl ≤ d + dl := Nat.mod_le _ _
    have h2 : wadd32 so sl ≤ so + sl := Nat.mod_le _ _
    rw [byteAt_blit_out] <;> omega
  · rfl

theorem cstep_in (E : Nat → Nat → Nat) (image vec : Bytes) (d dl so sl : Nat)
    (hd : d + dl < 4294967296) (hs : so + sl < 4294967296) (hsi : so + sl ≤ image.size)
    (hE1 : E (d + dl) vec.size ≤ vec.size) (hE2 : d ≤ E (d + dl) vec.size)
    (j : Nat) (hj : j < min (E (d + dl) vec.size - d) sl) :
    byteAt (cstep E image vec d dl so sl) (d + j) = byteAt image (so + j) := by
  unfold cstep
  dsimp only
  have h1 : wadd32 d dl = d + dl := Nat.mod_eq_of_lt hd
  have h2 : wadd32 so sl = so + sl := Nat.mod_eq_of_lt hs
  rw [h1, h2, if_pos (by omega)]
  rw [byteAt_blit_in] <;> omega

/-! ### folding the step over the section table -/

section fold
variable (E : Nat → Nat → Nat) (image : Bytes) (D DL S SL : Sec → Nat)

/-- the loop, for projections `D DL` (destination start / length) and `S SL` (source) -/
def cfold (secs : List Sec) (vec : Bytes) : Bytes :=
  secs.foldl (fun vec s => cstep E image vec (D s) (DL s) (S s) (SL s)) vec

theorem cfold_nil (vec : Bytes) : cfold E image D DL S SL [] vec = vec := rfl
theorem cfold_cons (s : Sec) (rest : List Sec) (vec : Bytes) :
    cfold E image D DL S SL (s :: rest) vec =
      cfold E image D DL S SL rest (cstep E image vec (D s) (DL s) (S s) (SL s)) := rfl

theorem cfold_size (secs : List Sec) (vec : Bytes) :
    (cfold E image D DL S SL secs vec).size = vec.size := by
  induction secs generalizing vec with
  | nil => rfl
  | cons s rest ih => rw [cfold_cons, ih, cstep_size]

theorem cfold_out (hE : ∀ e n, E e n ≤ e) (secs : List Sec) (vec : Bytes) (i : Nat)
    (h : ∀ s ∈ secs, i < D s ∨ D s + min (DL s) (SL s) ≤ i) :
    byteAt (cfold E image D DL S SL secs vec) i = byteAt vec i := by
  induction secs generalizing vec with
  | nil => rfl
  | cons s rest ih =>
    rw [cfold_cons, ih _ (fun t ht => h t (List.mem_cons_of_mem _ ht)),
      cstep_out E hE _ _ _ _ _ _ _ (h s List.mem_cons_self)]

theorem cfold_in (hE : ∀ e n, E e n ≤ e) (secs : List Sec) (vec : Bytes) (s : Sec) (hs : s ∈ secs)
    (hp : secs.Pairwise (fun a b => D a + DL a ≤ D b ∨ D b + DL b ≤ D a))
    (hd : D s + DL s < 4294967296) (hso : S s + SL s < 4294967296) (hsi : S s + SL s ≤ image.size)
    (hE1 : E (D s + DL s) vec.size ≤ vec.size) (hE2 : D s ≤ E (D s + DL s) vec.size)
    (j : Nat) (hj : j < min (E (D s + DL s) vec.size - D s) (SL s)) :
    byteAt (cfold E image D DL S SL secs vec) (D s + j) = byteAt image (S s + j) := by
  induction secs generalizing vec with
  | nil => cases hs
  | cons t rest ih =>
    rw [cfold_cons]
    obtain ⟨hhead, htail⟩ := List.pairwise_cons.1 hp
    rcases List.mem_cons.1 hs with rfl | hmem
    · rw [cfold_out E image D DL S SL hE]
      · exact cstep_in E image vec _ _ _ _ hd hso hsi hE1 hE2 j hj
      · intro u hu
        have := hhead u hu
        have := hE (D s + DL s) vec.size
        omega
    · exact ih _ hmem htail (by rw [cstep_size]; exact hE1) (by rw [cstep_size]; exact hE2)
        (by rw [cstep_size]; exact hj)

end fold

theorem toView_fold (image : Bytes) (secs : List Sec) (vec : Bytes) :
    secs.foldl (toViewStep image) vec = cfold endExact image Sec.va Sec.vs Sec.prd Sec.rs secs vec := rfl
theorem toFile_fold (image : Bytes) (secs : List Sec) (vec : Bytes) :
    secs.foldl (toFileStep image) vec = cfold endClamp image Sec.prd Sec.rs Sec.va Sec.vs secs vec := rfl

/-! ### the initial vector: zero filled, then the headers -/

def initVec (n : Nat) (b : Bytes) (soh : Nat) : Bytes := blit (Array.replicate n 0) 0 b 0 soh

theorem initVec_size (n : Nat) (b : Bytes) (soh : Nat) (h1 : soh ≤ n) (h2 : soh ≤ b.size) :
    (initVec n b soh).size = n := by
  unfold initVec
  rw [blit_size] <;> simp <;> omega

theorem initVec_hdr (n : Nat) (b : Bytes) (soh : Nat) (h1 : soh ≤ n) (h2 : soh ≤ b.size)
    (i : Nat) (hi : i < soh) : byteAt (initVec n b soh) i = byteAt b i := by
  unfold initVec
  have := byteAt_blit_in (Array.replicate n 0) b 0 0 soh (by simp; omega) (by omega) i hi
  simpa using this

theorem initVec_zero (n : Nat) (b : Bytes) (soh : Nat) (h1 : soh ≤ n) (h2 : soh ≤ b.size)
    (i : Nat) (hi : soh ≤ i) : byteAt (initVec n b soh) i = 0 := by
  unfold initVec
  rw [byteAt_blit_out _ _ _ _ _ (by simp; omega) (by omega) _ (by omega), byteAt_replicate_zero]

theorem toView_eq (v : View) :
    v.toView = cfold endExact v.b Sec.va Sec.vs Sec.prd Sec.rs v.secs
      (initVec (sizeOfImage v.b) v.b (sizeOfHeaders v.b)) := rfl
theorem toFile_eq (v : View) :
    v.toFile = cfold endClamp v.b Sec.prd Sec.rs Sec.va Sec.vs v.secs
      (initVec v.fileSize v.b (sizeOfHeaders v.b)) := rfl

theorem accept_soh {f : Fmt} {k : Kind} {img : Img} {v : View} (hv : fromBytes f k img = .ok v) :
    sizeOfHeaders v.b ≤ v.b.size ∧ sizeOfHeaders v.b ≤ sizeOfImage v.b := by
  obtain ⟨ha, rfl⟩ := (fromBytes_ok_iff _ _ _ _).1 hv
  unfold Accept at ha
  dsimp only at ha
  exact ⟨ha.2.2.2.2.2.2.2.2.1, ha.2.2.2.2.2.2.2.2.2.1⟩

theorem foldl_max_ge (secs : List Sec) (g : Sec → Nat) (m : Nat) :
    m ≤ secs.foldl (fun m s => max m (g s)) m := by
  induction secs generalizing m with
  | nil => exact Nat.le_refl _
  | cons s rest ih => exact Nat.le_trans (Nat.le_max_left _ _) (ih _)

theorem soh_le_fileSize {f : Fmt} {k : Kind} {img : Img} {v : View} (hv : fromBytes f k img = .ok v) :
    sizeOfHeaders v.b ≤ v.fileSize := by
  unfold View.fileSize
  have := foldl_max_ge v.secs (fun s => wadd32 s.prd s.rs) (sizeOfHeaders v.b)
  have := (accept_soh hv).2
  omega

theorem foldl_max_mem (secs : List Sec) (g : Sec → Nat) (m : Nat) (s : Sec) (hs : s ∈ secs) :
    g s ≤ secs.foldl (fun m s => max m (g s)) m := by
  induction secs generalizing m with
  | nil => cases hs
  | cons t rest ih =>
    rcases List.mem_cons.1 hs with rfl | hmem
    · exact Nat.le_trans (Nat.le_max_right _ _) (foldl_max_ge rest g _)
    · exact ih _ hmem

/-! ### two buffers with the same first `n` bytes have the same headers -/

def HdrAgree (n : Nat) (a b : Bytes) : Prop := ∀ i, i < n → byteAt a i = byteAt b i

theorem HdrAgree.le16 {n : Nat} {a b : Bytes} (h : HdrAgree n a b) (o : Nat) (ho : o + 2 ≤ n) :
    le16 a o = le16 b o := by
  unfold Pelite.le16
  rw [h o (by omega), h (o + 1) (by omega)]

theorem HdrAgree.le32 {n : Nat} {a b : Bytes} (h : HdrAgree n a b) (o : Nat) (ho : o + 4 ≤ n) :
    le32 a o = le32 b o := by
  unfold Pelite.le32
  rw [h o (by omega), h (o + 1) (by omega), h (o + 2) (by omega), h (o + 3) (by omega)]

theorem HdrAgree.secAt {n : Nat} {a b : Bytes} (h : HdrAgree n a b) (o : Nat) (ho : o + 40 ≤ n) :
    secAt a o = secAt b o := by
  unfold Pelite.Pe.secAt
  rw [h.le32 o (by omega), h.le32 (o + 4) (by omega), h.le32 (o + 8) (by omega),
    h.le32 (o + 12) (by omega), h.le32 (o + 16) (by omega), h.le32 (o + 20) (by omega),
    h.le32 (o + 36) (by omega)]

/-- `120` is the size of the PE32 NT headers, the smaller of the two; the one PE32+ field beyond it
(`NumberOfRvaAndSizes` at `+132`) is read in `HdrAgree.accept` under `ntEnd f b ≤ n` -/
theorem HdrAgree.locators {n : Nat} {a b : Bytes} (h : HdrAgree n a b) (hnt : eLfanew b + 120 ≤ n) :
    eLfanew a = eLfanew b ∧ numberOfSections a = numberOfSections b ∧
    sizeOfOptionalHeader a = sizeOfOptionalHeader b ∧ optOff a = optOff b := by
  have e0 : eLfanew a = eLfanew b := h.le32 60 (by omega)
  refine ⟨e0, ?_, ?_, ?_⟩
  · unfold numberOfSections; rw [e0]; exact h.le16 _ (by omega)
  · unfold sizeOfOptionalHeader; rw [e0]; exact h.le16 _ (by omega)
  · unfold optOff; rw [e0]

theorem HdrAgree.fields {n : Nat} {a b : Bytes} (h : HdrAgree n a b)
    (hnt : eLfanew b + 120 ≤ n) (hst : secTable b + 40 * numberOfSections b ≤ n) :
    sizeOfHeaders a = sizeOfHeaders b ∧ sizeOfImage a = sizeOfImage b ∧ sections a = sections b := by
  obtain ⟨e0, e1, e2, e3⟩ := h.locators hnt
  have e4 : secTable a = secTable b := by unfold secTable; rw [e2, e3]
  refine ⟨?_, ?_, ?_⟩
  · unfold sizeOfHeaders; rw [e3]; unfold optOff; exact h.le32 _ (by omega)
  · unfold sizeOfImage; rw [e3]; unfold optOff; exact h.le32 _ (by omega)
  · unfold sections
    rw [e1, e4]
    apply List.map_congr_left
    intro i hi
    have := List.mem_range.1 hi
    exact h.secAt _ (by omega)

/-- validation reads only bytes below the ends of the NT headers, the declared data directories and the declared
section table: a buffer that agrees with an accepted one up to there is accepted too -/
theorem HdrAgree.accept {n : Nat} {a b : Bytes} (h : HdrAgree n a b) (f : Fmt) (basea baseb : Nat)
    (hb : Accept f ⟨b, baseb⟩) (hbase : basea % 4 = 0) (hna : n ≤ a.size)
    (hdd : ntEnd f b + 8 * numDataDirs f b ≤ n) (hst : secTable b + 40 * numberOfSections b ≤ n)
    (hsoh : sizeOfHeaders b ≤ n) :
    Accept f ⟨a, basea⟩ := by
  have hf : 120 ≤ f.ntSize ∧ f.offNumRva + 28 = f.ntSize := by cases f <;> decide
  unfold ntEnd numDataDirs at hdd
  obtain ⟨e0, e1, e2, e3⟩ := h.locators (by omega)
  obtain ⟨e5, e6, -⟩ := h.fields (by omega) hst
  have e7 : optMagic a = optMagic b := by
    unfold optMagic; rw [e3]; unfold optOff; exact h.le16 _ (by omega)
  have e8 : numberOfRvaAndSizes f a = numberOfRvaAndSizes f b := by
    unfold numberOfRvaAndSizes; rw [e3]; unfold optOff; exact h.le32 _ (by omega)
  have e9 : Pelite.le16 a 0 = Pelite.le16 b 0 := h.le16 0 (by omega)
  have e10 : Pelite.le32 a (eLfanew b) = Pelite.le32 b (eLfanew b) := h.le32 _ (by omega)
  unfold secTable optOff at hst
  unfold Accept at hb ⊢
  dsimp only at hb ⊢
  rw [e0, e1, e2, e5, e6, e7, e8, e9, e10]
  -- every conjunct is that of `b`, the size and address apart
  omega

/-! ### a minimal concrete PE32 file (non-vacuity examples; `tinyPe 1 225` is the input on which a section clamped by
SizeOfImage must still be copied) -/

private def z (n : Nat) : Bytes := Array.replicate n 0

/-- A 226-byte PE32 file: e_lfanew = 64, no data directories, one section, SizeOfHeaders = 224,
SizeOfImage = `soi`; the section has VirtualAddress = 224, VirtualSize = `vs`,
PointerToRawData = 224, SizeOfRawData = 2 (raw bytes `aa bb`).  (`vs`, `soi` < 256.) -/
def tinyPe (vs soi : Nat) : Bytes :=
  #[77, 90] ++ z 58 ++ #[64, 0, 0, 0] ++                              -- "MZ", e_lfanew
  #[80, 69, 0, 0, 0, 0, 1, 0] ++ z 12 ++ #[96, 0, 0, 0] ++            -- "PE", NumberOfSections, SizeOfOptionalHeader
  #[11, 1] ++ z 54 ++ #[soi.toUInt8, 0, 0, 0, 224, 0, 0, 0] ++ z 32 ++   -- magic, SizeOfImage, SizeOfHeaders, NumberOfRvaAndSizes = 0
  z 8 ++ #[vs.toUInt8, 0, 0, 0, 224, 0, 0, 0, 2, 0, 0, 0, 224, 0, 0, 0] ++ z 16 ++   -- section header
  #[170, 187]                                                          -- raw data

/-- As one list: evaluating `tinyPe` itself is quadratic in the kernel (`Array.push` is `List.concat`);
statements evaluated on the image rewrite with this first. -/
theorem tinyPe_eq (vs soi : Nat) : tinyPe vs soi = ⟨
    [77, 90] ++ List.replicate 58 0 ++ [64, 0, 0, 0] ++
    [80, 69, 0, 0, 0, 0, 1, 0] ++ List.replicate 12 0 ++ [96, 0, 0, 0] ++
    [11, 1] ++ List.replicate 54 0 ++ [soi.toUInt8, 0, 0, 0, 224, 0, 0, 0] ++ List.replicate 32 0 ++
    List.replicate 8 0 ++ [vs.toUInt8, 0, 0, 0, 224, 0, 0, 0, 2, 0, 0, 0, 224, 0, 0, 0] ++
    List.replicate 16 0 ++ [170, 187]⟩ := by
  apply Array.ext'
  simp only [tinyPe, z, Array.toList_append, Array.toList_replicate]

def tinyView (vs soi : Nat) : View :=
  ⟨⟨tinyPe vs soi, 0⟩, .pe32, .file, imageBaseField .pe32 (tinyPe vs soi)⟩

theorem tinyView_2_226 : HdrIs (tinyView 2 226) [⟨0, 0, 2, 224, 2, 224, 0⟩] 224 226 226 184 1 184 0 := .of_and <| by
  unfold tinyView; rw [tinyPe_eq]; simp only [Accept, View.secs, sections, secAt, hdr_toNat, le16_toNat, le32_toNat]; decide +kernel

theorem tinyView_ok (vs soi : Nat) (h : Accept .pe32 ⟨tinyPe vs soi, 0⟩) :
    fromBytes .pe32 .file ⟨tinyPe vs soi, 0⟩ = .ok (tinyView vs soi) :=
  (fromBytes_ok_iff _ _ _ _).2 ⟨h, by unfold tinyView; with_reducible rfl⟩

end Pelite.Pe
