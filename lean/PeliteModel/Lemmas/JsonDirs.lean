import PeliteModel.Model.JsonDirs
import PeliteModel.Lemmas.Json
import PeliteModel.Lemmas.RelocsFold
import PeliteModel.Lemmas.Resources
import PeliteModel.Lemmas.ResView
import PeliteModel.Thm.C08
import PeliteModel.Thm.C09
import PeliteModel.Thm.C15
import PeliteModel.Thm.C16
/-!
For C19: what a member of `View.serializePe` is whenever the serialization returns (no hypothesis on the image), and
that it returns, because every accessor it calls answers a value or a library error (the no-panic theorems of C08,
C09, C15, C16; for the resource tree the `safe_…` lemmas of Lemmas/Resources).  Where a serializer function has a closed
form both facts are one statement, `(f x).Is C (closed form)`, proved by one walk down `f`.
-/
namespace Pelite

theorem Out.okOpt_eq_ok {α} {x : Out α} {o : Option α} (h : x.okOpt = .ok o) : o = x.toOption := by
  cases x <;> first | (cases h; rfl) | cases h

theorem Out.okOpt_ok {α} (a : α) : (Out.ok a).okOpt = .ok (some a) := rfl
theorem Out.okOpt_err {α} (e : Err) : (Out.err e : Out α).okOpt = .ok none := rfl

theorem Out.toOption_eq_some {α} {x : Out α} {a : α} : x.toOption = some a ↔ x = .ok a := by
  cases x <;> simp [Out.toOption]

theorem Out.toOption_eq_none_of_err {α} {x : Out α} {e : Err} (h : x = .err e) : x.toOption = none := by
  rw [h]; rfl

theorem Out.okOpt_bind_eq_ok {α β} {x : Out α} {g : Option α → Out β} {b : β} (h : (x.okOpt >>= g) = .ok b) :
    g x.toOption = .ok b := by
  cases x <;> first | exact h | cases h

theorem Out.okOpt_bind {α β} {x : Out α} (g : Option α → Out β) (h : Pe.OkOrErr x) : (x.okOpt >>= g) = g x.toOption := by
  rcases h with ⟨a, rfl⟩ | ⟨e, rfl⟩ <;> rfl

/-- `o` computes `a`, provided `C`.  The combinators keep one `C` down a whole function; a callee's own condition is
reached through `mono`. -/
structure Out.Is {α} (o : Out α) (C : Prop) (a : α) : Prop where
  val : ∀ b, o = .ok b → b = a
  ret : C → o = .ok a

namespace Out.Is
variable {α β : Type} {C C' : Prop}

theorem ok {a : α} : (Out.ok a).Is C a := ⟨fun _ h => (Out.ok.inj h).symm, fun _ => rfl⟩

theorem mono {o : Out α} {a : α} (ho : o.Is C a) (h : C' → C) : o.Is C' a := ⟨ho.val, fun c => ho.ret (h c)⟩

theorem returns {o : Out α} {a : α} (ho : o.Is C a) (c : C) : ∃ a, o = .ok a := ⟨a, ho.ret c⟩

theorem bind {x : Out α} {g : α → Out β} {a : α} {b : β} (hx : x.Is C a) (hg : (g a).Is C b) : (x >>= g).Is C b :=
  ⟨fun b' h => by obtain ⟨a', ha, h⟩ := Out.bind_eq_ok h; cases hx.val a' ha; exact hg.val b' h,
   fun c => by rw [hx.ret c, Out.bind_ok, hg.ret c]⟩

theorem okOpt_bind {x : Out α} {g : Option α → Out β} {b : β} (hx : C → Pe.OkOrErr x) (hg : (g x.toOption).Is C b) :
    (x.okOpt >>= g).Is C b :=
  ⟨fun b' h => hg.val b' (Out.okOpt_bind_eq_ok h), fun c => by rw [Out.okOpt_bind _ (hx c), hg.ret c]⟩

end Out.Is

namespace Pe
open Pelite.Json

/-! ### optional members, `x.ok().map(f)` -/

/-- the `match` after `x.ok()` in a model function: both parts hold by `rfl` -/
def OptMember {α β} (g : Option α → Out (Option β)) (f : α → Out β) : Prop :=
  g none = .ok none ∧ ∀ a, g (some a) = f a >>= fun b => .ok (some b)

section
variable {α β : Type} {x : Out α} {g : Option α → Out (Option β)} {f : α → Out β} {o : Option β}

/-- for a member without a closed form ("rich_structure", "security": their field theorems also say that the accessors
returned, which `Is.val` does not keep): the value half; `optMember_returns` is the other -/
theorem optMember_eq_ok (h : (x.okOpt >>= g) = .ok o) (hg : OptMember g f) :
    (o = none ↔ x.toOption = none) ∧ ∀ a, x = .ok a → ∃ b, f a = .ok b ∧ o = some b := by
  have h := Out.okOpt_bind_eq_ok h
  cases hx : x.toOption with
  | none =>
    rw [hx, hg.1] at h
    cases h
    exact ⟨⟨fun _ => rfl, fun _ => rfl⟩, fun a ha => by rw [ha] at hx; cases hx⟩
  | some a =>
    rw [hx, hg.2] at h
    obtain ⟨b, hb, h⟩ := Out.bind_eq_ok h
    cases h
    exact ⟨⟨nofun, nofun⟩, fun a' ha' => by rw [ha'] at hx; cases hx; exact ⟨b, hb, rfl⟩⟩

theorem optMember_is {k : α → β} {C : Prop} (hg : OptMember g f) (hx : C → OkOrErr x)
    (hf : ∀ a, x = .ok a → (f a).Is C (k a)) : (x.okOpt >>= g).Is C (x.toOption.map k) := by
  refine .okOpt_bind hx ?_
  cases ha : x.toOption with
  | none => rw [hg.1]; exact .ok
  | some a => rw [hg.2]; exact .bind (hf a (Out.toOption_eq_some.1 ha)) .ok

theorem optMember_returns (hx : OkOrErr x) (hg : OptMember g f) (hf : ∀ a, x = .ok a → ∃ b, f a = .ok b) :
    ∃ o, (x.okOpt >>= g) = .ok o := by
  rw [Out.okOpt_bind _ hx]
  cases ha : x.toOption with
  | none => exact ⟨_, hg.1⟩
  | some a =>
    rw [hg.2]
    exact Out.bind_returns (hf a (Out.toOption_eq_some.1 ha)) fun _ _ => ⟨_, rfl⟩

end

/-! ### `collect_seq` -/

theorem seqOut_is {α β} {f : α → Out β} {g : α → β} {C : Prop} :
    ∀ l : List α, (∀ a ∈ l, (f a).Is C (g a)) → (seqOut f l).Is C (l.map g)
  | [], _ => .ok
  | a :: t, h => .bind (h a (by simp)) (.bind (seqOut_is t fun a' ha' => h a' (List.mem_cons_of_mem _ ha')) .ok)

/-- one export name as the "names" map shows it -/
def nameEntry (y : Exports.By) (h : Nat) : Option (List Nat × Nat) :=
  (exportNameStr y.b (y.nameOfHint h).toOption).map fun s => (s, y.idxAt h)

/-- the value of `<By as Serialize>` in terms of the accessors -/
def bySpec (y : Exports.By) : ExportsJson :=
  { dllName := y.exp.dllName.toOption.map (cstrText y.b),
    timeDateStamp := le32 y.b (y.exp.off + 4),
    version := (le16 y.b (y.exp.off + 8), le16 y.b (y.exp.off + 10)),
    ordinalBase := y.exp.ordinalBase,
    functions := (List.range y.fns.cnt).map y.fnAt,
    names := (List.range (min y.names.cnt y.idx.cnt)).filterMap (nameEntry y) }

def nameItem (y : Exports.By) (it : Out (Out Ref × Nat)) : Option (List Nat × Nat) :=
  match it with
  | .ok p => (exportNameStr y.b p.1.toOption).map fun s => (s, p.2)
  | _ => none

theorem exportNames_is (y : Exports.By) : ∀ items : List (Out (Out Ref × Nat)),
    (exportNames y items).Is (∀ it ∈ items, ∃ n i, it = .ok (n, i) ∧ OkOrErr n) (items.filterMap (nameItem y))
  | [] => .ok
  | it :: rest => by
    unfold exportNames
    rw [List.filterMap_cons]
    cases it with
    | ok p =>
      refine .okOpt_bind (fun hc => ?_)
        (.bind ((exportNames_is y rest).mono fun hc a' ha' => hc a' (List.mem_cons_of_mem _ ha')) ?_)
      · obtain ⟨n, i, h, hn⟩ := hc _ (List.mem_cons_self ..)
        cases h
        exact hn
      · simp only [nameItem]
        cases exportNameStr y.b p.1.toOption <;> exact .ok
    | _ => exact ⟨nofun, fun hc => by obtain ⟨n, i, h, _⟩ := hc _ (List.mem_cons_self ..); cases h⟩

theorem iterNameIndices_filterMap (y : Exports.By) :
    y.iterNameIndices.filterMap (nameItem y) = (List.range (min y.names.cnt y.idx.cnt)).filterMap (nameEntry y) := by
  rw [(Exports.C08_iter y).2.2, List.filterMap_map]
  rfl

theorem serializeBy_is (y : Exports.By) : (serializeBy y).Is True (bySpec y) := by
  unfold serializeBy
  refine .okOpt_bind (fun _ => Exports.dllName_okOrErr y.exp) (.bind ((exportNames_is y _).mono fun _ it hit => ?_) ?_)
  · obtain ⟨h, _, _, rfl⟩ := Exports.iterNameIndices_ok y it hit
    exact ⟨_, _, rfl, Exports.nameOfHint_okOrErr y h⟩
  · rw [iterNameIndices_filterMap]; exact .ok

theorem exportsJson_is (v : View) :
    v.exportsJson.Is True ((Exports.tryFrom v).toOption.bind fun e => e.by.toOption.map bySpec) := by
  refine .okOpt_bind (fun _ => Exports.tryFrom_okOrErr v) ?_
  cases (Exports.tryFrom v).toOption with
  | none => exact .ok
  | some e => exact optMember_is ⟨rfl, fun _ => rfl⟩ (fun _ => Exports.by_okOrErr e) fun y _ => serializeBy_is y

/-! ### imports: buffers below 4 GiB (the `rva + 2` of `import_from_va`) -/

theorem intItems_is (b : Bytes) : ∀ items : List (Out Imports.Import),
    (intItems b items).Is (∀ it ∈ items, OkOrErr it) (items.filterMap fun it => it.toOption.map (importJson b))
  | [] => .ok
  | it :: rest => by
    unfold intItems
    refine .okOpt_bind (fun hc => hc it (by simp))
      (.bind ((intItems_is b rest).mono fun hc a' ha' => hc a' (List.mem_cons_of_mem _ ha')) ?_)
    rw [List.filterMap_cons]
    cases it.toOption <;> exact .ok

/-- the value of `<Desc as Serialize>` in terms of the accessors -/
def descSpec (v : View) (d : Ref) : DescJson :=
  { dllName := (Imports.dllName v d).toOption.map (cstrText v.b),
    int := (Imports.int v d).toOption.map fun items => items.filterMap fun it => it.toOption.map (importJson v.b) }

theorem serializeDesc_is (v : View) (d : Ref) :
    (serializeDesc v d).Is (v.img.bytes.size < 4294967296) (descSpec v d) := by
  obtain ⟨hdll, -, -, -, hint⟩ := (Imports.C09_total v).2.2 d
  unfold serializeDesc
  refine .okOpt_bind (fun _ => hdll) (.okOpt_bind (fun _ => hint) (.bind ?_ .ok))
  cases hi : (Imports.int v d).toOption with
  | none => exact .ok
  | some items =>
    refine .bind ((intItems_is v.b items).mono fun hsz it hit => ?_) .ok
    have hi := Out.toOption_eq_some.1 hi
    unfold Imports.int at hi
    obtain ⟨s, _, hi⟩ := Out.bind_eq_ok hi
    cases hi
    obtain ⟨t, _, rfl⟩ := List.mem_map.1 hit
    exact Imports.C09_total_decode v hsz _

theorem importsJson_is (v : View) :
    v.importsJson.Is (v.img.bytes.size < 4294967296)
      ((Imports.tryFrom v).toOption.map fun image => (Imports.descs image).map (descSpec v)) :=
  optMember_is ⟨rfl, fun _ => rfl⟩ (fun _ => (Imports.C09_total v).1) fun _ _ => seqOut_is _ fun d _ => serializeDesc_is v d

theorem entryJson_pgo (v : View) (image : Ref) :
    entryJson v (.pgo image) =
      .ok (.pgo ((Dirs.pgoList v.b (Dirs.pgoIterStart image)).map fun it => (it.rva, it.size, cstrText v.b it.name))) := by
  rw [entryJson, Dirs.pgoItems, Dirs.pgoItemsFrom_eq, Out.bind_ok]

theorem entryJson_total (v : View) (e : Dirs.Entry) : ∃ j, entryJson v e = .ok j := by
  cases e with
  | pgo image => exact ⟨_, entryJson_pgo v image⟩
  | _ => exact ⟨_, rfl⟩

/-- the value of `<Dir as Serialize>` in terms of the accessors -/
def debugDirSpec (v : View) (d : Nat) : DebugDirJson :=
  { type := debugTypeName (Dirs.ddType v.b d), timeDateStamp := Dirs.ddTimeDateStamp v.b d,
    version := (Dirs.ddMajor v.b d, Dirs.ddMinor v.b d),
    entry := (Dirs.dirEntry v d).toOption.bind fun e => (entryJson v e).toOption }

theorem serializeDebugDir_is (v : View) (d : Nat) : (serializeDebugDir v d).Is True (debugDirSpec v d) := by
  unfold serializeDebugDir
  refine .okOpt_bind (fun _ => (Dirs.dirEntry_safe v d).1) (.bind ?_ .ok)
  cases (Dirs.dirEntry v d).toOption with
  | none => exact .ok
  | some e =>
    obtain ⟨j, hj⟩ := entryJson_total v e
    show (entryJson v e >>= fun j => .ok (some j)).Is True (entryJson v e).toOption
    rw [hj]
    exact .ok

theorem debugJson_is (v : View) :
    v.debugJson.Is True ((Dirs.debugTryFrom v).toOption.map fun t =>
      (List.range (Dirs.debugCount t)).map fun i => debugDirSpec v (Dirs.debugEntryOff t i)) :=
  optMember_is ⟨rfl, fun _ => rfl⟩ (fun _ => (Dirs.C15_constructors_safe v).1.1)
    fun _ _ => seqOut_is _ fun _ _ => serializeDebugDir_is v _

theorem serializeRelocs_eq (data : Bytes) :
    serializeRelocs data = ⟨(Relocs.flat data).map (·.1), (Relocs.flat data).map (·.2)⟩ := by
  unfold serializeRelocs
  rw [Relocs.forEach_eq_flat]
  dsimp only
  -- each component of the pair of accumulators is a fold of its own
  rw [← List.foldl_hom Prod.fst (g₂ := fun s (p : Nat × Nat) => p.1 :: s) fun _ _ => rfl,
    ← List.foldl_hom Prod.snd (g₂ := fun s (p : Nat × Nat) => p.2 :: s) fun _ _ => rfl]
  simp

theorem baseRelocsJson_is (v : View) :
    v.baseRelocsJson.Is True (v.baseRelocsBytes.toOption.map fun data =>
      ⟨(Relocs.flat data).map (·.1), (Relocs.flat data).map (·.2)⟩) := by
  rw [← funext serializeRelocs_eq]
  exact .okOpt_bind (fun _ => baseRelocsBytes_okOrErr v) .ok

theorem tlsJson_is (v : View) :
    v.tlsJson.Is True ((Dirs.tlsTryFrom v).toOption.map fun t =>
      { rawData := (Dirs.tlsRawData v t).toOption.map (bytesOf v.b),
        callbacks := (Dirs.tlsCallbacks v t).toOption.map fun r => valsOf v.b r v.fmt.ptrSize }) :=
  optMember_is ⟨rfl, fun _ => rfl⟩ (fun _ => (Dirs.C15_constructors_safe v).2.2.1.1) fun t _ => by
    obtain ⟨⟨hraw, -⟩, -, ⟨hcb, -⟩, -⟩ := Dirs.C15_accessors_safe v t 0
    exact .okOpt_bind (fun _ => hraw) (.okOpt_bind (fun _ => hcb) .ok)

theorem loadConfigJson_is (v : View) :
    v.loadConfigJson.Is True ((Dirs.lcTryFrom v).toOption.map fun t =>
      { securityCookie := (Dirs.lcSecurityCookie v t).toOption.map fun r => le32 v.b r.off,
        seHandlerTable := (Dirs.lcSeHandlerTable v t).toOption.map fun r => valsOf v.b r v.fmt.ptrSize }) :=
  optMember_is ⟨rfl, fun _ => rfl⟩ (fun _ => (Dirs.C15_constructors_safe v).2.2.2.1.1) fun t _ => by
    obtain ⟨-, -, -, ⟨hck, -⟩, ⟨htab, -⟩, -⟩ := Dirs.C15_accessors_safe v t 0
    exact .okOpt_bind (fun _ => hck) (.okOpt_bind (fun _ => htab) .ok)

theorem PeJson.toJson_field (p : PeJson) :
    p.toJson.field "exports" = some (opt ExportsJson.toJson p.exports) ∧
    p.toJson.field "imports" = some (opt (fun l => .arr (l.map DescJson.toJson)) p.imports) := by
  simp [PeJson.toJson, Json.field, Json.struct, Json.lookup, asc]

structure PeJson.Of (v : View) (j : PeJson) : Prop where
  headers : j.headers = v.headerJson
  headersDoc : j.headersDoc = v.headersJson
  rich : v.richJson = .ok j.richStructure
  exports : v.exportsJson = .ok j.exports
  imports : v.importsJson = .ok j.imports
  baseRelocs : v.baseRelocsJson = .ok j.baseRelocs
  debug : v.debugJson = .ok j.debug
  tls : v.tlsJson = .ok j.tls
  loadConfig : v.loadConfigJson = .ok j.loadConfig
  security : v.securityJson = .ok j.security
  resources : v.resourcesJson = .ok j.resources

theorem serializePe_ok {v : View} {j : PeJson} (h : v.serializePe = .ok j) : j.Of v := by
  unfold View.serializePe at h
  obtain ⟨a1, h1, h⟩ := Out.bind_eq_ok h
  obtain ⟨a2, h2, h⟩ := Out.bind_eq_ok h
  obtain ⟨a3, h3, h⟩ := Out.bind_eq_ok h
  obtain ⟨a4, h4, h⟩ := Out.bind_eq_ok h
  obtain ⟨a5, h5, h⟩ := Out.bind_eq_ok h
  obtain ⟨a6, h6, h⟩ := Out.bind_eq_ok h
  obtain ⟨a7, h7, h⟩ := Out.bind_eq_ok h
  obtain ⟨a8, h8, h⟩ := Out.bind_eq_ok h
  obtain ⟨a9, h9, h⟩ := Out.bind_eq_ok h
  cases h
  exact ⟨rfl, rfl, h1, h2, h3, h4, h5, h6, h7, h8, h9⟩

/-! ## the members without a closed form return (no panic, no unchecked access, no hang), and so does the serializer -/

theorem serializeRich_total (image : List Nat) (hw : ∀ w ∈ image, w < 4294967296) (r : Rich.RichS)
    (h : Rich.tryFrom image = .ok r) : ∃ j, serializeRich r = .ok j := by
  obtain ⟨k, it, _, hk, _, hit, _, _, _, _, _, hc⟩ := Rich.C16_ok_means_documented_layout image hw r h
  exact ⟨_, by rw [serializeRich, hk, Out.bind_ok, hc, Out.bind_ok, hit, Out.bind_ok]⟩

theorem richJson_total (v : View) (hb : v.img.base % 4 = 0) : ∃ o, v.richJson = .ok o := by
  unfold View.richJson
  rw [Rich.ofImage_eq v.img hb]
  refine optMember_returns ?_ ⟨rfl, fun _ => rfl⟩ fun r hr => serializeRich_total _ (Rich.words_lt v.img.bytes) r hr
  rcases Rich.tryFrom_total (Rich.words v.img.bytes) with ⟨r, hr⟩ | hr | hr
  · exact .inl ⟨r, hr⟩
  · exact .inr ⟨_, hr⟩
  · exact .inr ⟨_, hr⟩

theorem securityJson_total (v : View) (hb : v.img.base % 4 = 0) : ∃ o, v.securityJson = .ok o :=
  optMember_returns (Dirs.securityTryFrom_okOrErr v hb) ⟨rfl, fun _ => rfl⟩ fun s hs => by
    have hty := ((Dirs.C15_security_file v hb s).2 hs).2.2.1
    have hdata := (Dirs.C15_security_data_partial v hb s hs).1
    exact ⟨_, by rw [serializeSecurity, hty, Out.bind_ok, hdata, Out.bind_ok]⟩

/-! ### resources: every view (the depth / budget cut-off of commit 74c5571 makes the recursion structural) -/

theorem serResEntries_total {r : Resources.Resources} (hb : Resources.Aligned r)
    (rec : Resources.Dir → Nat → Out (Json × Nat))
    (hrec : ∀ d b, Resources.DirOK r d → ∃ jb, rec d b = .ok jb) (named : Bool) :
    ∀ (es : List Resources.DirEntry) (b : Nat), ∃ lb, serResEntries rec r named es b = .ok lb
  | [], b => ⟨_, rfl⟩
  | e :: rest, b => by
    unfold serResEntries
    rw [Out.okOpt_bind _ (Resources.safe_getName hb e).ok_or_err,
      Out.okOpt_bind _ (Resources.safe_entry hb e).ok_or_err]
    refine Out.bind_returns ?_ fun fb _ =>
      Out.bind_returns (serResEntries_total hb rec hrec named rest fb.2) fun _ _ => ⟨_, rfl⟩
    cases hen : (e.entry r).toOption with
    | none => exact ⟨_, rfl⟩
    | some en =>
      cases en with
      | dir d =>
        exact Out.bind_returns (hrec d b (Resources.entry_dir_ok hb (Out.toOption_eq_some.1 hen)).1) fun _ _ => ⟨_, rfl⟩
      | data de => exact ⟨_, rfl⟩

theorem serResDir_total {r : Resources.Resources} (hb : Resources.Aligned r) :
    ∀ (k : Nat) (named : Bool) (d : Resources.Dir) (b : Nat), Resources.DirOK r d →
      ∃ jb, serResDir r k named d b = .ok jb
  | 0, _, _, _, _ => ⟨_, rfl⟩
  | k + 1, named, d, b, hd => by
    unfold serResDir
    split
    · exact ⟨_, rfl⟩
    · rw [Resources.entries_eq hb hd, Out.bind_ok]
      exact Out.bind_returns (serResEntries_total hb _ (fun d b hd => serResDir_total hb k false d b hd) named _ _)
        fun _ _ => ⟨_, rfl⟩

theorem resourcesJson_total (v : View) : ∃ j, v.resourcesJson = .ok j := by
  unfold View.resourcesJson
  rw [Out.okOpt_bind _ (Resources.ofView_okOrErr v)]
  cases hov : (Resources.ofView v).toOption with
  | none => exact ⟨_, rfl⟩
  | some rs =>
    obtain ⟨r, o⟩ := rs
    obtain ⟨hb, _⟩ := Resources.ofView_ok (Out.toOption_eq_some.1 hov)
    show ∃ j, serializeResources r = .ok j
    unfold serializeResources
    rw [Out.okOpt_bind _ (Resources.safe_root hb).ok_or_err]
    cases hr : (Resources.root r).toOption with
    | none => exact ⟨_, rfl⟩
    | some d =>
      exact Out.bind_returns (serResDir_total hb _ true d _ (Resources.root_ok hb (Out.toOption_eq_some.1 hr)))
        fun _ _ => ⟨_, rfl⟩

/-- The kernel evaluates a record lazily: a fact about some members of a concrete image, proved by evaluation after
rewriting with this, runs only those member functions. -/
theorem serializePe_eq (v : View) (hb : v.img.base % 4 = 0) (hsz : v.img.bytes.size < 4294967296) :
    v.serializePe = .ok
      { headersDoc := v.headersJson, headers := v.headerJson,
        richStructure := v.richJson.toOption.getD none, exports := v.exportsJson.toOption.getD none,
        imports := v.importsJson.toOption.getD none, baseRelocs := v.baseRelocsJson.toOption.getD none,
        debug := v.debugJson.toOption.getD none, tls := v.tlsJson.toOption.getD none,
        loadConfig := v.loadConfigJson.toOption.getD none, security := v.securityJson.toOption.getD none,
        resources := v.resourcesJson.toOption.getD .null } := by
  obtain ⟨_, h1⟩ := richJson_total v hb
  obtain ⟨_, h2⟩ := (exportsJson_is v).returns trivial
  obtain ⟨_, h3⟩ := (importsJson_is v).returns hsz
  obtain ⟨_, h4⟩ := (baseRelocsJson_is v).returns trivial
  obtain ⟨_, h5⟩ := (debugJson_is v).returns trivial
  obtain ⟨_, h6⟩ := (tlsJson_is v).returns trivial
  obtain ⟨_, h7⟩ := (loadConfigJson_is v).returns trivial
  obtain ⟨_, h8⟩ := securityJson_total v hb
  obtain ⟨_, h9⟩ := resourcesJson_total v
  rw [View.serializePe, h1, h2, h3, h4, h5, h6, h7, h8, h9]
  rfl

theorem serializePe_total (v : View) (hb : v.img.base % 4 = 0) (hsz : v.img.bytes.size < 4294967296) :
    ∃ j, v.serializePe = .ok j :=
  ⟨_, serializePe_eq v hb hsz⟩

/-! ### the one `from_utf8_unchecked` of the serializer: `CodeView::format` -/

theorem bytesOf_le32 (b : Bytes) (o : Nat) :
    bytesOf b ⟨o, 4, 1⟩ = [le32 b o % 256, le32 b o / 256 % 256, le32 b o / 65536 % 256, le32 b o / 16777216] := by
  obtain ⟨a0, a1, a2, a3⟩ := le32_four_bytes b o
  rw [a0, a1, a2, ← Nat.mod_eq_of_lt (Nat.div_lt_of_lt_mul (le32_lt b o) : le32 b o / 16777216 < 256), a3]
  rfl

theorem codeView_format_ascii {v : View} {d : Nat} {cv : Dirs.CodeView} (h : Dirs.codeView v d = .ok cv) :
    bytesOf v.b ⟨cv.image.off, 4, 1⟩ = [78, 66, 49, 48] ∨ bytesOf v.b ⟨cv.image.off, 4, 1⟩ = [82, 83, 68, 83] := by
  obtain ⟨data, _, _, ⟨n, rfl, hs, _⟩ | ⟨n, rfl, hs, _⟩⟩ := Dirs.codeView_sound h
  · exact .inl (by show bytesOf v.b ⟨data.off, 4, 1⟩ = _; rw [bytesOf_le32, hs]; rfl)
  · exact .inr (by show bytesOf v.b ⟨data.off, 4, 1⟩ = _; rw [bytesOf_le32, hs]; rfl)

end Pe
end Pelite
