import PeliteModel.Lemmas.VersionQueries
import PeliteModel.Lemmas.VersionRoundTrip
/-!
C13: nesting of the reported nodes, node-count bound, `Language::parse` on hex
keys, and the spec-side reading of an event list (triples, translation).
-/
set_option linter.unusedSimpArgs false
set_option linter.unnecessarySimpa false

namespace Pelite.Version
open Spec

/-! ### nesting -/

structure PRoot.Nested (r : PRoot) (w : Sl) : Prop where
  root : NodeIn r.node w
  infos : ∀ i ∈ r.infos, NodeIn i.node r.node.children
  infosOrd : r.infos.Pairwise (fun a b => a.node.stop ≤ b.node.start)
  tables : ∀ i ∈ r.infos, ∀ t ∈ i.tables, NodeIn t.node i.node.children
  tablesOrd : ∀ i ∈ r.infos, i.tables.Pairwise (fun a b => a.node.stop ≤ b.node.start)
  strings : ∀ i ∈ r.infos, ∀ t ∈ i.tables, ∀ x ∈ t.strings, NodeIn x t.node.children
  stringsOrd : ∀ i ∈ r.infos, ∀ t ∈ i.tables, t.strings.Pairwise (fun a b => a.stop ≤ b.start)
  vars : ∀ i ∈ r.infos, ∀ x ∈ i.vars, NodeIn x i.node.children
  varsOrd : ∀ i ∈ r.infos, i.vars.Pairwise (fun a b => a.stop ≤ b.start)

structure PInfo.Nested (i : PInfo) : Prop where
  tables : ∀ t ∈ i.tables, NodeIn t.node i.node.children
  tablesOrd : i.tables.Pairwise (fun a b => a.node.stop ≤ b.node.start)
  strings : ∀ t ∈ i.tables, ∀ x ∈ t.strings, NodeIn x t.node.children
  stringsOrd : ∀ t ∈ i.tables, t.strings.Pairwise (fun a b => a.stop ≤ b.start)
  vars : ∀ x ∈ i.vars, NodeIn x i.node.children
  varsOrd : i.vars.Pairwise (fun a b => a.stop ≤ b.start)

theorem pInfo_nested (fi : Tlv) : (pInfo fi).Nested := by
  rcases pInfo_spec fi with ⟨-, h⟩ | ⟨-, h⟩ | ⟨-, -, h⟩ <;> rw [h]
  · exact ⟨List.forall_mem_map.mpr (items_ext .zero fi.children).1, List.pairwise_map.mpr (items_ext .zero fi.children).2,
      List.forall_mem_map.mpr fun st _ => (items_ext .words st.children).1,
      List.forall_mem_map.mpr fun st _ => (items_ext .words st.children).2, nofun, .nil⟩
  · exact ⟨nofun, .nil, nofun, nofun, (items_ext .bytes fi.children).1, (items_ext .bytes fi.children).2⟩
  · exact ⟨nofun, .nil, nofun, nofun, nofun, .nil⟩

theorem pRoots_nested (w : Sl) : ∀ r ∈ pRoots w, r.Nested w := by
  intro r hr
  obtain ⟨vi, hvi, rfl⟩ := List.mem_map.mp hr
  have hn : ∀ i ∈ (pRoot vi).infos, i.Nested := List.forall_mem_map.mpr fun fi _ => pInfo_nested fi
  exact ⟨(items_ext .bytes w).1 vi hvi, List.forall_mem_map.mpr (items_ext .zero vi.children).1,
    List.pairwise_map.mpr (items_ext .zero vi.children).2, fun i hi => (hn i hi).tables, fun i hi => (hn i hi).tablesOrd,
    fun i hi => (hn i hi).strings, fun i hi => (hn i hi).stringsOrd, fun i hi => (hn i hi).vars, fun i hi => (hn i hi).varsOrd⟩

/-! ### node count -/

def PTable.count (t : PTable) : Nat := 1 + t.strings.length

def PInfo.count (i : PInfo) : Nat :=
  1 + match i.kind with
      | .tables ts => (ts.map PTable.count).sum
      | .vars vs => vs.length
      | .other => 0

def PRoot.count (r : PRoot) : Nat := 1 + (r.infos.map PInfo.count).sum

theorem pTable_count (st : Tlv) : 4 * (pTable st).count ≤ 4 + st.children.len := by
  have := items_length_le .words st.children
  simp only [PTable.count, pTable]; omega

theorem pInfo_count (fi : Tlv) : 4 * (pInfo fi).count ≤ 4 + fi.children.len := by
  rcases pInfo_spec fi with ⟨-, h⟩ | ⟨-, h⟩ | ⟨-, -, h⟩ <;> rw [h] <;> unfold PInfo.count
  · have := items_weight_le .zero (PTable.count ∘ pTable) fi.children fun t _ => pTable_count t
    simp only [List.map_map]; omega
  · have := items_length_le .bytes fi.children
    simp only []; omega
  · simp only []; omega

theorem pRoot_count (vi : Tlv) : 4 * (pRoot vi).count ≤ 4 + vi.children.len := by
  have := items_weight_le .zero (PInfo.count ∘ pInfo) vi.children fun t _ => pInfo_count t
  simp only [PRoot.count, pRoot, List.map_map]; omega

theorem pRoots_count (w : Sl) : ∀ r ∈ pRoots w, 4 * r.count ≤ w.len := by
  intro r hr
  simp only [pRoots, List.mem_map] at hr
  obtain ⟨vi, hvi, rfl⟩ := hr
  obtain ⟨h1, h2, h3, h4, _, h6, _, _, _⟩ := (items_ext .bytes w).1 vi hvi
  have := pRoot_count vi
  simp only [Tlv.stop] at h6
  omega

theorem flatTable_length (t : PTable) : (flatTable t).length = 2 + t.count := by
  simp [flatTable, flatStrings, PTable.count]; omega

theorem flatInfo_length (i : PInfo) : (flatInfo i).length ≤ 3 * i.count := by
  unfold flatInfo PInfo.count
  cases i.kind with
  | tables ts =>
    simp only [flatKind, List.length_append, List.length_cons, List.length_nil]
    have : (ts.flatMap flatTable).length ≤ 3 * (ts.map PTable.count).sum := by
      induction ts with
      | nil => simp
      | cons t l ih =>
        simp only [List.flatMap_cons, List.length_append, List.map_cons, List.sum_cons, flatTable_length]
        have : 1 ≤ t.count := by simp [PTable.count]
        omega
    omega
  | vars vs => simp [flatKind]; omega
  | other => simp [flatKind]

theorem flatRoot_length (r : PRoot) : (flatRoot r).length ≤ 3 * r.count := by
  unfold flatRoot PRoot.count
  simp only [List.length_append, List.length_cons, List.length_nil]
  have : (r.infos.flatMap flatInfo).length ≤ 3 * (r.infos.map PInfo.count).sum := by
    induction r.infos with
    | nil => simp
    | cons i l ih =>
      simp only [List.flatMap_cons, List.length_append, List.map_cons, List.sum_cons]
      have := flatInfo_length i
      omega
  omega

/-! ### Language::parse on hex keys -/

theorem digit_hex {c d : Nat} (h : hexDigitVal c = some d) : digit c = d ∧ d < 16 := by
  -- above 'f' nothing is a digit; below it the table is finite
  have hc : c < 103 := Nat.lt_of_not_le fun hc => by
    rw [hexDigitVal, if_neg (by omega), if_neg (by omega), if_neg (by omega)] at h; cases h
  have table : ∀ c < 103, ∀ d ∈ hexDigitVal c, digit c = d ∧ d < 16 := by decide
  exact table c hc d h

/-- four hexadecimal digits shifted to their places occupy disjoint bit ranges, so `|||` adds them -/
theorem lor4 {d0 d1 d2 d3 : Nat} (h0 : d0 < 16) (h1 : d1 < 16) (h2 : d2 < 16) (h3 : d3 < 16) :
    shl16 d0 12 ||| shl16 d1 8 ||| shl16 d2 4 ||| d3 = ((d0 * 16 + d1) * 16 + d2) * 16 + d3 := by
  have e0 : shl16 d0 12 = d0 <<< 12 := by
    unfold shl16; rw [Nat.shiftLeft_eq]; simp only [Nat.reducePow]; omega
  have e1 : shl16 d1 8 = d1 * 256 := by unfold shl16; simp only [Nat.reducePow]; omega
  have e2 : shl16 d2 4 = d2 * 16 := by unfold shl16; simp only [Nat.reducePow]; omega
  rw [e0, e1, e2]
  rw [← Nat.shiftLeft_add_eq_or_of_lt (i := 12) (b := d1 * 256) (by simp only [Nat.reducePow]; omega) d0]
  have s1 : d0 <<< 12 + d1 * 256 = (d0 * 16 + d1) <<< 8 := by
    simp only [Nat.shiftLeft_eq, Nat.reducePow]; omega
  rw [s1, ← Nat.shiftLeft_add_eq_or_of_lt (i := 8) (b := d2 * 16) (by simp only [Nat.reducePow]; omega)]
  have s2 : (d0 * 16 + d1) <<< 8 + d2 * 16 = ((d0 * 16 + d1) * 16 + d2) <<< 4 := by
    simp only [Nat.shiftLeft_eq, Nat.reducePow]; omega
  rw [s2, ← Nat.shiftLeft_add_eq_or_of_lt (i := 4) (b := d3) (by simp only [Nat.reducePow]; omega)]
  simp only [Nat.shiftLeft_eq, Nat.reducePow]

theorem hexNumeral4 {a b c d n : Nat} (h : hexNumeral [a, b, c, d] = some n) :
    ∃ d0 d1 d2 d3, hexDigitVal a = some d0 ∧ hexDigitVal b = some d1 ∧ hexDigitVal c = some d2 ∧
      hexDigitVal d = some d3 ∧ n = ((d0 * 16 + d1) * 16 + d2) * 16 + d3 := by
  simp only [hexNumeral, List.foldl_cons, List.foldl_nil] at h
  cases ha : hexDigitVal a with
  | none => simp [ha] at h
  | some d0 =>
    cases hb : hexDigitVal b with
    | none => simp [ha, hb] at h
    | some d1 =>
      cases hc : hexDigitVal c with
      | none => simp [ha, hb, hc] at h
      | some d2 =>
        cases hd : hexDigitVal d with
        | none => simp [ha, hb, hc, hd] at h
        | some d3 =>
          simp only [ha, hb, hc, hd, Option.some.injEq] at h
          exact ⟨d0, d1, d2, d3, rfl, rfl, rfl, rfl, by omega⟩

theorem parse_hex_key {k : List Nat} {l c : Nat} (h : langOfKey k = some (l, c)) :
    Language.parse k = some ⟨l, c⟩ := by
  unfold langOfKey at h
  split at h
  · rename_i h8
    match k, h8 with
    | [a0, a1, a2, a3, a4, a5, a6, a7], _ =>
      simp only [List.take, List.drop] at h
      cases h1 : hexNumeral [a0, a1, a2, a3] with
      | none => simp [h1] at h
      | some n1 =>
        cases h2 : hexNumeral [a4, a5, a6, a7] with
        | none => simp [h1, h2] at h
        | some n2 =>
          simp only [h1, h2, Option.some.injEq, Prod.mk.injEq] at h
          obtain ⟨d0, d1, d2, d3, e0, e1, e2, e3, en1⟩ := hexNumeral4 h1
          obtain ⟨d4, d5, d6, d7, e4, e5, e6, e7, en2⟩ := hexNumeral4 h2
          have := digit_hex e0; have := digit_hex e1; have := digit_hex e2; have := digit_hex e3
          have := digit_hex e4; have := digit_hex e5; have := digit_hex e6; have := digit_hex e7
          simp only [Language.parse, List.length_cons, List.length_nil, ne_eq, not_true_eq_false, if_false,
            List.getD_cons_zero, List.getD_cons_succ]
          simp only [*]
          rw [lor4 (by omega) (by omega) (by omega) (by omega), lor4 (by omega) (by omega) (by omega) (by omega)]
          rw [← en1, ← en2, h.1, h.2]
  · cases h

/-! ### reading an event list (specification side) -/

theorem triples_fold_strings (l : List Nat) (acc : List (List Nat × List Nat × List Nat)) (ss : List VStr) :
    (ss.map (fun s => SEvent.string s.key (stripTerminator s.stored))).foldl triplesStep (l, acc)
      = (l, acc ++ ss.map (fun s => (l, s.key, stripTerminator s.stored))) := by
  induction ss generalizing acc with
  | nil => simp
  | cons s ss ih => simp only [List.map_cons, List.foldl_cons, triplesStep]; rw [ih]; simp

theorem triples_fold_tables (st : List Nat × List (List Nat × List Nat × List Nat)) (ts : List VTable) :
    ((ts.flatMap VTable.events).foldl triplesStep st).2 = st.2 ++ ts.flatMap VTable.triples := by
  induction ts generalizing st with
  | nil => simp
  | cons t ts ih =>
    simp only [List.flatMap_cons, List.foldl_append, ih, VTable.events, List.cons_append, List.nil_append,
      List.foldl_cons, List.foldl_nil, triplesStep, triples_fold_strings, VTable.triples, List.append_assoc]

theorem triples_fold_vars (st : List Nat × List (List Nat × List Nat × List Nat)) (vs : List VVar) :
    (vs.map (fun x => SEvent.var x.key x.value)).foldl triplesStep st = st := by
  induction vs with
  | nil => rfl
  | cons x xs ih => simpa [List.map_cons, List.foldl_cons, triplesStep] using ih

/-- Only the collected triples, for every state: the language a block leaves behind is not part of the answer, and each
table sets its own before its strings. -/
theorem triples_fold_blocks (st : List Nat × List (List Nat × List Nat × List Nat)) (bs : List VBlock) :
    ((bs.flatMap VBlock.events).foldl triplesStep st).2 = st.2 ++ bs.flatMap VBlock.triples := by
  induction bs generalizing st with
  | nil => simp
  | cons b bs ih =>
    cases b <;>
      simp only [List.flatMap_cons, List.foldl_append, ih, VBlock.events, List.cons_append, List.nil_append,
        List.foldl_cons, List.foldl_nil, triplesStep, triples_fold_tables, triples_fold_vars, VBlock.triples,
        List.append_assoc, List.append_nil]

theorem triples_events (v : VInfo) : triples v.events = v.strings := by
  unfold triples VInfo.events VInfo.strings
  simp only [List.cons_append, List.nil_append, List.foldl_cons, List.foldl_append, List.foldl_nil, triplesStep,
    triples_fold_blocks]

theorem translationValues_events (v : VInfo) : translationValues v.events = v.translationVars := by
  unfold translationValues VInfo.events VInfo.translationVars
  simp only [List.cons_append, List.nil_append, List.filterMap_cons, List.filterMap_append, List.filterMap_nil,
    List.append_nil, List.filterMap_flatMap, translationOf]
  congr 1; funext b
  cases b with
  | stringInfo ts =>
    simp only [VBlock.events, VBlock.translationVars, List.filterMap_eq_nil_iff]
    intro a ha
    simp only [VTable.events, List.cons_append, List.nil_append, List.mem_cons, List.mem_append, List.mem_flatMap,
      List.mem_map, List.not_mem_nil, or_false] at ha
    -- no event of a StringFileInfo block is a `var`
    rcases ha with rfl | rfl | ⟨t, _, rfl | rfl | ⟨s, _, rfl⟩ | rfl⟩ | rfl <;> rfl
  | varInfo vs =>
    simp only [VBlock.events, VBlock.translationVars, List.cons_append, List.nil_append, List.filterMap_cons,
      List.filterMap_append, List.filterMap_nil, List.append_nil, List.filterMap_map, translationOf]
    exact filterMap_if (fun x : VVar => x.key = kTranslation) (·.value) vs

theorem langsOf_pairs (ws : List Nat) : (langsOf ws).map (fun l => (l.langId, l.charsetId)) = pairs ws := by
  induction ws using langsOf.induct with
  | case1 a b rest ih => simp [langsOf, pairs, ih]
  | case2 l h =>
    match l, h with
    | [], _ => rfl
    | [_], _ => rfl
    | a :: b :: rest, h => exact absurd rfl (h a b rest)

end Pelite.Version
