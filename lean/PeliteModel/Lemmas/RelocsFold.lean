import PeliteModel.Lemmas.Relocs
import PeliteModel.Spec.Relocs
/-!
Helper lemmas for C14 / C18 on what the block iterator finds: the internal iteration (`foldWords` / `foldBlocks`) and the
provided `nth` / `count` against the block list, the format-side decoder and well-formedness predicate of Spec/Relocs
against the model's index reads, tiling, call histories; and the two example files of `C14_extraction`.
-/
namespace Pelite.Relocs

theorem foldWords_eq_foldl {α : Type} (f : α → Nat → Nat → α) (data : Bytes) (b : Block) (i : Nat) (accum : α) :
    foldWords f data b i accum =
      (((List.range' i (b.nwords - i)).map (fun i => le16 data (b.off + 8 + 2 * i))).filterMap
        (fun w => if typeOf w ≠ 0 then some (rvaOf b.va w, typeOf w) else none)).foldl (fun a p => f a p.1 p.2) accum := by
  fun_induction foldWords f data b i accum with
  | case1 i accum hlt word ty hty ih =>
    rw [ih, show b.nwords - i = (b.nwords - (i + 1)) + 1 by omega, List.range'_succ, List.map_cons, List.filterMap_cons,
      if_pos hty, List.foldl_cons]
  | case2 i accum hlt word ty hty ih =>
    rw [ih, show b.nwords - i = (b.nwords - (i + 1)) + 1 by omega, List.range'_succ, List.map_cons, List.filterMap_cons,
      if_neg hty]
  | case3 i accum hge =>
    rw [show b.nwords - i = 0 by omega]
    rfl

theorem foldWords_eq_flatBlock {α : Type} (f : α → Nat → Nat → α) (data : Bytes) (b : Block)
    (accum : α) :
    foldWords f data b 0 accum = (flatBlock data b).foldl (fun a p => f a p.1 p.2) accum := by
  rw [foldWords_eq_foldl, flatBlock, Block.words, Nat.sub_zero, List.range_eq_range']

theorem foldBlocks_eq_foldl {α : Type} (f : α → Nat → Nat → α) (data : Bytes) (off : Nat) (accum : α) :
    foldBlocks f data off accum =
      ((blocksFrom data off).flatMap (flatBlock data)).foldl (fun a p => f a p.1 p.2) accum := by
  fun_induction foldBlocks f data off accum with
  | case1 off accum h =>
    rw [blocksFrom_of_next_none h]
    rfl
  | case2 off accum b off' h _ ih =>
    rw [ih, blocksFrom_of_next_some h, List.flatMap_cons, List.foldl_append, foldWords_eq_flatBlock]

theorem fold_eq_flat {α : Type} (f : α → Nat → Nat → α) (init : α) (data : Bytes) :
    fold f init data = (flat data).foldl (fun a p => f a p.1 p.2) init := by
  unfold fold flat blocks
  exact foldBlocks_eq_foldl f data 0 init

theorem forEach_eq_flat {σ : Type} (f : Nat → Nat → σ → σ) (data : Bytes) (s : σ) :
    forEach f data s = (flat data).foldl (fun s p => f p.1 p.2 s) s := by
  unfold forEach
  rw [fold_eq_flat]
  exact (List.foldl_hom Prod.snd fun _ _ => rfl).symm

theorem nthBlock_spec (data : Bytes) (k off : Nat) :
    (nthBlock data off k).1 = (blocksFrom data off)[k]? ∧
    blocksFrom data (nthBlock data off k).2 = (blocksFrom data off).drop (k + 1) := by
  induction k generalizing off with
  | zero =>
    unfold nthBlock
    cases h : nextBlock data off with
    | none =>
      have := blocksFrom_of_next_none h
      simp [this]
    | some p =>
      obtain ⟨b, off'⟩ := p
      have := blocksFrom_of_next_some h
      simp [this]
  | succ k ih =>
    unfold nthBlock
    cases h : nextBlock data off with
    | none =>
      have := blocksFrom_of_next_none h
      simp [this]
    | some p =>
      obtain ⟨b, off'⟩ := p
      have := blocksFrom_of_next_some h
      obtain ⟨h1, h2⟩ := ih off'
      simp only [this, List.getElem?_cons_succ, List.drop_succ_cons]
      exact ⟨h1, h2⟩

theorem countBlocks_eq (data : Bytes) (off n : Nat) :
    countBlocks data off n = n + (blocksFrom data off).length := by
  fun_induction countBlocks data off n with
  | case1 off n h => rw [blocksFrom_of_next_none h]; rfl
  | case2 off n b off' h _ ih =>
    rw [ih, blocksFrom_of_next_some h, List.length_cons]; omega

open Pelite.Relocs.Spec

theorem drop_cons_byte (data : Bytes) (i : Nat) (h : i < data.size) :
    ∃ b : UInt8, b.toNat = byteAt data i ∧ data.toList.drop i = b :: data.toList.drop (i + 1) := by
  have h' : i < data.toList.length := by simpa using h
  exact ⟨data.toList[i], by simp [byteAt, h], List.drop_eq_getElem_cons h'⟩

theorem leVal_take4 (data : Bytes) (off : Nat) (h : off + 4 ≤ data.size) :
    leVal ((data.toList.drop off).take 4) = le32 data off := by
  obtain ⟨b0, h0, e0⟩ := drop_cons_byte data off (by omega)
  obtain ⟨b1, h1, e1⟩ := drop_cons_byte data (off + 1) (by omega)
  obtain ⟨b2, h2, e2⟩ := drop_cons_byte data (off + 2) (by omega)
  obtain ⟨b3, h3, e3⟩ := drop_cons_byte data (off + 3) (by omega)
  rw [e0, e1, e2, e3]
  simp only [List.take_succ_cons, List.take_zero, leVal, le32, h0, h1, h2, h3]
  omega

theorem words16_take (data : Bytes) (n o : Nat) (h : o + 2 * n ≤ data.size) :
    words16 ((data.toList.drop o).take (2 * n)) =
      (List.range n).map (fun i => le16 data (o + 2 * i)) := by
  induction n generalizing o with
  | zero => simp [words16]
  | succ n ih =>
    obtain ⟨b0, h0, e0⟩ := drop_cons_byte data o (by omega)
    obtain ⟨b1, h1, e1⟩ := drop_cons_byte data (o + 1) (by omega)
    rw [e0, e1, show 2 * (n + 1) = 2 * n + 1 + 1 by omega, List.take_succ_cons, List.take_succ_cons,
      words16, ih (o + 2) (by omega), List.range_succ_eq_map, List.map_cons, List.map_map]
    congr 1
    · simp only [leVal, le16, h0, h1, Nat.mul_zero, Nat.add_zero]
    · apply List.map_congr_left
      intro i _
      simp only [Function.comp]
      congr 1
      omega

theorem decodeEntry_eq (va w : Nat) :
    decodeEntry va w = if typeOf w ≠ 0 then some (rvaOf va w, typeOf w) else none := by
  unfold decodeEntry typeOf rvaOf wadd32
  have h1 : w >>> 12 = w / 4096 := by rw [Nat.shiftRight_eq_div_pow]
  have h2 : w &&& 0xFFF = w % 4096 := Nat.and_two_pow_sub_one_eq_mod w 12
  simp only [h1, h2]
  split <;> simp_all


theorem flatBlock_eq_spec {data : Bytes} {off : Nat} (hwf : (blockAt data off).WF data) :
    flatBlock data (blockAt data off) =
      decodeBlock ((data.toList.drop off).take (le32 data (off + 4))) := by
  obtain ⟨h4, h8, hin⟩ := hwf
  simp only [blockAt] at h4 h8 hin
  unfold flatBlock decodeBlock Block.words
  have hva : leVal (((data.toList.drop off).take (le32 data (off + 4))).take 4) = le32 data off := by
    rw [List.take_take, Nat.min_eq_left (by omega), leVal_take4 data off (by omega)]
  have hws : words16 (((data.toList.drop off).take (le32 data (off + 4))).drop 8) =
      (List.range ((le32 data (off + 4) - 8) / 2)).map (fun i => le16 data (off + 8 + 2 * i)) := by
    rw [List.drop_take, List.drop_drop,
      show le32 data (off + 4) - 8 = 2 * ((le32 data (off + 4) - 8) / 2) by omega,
      words16_take data _ _ (by omega)]
    simp only [show 2 * ((le32 data (off + 4) - 8) / 2) = le32 data (off + 4) - 8 by omega]
  rw [hva, hws]
  simp only [blockAt, Nat.min_eq_left (show le32 data (off + 4) ≤ data.size - off by omega)]
  congr 1
  funext w
  exact (decodeEntry_eq _ w).symm

theorem leVal_size (data : Bytes) (off : Nat) (h : off + 8 ≤ data.size) :
    leVal (((data.toList.drop off).drop 4).take 4) = le32 data (off + 4) := by
  rw [List.drop_drop, leVal_take4 data (off + 4) (by omega)]

theorem flat_from_eq_spec (data : Bytes) (off : Nat)
    (hwf : ∀ b ∈ blocksFrom data off, b.WF data) :
    (blocksFrom data off).flatMap (flatBlock data) = decodeDir (data.toList.drop off) := by
  induction off using blocksFrom_induct (data := data) with
  | stop off hlt => rw [decodeDir, if_pos (by simp; omega)]; rfl
  | next off hge off' he _ _ ih =>
    have hb := hwf _ List.mem_cons_self
    obtain ⟨h4, h8, hin⟩ := id hb
    simp only [blockAt] at h4 h8 hin
    rw [step_eq_size (le32_lt _ _) h4 h8 (by omega)] at he
    rw [decodeDir, if_neg (by simp; omega)]
    simp only [leVal_size data off hge, List.length_drop, Array.length_toList]
    rw [if_neg (by omega), List.flatMap_cons, flatBlock_eq_spec hb, List.drop_drop, ← he,
      ih (fun b hb => hwf b (List.mem_cons_of_mem _ hb))]

theorem wellFormedDir_from_iff (data : Bytes) (off : Nat) :
    WellFormedDir (data.toList.drop off) ↔ ∀ b ∈ blocksFrom data off, b.WF data := by
  induction off using blocksFrom_induct (data := data) with
  | stop off hlt => rw [WellFormedDir, if_pos (by simp; omega)]; simp
  | next off hge off' he _ _ ih =>
    rw [WellFormedDir, if_neg (by simp; omega)]
    simp only [leVal_size data off hge, List.length_drop, Array.length_toList, List.forall_mem_cons]
    by_cases hb : (blockAt data off).WF data
    · obtain ⟨h4, h8, hin⟩ := id hb
      simp only [blockAt] at h4 h8 hin
      rw [step_eq_size (le32_lt _ _) h4 h8 (by omega)] at he
      rw [if_neg (by omega), List.drop_drop, ← he, ih]
      exact ⟨fun h => ⟨hb, h.2⟩, fun h => ⟨h4, h.2⟩⟩
    · refine ⟨fun h => ?_, fun h => absurd h.1 hb⟩
      split at h
      · exact h.elim
      · exact absurd ⟨h.1, by simp only [blockAt]; omega, by simp only [blockAt]; omega⟩ hb

theorem wellFormedDir_decides (dir : List UInt8) : wellFormedDir dir = true ↔ WellFormedDir dir := by
  fun_induction wellFormedDir dir <;> rw [WellFormedDir]
  next h8 => rw [if_pos h8]; simp
  next h8 size hbad => rw [if_neg h8, if_pos hbad]; simp
  next h8 size hbad ih => rw [if_neg h8, if_neg hbad, Bool.and_eq_true, decide_eq_true_eq, ih]

/-! ### tiling -/

theorem Tiles.end_eq {s e : Nat} {bs : List Block} (h : Tiles s bs e) :
    e = s + (bs.map (·.size)).sum := by
  induction bs generalizing s with
  | nil => simpa [Tiles] using h.symm
  | cons b bs ih =>
    obtain ⟨_, h2⟩ := h
    rw [ih h2, List.map_cons, List.sum_cons]; omega

theorem Tiles.bounds {s e : Nat} {bs : List Block} (h : Tiles s bs e) :
    s ≤ e ∧ ∀ b ∈ bs, s ≤ b.off ∧ b.off + b.size ≤ e := by
  induction bs generalizing s with
  | nil => exact ⟨by simp [Tiles] at h; omega, fun b hb => by cases hb⟩
  | cons b bs ih =>
    obtain ⟨h1, h2⟩ := h
    obtain ⟨h3, h4⟩ := ih h2
    refine ⟨by omega, ?_⟩
    intro c hc
    rcases List.mem_cons.mp hc with rfl | hc
    · omega
    · have := h4 c hc; omega

theorem Tiles.offset {s e : Nat} {bs : List Block} (h : Tiles s bs e) (i : Nat) (hi : i < bs.length) :
    bs[i].off = s + ((bs.take i).map (·.size)).sum := by
  induction bs generalizing s i with
  | nil => cases hi
  | cons b bs ih =>
    obtain ⟨h1, h2⟩ := h
    cases i with
    | zero => simpa using h1
    | succ i =>
      simp only [List.getElem_cons_succ, List.take_succ_cons, List.map_cons, List.sum_cons]
      rw [ih h2 i (by simpa using hi)]; omega

theorem Tiles.consecutive {s e : Nat} {bs : List Block} (h : Tiles s bs e) (i : Nat)
    (hi : i + 1 < bs.length) : bs[i + 1].off = bs[i].off + bs[i].size := by
  rw [h.offset (i + 1) hi, h.offset i (by omega), List.take_succ_eq_append_getElem (by omega), List.map_append,
    List.sum_append, List.map_singleton, List.sum_singleton, Nat.add_assoc]

theorem Tiles.pairwise {s e : Nat} {bs : List Block} (h : Tiles s bs e) :
    bs.Pairwise (fun a b => a.off + a.size ≤ b.off) := by
  induction bs generalizing s with
  | nil => exact List.Pairwise.nil
  | cons b bs ih =>
    obtain ⟨h1, h2⟩ := h
    refine List.Pairwise.cons ?_ (ih h2)
    intro c hc
    have := (Tiles.bounds h2).2 c hc
    omega

theorem Tiles.cover {s e : Nat} {bs : List Block} (h : Tiles s bs e) (p : Nat) (h1 : s ≤ p)
    (h2 : p < e) : ∃ b ∈ bs, b.off ≤ p ∧ p < b.off + b.size := by
  induction bs generalizing s with
  | nil => simp [Tiles] at h; omega
  | cons b bs ih =>
    obtain ⟨h3, h4⟩ := h
    by_cases hp : p < s + b.size
    · exact ⟨b, List.mem_cons_self, by omega, by omega⟩
    · obtain ⟨c, hc, hc'⟩ := ih h4 (by omega)
      exact ⟨c, List.mem_cons_of_mem _ hc, hc'⟩

theorem tiles_blocksFrom (data : Bytes) (off : Nat) (hoff : off ≤ data.size)
    (hwf : ∀ b ∈ blocksFrom data off, b.WF data) :
    ∃ e, Tiles off (blocksFrom data off) e ∧ e ≤ data.size ∧ data.size < e + 8 := by
  induction off using blocksFrom_induct (data := data) with
  | stop off hlt => exact ⟨off, rfl, hoff, hlt⟩
  | next off hge off' he _ h2 ih =>
    obtain ⟨h4, h8, hin⟩ := hwf _ List.mem_cons_self
    simp only [blockAt] at h4 h8 hin
    rw [step_eq_size (le32_lt _ _) h4 h8 (by omega)] at he
    obtain ⟨e, he1, he2⟩ := ih h2 (fun b hb => hwf b (List.mem_cons_of_mem _ hb))
    exact ⟨e, ⟨rfl, he ▸ he1⟩, he2⟩

theorem wf_block_shape {data : Bytes} {b : Block} (hmem : b ∈ blocks data) (hwf : b.WF data) :
    b.nwords = (b.size - 8) / 2 ∧ b.off + 8 + 2 * b.nwords = b.off + b.size := by
  obtain ⟨o, -, -, ho8, rfl⟩ := mem_blocksFrom (off := 0) (by rfl) hmem
  obtain ⟨h4, h8, hin⟩ := hwf
  simp only [blockAt] at h4 h8 hin ⊢
  omega

open Pelite.Seq in
theorem stepOp_spec (data : Bytes) (off : Nat) (o : Seq.Op) :
    (stepOp data off o).1 = (stepSeq Hint.unknown (blocksFrom data off) o).1 ∧
    blocksFrom data (stepOp data off o).2 = (stepSeq Hint.unknown (blocksFrom data off) o).2 := by
  cases o with
  | next =>
    unfold stepOp
    cases h : nextBlock data off with
    | none =>
      have := blocksFrom_of_next_none h
      simp [stepSeq, DequeSpec.next, this]
    | some p =>
      obtain ⟨b, off'⟩ := p
      have := blocksFrom_of_next_some h
      simp [stepSeq, DequeSpec.next, this]
  | nth n =>
    obtain ⟨h1, h2⟩ := nthBlock_spec data n off
    simp [stepOp, stepSeq, DequeSpec.nth, h1, h2]
  | sizeHint => simp [stepOp, stepSeq, sizeHintBlocks, Hint.unknown]
  | count => simp [stepOp, stepSeq, countBlocks_eq]
  | clone => simp [stepOp, stepSeq]

open Pelite.Seq in
theorem runOps_eq_runSeq (data : Bytes) (ops : List Seq.Op) (off : Nat) :
    runOps data off ops = runSeq Hint.unknown (blocksFrom data off) ops := by
  induction ops generalizing off with
  | nil => rfl
  | cons o os ih =>
    obtain ⟨h1, h2⟩ := stepOp_spec data off o
    rw [runOps, runSeq, ih, h1, h2]

/-! ### images for the non-vacuity examples of the extraction theorem (`C14_extraction`, Thm/C14.lean)

Two FILES with one section `.reloc` (RVA 0x1000, 32 raw bytes directly behind the headers: file offset 272 / 288) and six
data directories; slot 5 = (0x1000, 28): two well-formed blocks (page 0x2000: one entry and a padding entry; page
0x3000: three entries and a padding entry).  The generator `gen_pure.gen_relocs_image` reads these two arrays out of THIS
file (the two mapped images it patches from `demoBytes` / `demoBytes64` of Lemmas/DirsExamples.lean) and replays them
through the model driver and the Rust harness on every check. -/

def relocFile32 : Bytes := #[
    77, 90, 0, 0, 0, 0, 0, 0, 0, 0, 0, 0, 0, 0, 0, 0, 0, 0, 0, 0, 0, 0, 0, 0, 0, 0, 0, 0, 0, 0, 0, 0, 0, 0,
    0, 0, 0, 0, 0, 0, 0, 0, 0, 0, 0, 0, 0, 0, 0, 0, 0, 0, 0, 0, 0, 0, 0, 0, 0, 0, 64, 0, 0, 0, 80, 69, 0, 0,
    76, 1, 1, 0, 0, 0, 0, 95, 0, 0, 0, 0, 0, 0, 0, 0, 144, 0, 2, 33, 11, 1, 14, 0, 0, 0, 0, 0, 0, 2, 0, 0, 0, 0,
    0, 0, 0, 16, 0, 0, 0, 16, 0, 0, 0, 32, 0, 0, 0, 0, 64, 0, 0, 16, 0, 0, 4, 0, 0, 0, 6, 0, 0, 0, 0, 0, 0, 0,
    6, 0, 0, 0, 0, 0, 0, 0, 0, 32, 0, 0, 16, 1, 0, 0, 0, 0, 0, 0, 3, 0, 64, 129, 0, 0, 16, 0, 0, 16, 0, 0, 0, 0,
    16, 0, 0, 16, 0, 0, 0, 0, 0, 0, 6, 0, 0, 0, 0, 0, 0, 0, 0, 0, 0, 0, 0, 0, 0, 0, 0, 0, 0, 0, 0, 0, 0, 0,
    0, 0, 0, 0, 0, 0, 0, 0, 0, 0, 0, 0, 0, 0, 0, 0, 0, 0, 0, 0, 0, 16, 0, 0, 28, 0, 0, 0, 46, 114, 101, 108, 111, 99,
    0, 0, 32, 0, 0, 0, 0, 16, 0, 0, 32, 0, 0, 0, 16, 1, 0, 0, 0, 0, 0, 0, 0, 0, 0, 0, 0, 0, 0, 0, 64, 0, 0, 66,
    0, 32, 0, 0, 12, 0, 0, 0, 4, 48, 0, 0, 0, 48, 0, 0, 16, 0, 0, 0, 8, 160, 16, 48, 255, 63, 0, 0, 0, 0, 0, 0]

def relocFile64 : Bytes := #[
    77, 90, 0, 0, 0, 0, 0, 0, 0, 0, 0, 0, 0, 0, 0, 0, 0, 0, 0, 0, 0, 0, 0, 0, 0, 0, 0, 0, 0, 0, 0, 0, 0, 0,
    0, 0, 0, 0, 0, 0, 0, 0, 0, 0, 0, 0, 0, 0, 0, 0, 0, 0, 0, 0, 0, 0, 0, 0, 0, 0, 64, 0, 0, 0, 80, 69, 0, 0,
    100, 134, 1, 0, 0, 0, 0, 95, 0, 0, 0, 0, 0, 0, 0, 0, 160, 0, 34, 32, 11, 2, 14, 0, 0, 0, 0, 0, 0, 2, 0, 0, 0, 0,
    0, 0, 0, 16, 0, 0, 0, 16, 0, 0, 0, 0, 0, 64, 1, 0, 0, 0, 0, 16, 0, 0, 4, 0, 0, 0, 6, 0, 0, 0, 0, 0, 0, 0,
    6, 0, 0, 0, 0, 0, 0, 0, 0, 32, 0, 0, 32, 1, 0, 0, 0, 0, 0, 0, 3, 0, 96, 129, 0, 0, 16, 0, 0, 0, 0, 0, 0, 16,
    0, 0, 0, 0, 0, 0, 0, 0, 16, 0, 0, 0, 0, 0, 0, 16, 0, 0, 0, 0, 0, 0, 0, 0, 0, 0, 6, 0, 0, 0, 0, 0, 0, 0,
    0, 0, 0, 0, 0, 0, 0, 0, 0, 0, 0, 0, 0, 0, 0, 0, 0, 0, 0, 0, 0, 0, 0, 0, 0, 0, 0, 0, 0, 0, 0, 0, 0, 0,
    0, 0, 0, 16, 0, 0, 28, 0, 0, 0, 46, 114, 101, 108, 111, 99, 0, 0, 32, 0, 0, 0, 0, 16, 0, 0, 32, 0, 0, 0, 32, 1, 0, 0,
    0, 0, 0, 0, 0, 0, 0, 0, 0, 0, 0, 0, 64, 0, 0, 66, 0, 32, 0, 0, 12, 0, 0, 0, 4, 48, 0, 0, 0, 48, 0, 0, 16, 0,
    0, 0, 8, 160, 16, 48, 255, 63, 0, 0, 0, 0, 0, 0]

end Pelite.Relocs
