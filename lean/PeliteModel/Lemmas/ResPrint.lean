import PeliteModel.Lemmas.Resources
/-!
C12 (C02, C03): the tree printer on arbitrary bytes.  One walk (`DrawOK`) gives that it never panics or reads outside
and that it draws at most `len / 8` entries per directory visited, at most `len / 16` directories (the budget); the
text is a list of per-entry records, so its length is the work.
-/
namespace Pelite.Resources
open Pelite

def DrawOK (o : Out (List (List Nat) × Nat)) (b n M : Nat) : Prop :=
  Safe o ∧ ∀ t b', o = .ok (t, b') → Spent b b' t.length n M

theorem DrawOK.err (e : Err) (b n M : Nat) : DrawOK (.err e) b n M := ⟨trivial, fun _ _ h => by cases h⟩

theorem drawEntries_ok {r : Resources} (hb : Aligned r) (rec : Dir → Nat → Nat → Out (List (List Nat) × Nat)) (M : Nat)
    (hrec : ∀ d m b, DirOK r d → DrawOK (rec d m b) b 0 M) (depth margin : Nat) (isRoot : Bool) :
    ∀ (es : List DirEntry) (b : Nat), DrawOK (drawEntries rec r depth margin isRoot es b) b es.length M
  | [], b => ⟨trivial, fun t b' h => by cases h; exact .refl ..⟩
  | e :: rest, b => by
    -- one record for this entry, `sub` for its sub-directory (budget `b → b1`), then the rest from `b1`
    have tail : ∀ (line : List Nat) (sub : List (List Nat)) (b1 : Nat), Spent b b1 sub.length 0 M →
        DrawOK (match drawEntries rec r depth margin isRoot rest b1 with
          | .ok (more, b2) => .ok (line :: (sub ++ more), b2)
          | o => o) b (rest.length + 1) M := fun line sub b1 h1 => by
      obtain ⟨hs, hw⟩ := drawEntries_ok hb rec M hrec depth margin isRoot rest b1
      rcases hs.ok_or_err with ⟨⟨more, b2⟩, h⟩ | ⟨er, h⟩ <;> rw [h]
      · refine ⟨trivial, fun t b' ht => ?_⟩
        cases ht
        have := h1.step (hw more b2 h)
        rwa [show 1 + sub.length + more.length = (line :: (sub ++ more)).length by
          simp only [List.length_cons, List.length_append]; omega] at this
      · exact .err er b _ M
    unfold drawEntries
    dsimp only
    rcases (safe_getName hb e).ok_or_err with ⟨nm, hn⟩ | ⟨er, hn⟩ <;> rw [hn] <;> dsimp only <;>
    · rcases (safe_entry hb e).ok_or_err with ⟨en, he⟩ | ⟨er', he⟩ <;> rw [he]
      · cases en with
        | data de => exact tail _ [] b (.refl ..)
        | dir d =>
          dsimp only
          obtain ⟨hs, hw⟩ := hrec d (margin ||| if rest.isEmpty = true then 2 ^ depth else 0) b (entry_dir_ok hb he).1
          rcases hs.ok_or_err with ⟨⟨st, b1⟩, hr⟩ | ⟨er', hr⟩ <;> rw [hr]
          · exact tail _ st b1 (hw st b1 hr)
          · exact .err er' b _ M
      · exact tail _ [] b (.refl ..)

theorem drawDir_ok {r : Resources} (hb : Aligned r) : ∀ (k : Nat) (isRoot : Bool) (d : Dir) (m b : Nat), DirOK r d →
    DrawOK (drawDir r k isRoot d m b) b 0 (r.sec.size / 8)
  | 0, _, _, _, b, _ => ⟨trivial, fun t b' h => by cases h; exact .refl ..⟩
  | k+1, isRoot, d, m, b, hd => by
    unfold drawDir
    by_cases hb0 : b = 0
    · rw [if_pos hb0]; exact ⟨trivial, fun t b' h => by cases h; exact .refl ..⟩
    · rw [if_neg hb0, entries_eq hb hd]
      obtain ⟨hs, hw⟩ := drawEntries_ok hb _ (r.sec.size / 8) (fun d' m' b' hd' => drawDir_ok hb k false d' m' b' hd')
        (31 - k) m isRoot (entriesFrom r (d.off + 16) (d.named + d.ids)) (b - 1)
      refine ⟨hs, fun t b' h => ?_⟩
      have h1 := hw t b' h
      rw [entriesFrom_length] at h1
      exact h1.dir hb0 (dirOK_count hd)

theorem safe_textOf {o : Out (List (List Nat) × Nat)} (h : Safe o) : Safe (textOf o) := by
  cases o <;> first | trivial | exact h

theorem safe_dirDisplay {r : Resources} (hb : Aligned r) {d : Dir} (hd : DirOK r d) : Safe (d.display r) := by
  unfold Dir.display
  rcases (safe_textOf ((drawDir_ok hb 32 false d 0 (fsckBudget r) hd).1)).ok_or_err with ⟨t, h⟩ | ⟨e, h⟩ <;>
    rw [h] <;> trivial

theorem safe_display {r : Resources} (hb : Aligned r) : Safe (display r) := by
  unfold display
  rcases (safe_root hb).ok_or_err with ⟨d, hr⟩ | ⟨e, hr⟩ <;> rw [hr]
  · rcases (safe_textOf ((drawDir_ok hb 32 true d 0 (fsckBudget r) (root_ok hb hr)).1)).ok_or_err with ⟨t, h⟩ | ⟨e, h⟩ <;>
      simp only [h] <;> trivial
  · trivial

/-- that the records are the printer's per-entry records is `drawDir_ok` -/
theorem display_work {r : Resources} (hb : Aligned r) {text : List Nat} (h : display r = .ok text) :
    (∃ e, root r = .err e ∧ text = asc "Resources/\n" ++ errText e) ∨
    ∃ records : List (List Nat), text = asc "Resources/\n" ++ records.flatten ∧
      records.length ≤ (r.sec.size / 16) * (r.sec.size / 8) := by
  unfold display at h
  cases hr : root r with
  | ok d =>
    rw [hr] at h
    dsimp only at h
    cases hd : drawDir r 32 true d 0 (fsckBudget r) with
    | ok p =>
      obtain ⟨t, b'⟩ := p
      rw [hd] at h
      simp only [textOf, Out.ok.injEq] at h
      exact Or.inr ⟨t, h.symm, ((drawDir_ok hb 32 true d 0 _ (root_ok hb hr)).2 t b' hd).total⟩
    | _ => rw [hd] at h; cases h
  | err e =>
    rw [hr] at h
    simp only [Out.ok.injEq] at h
    exact Or.inl ⟨e, rfl, h.symm⟩
  | _ => rw [hr] at h; cases h

end Pelite.Resources
