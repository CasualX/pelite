import PeliteModel.Model.Pattern
/-!
Lemmas about the pattern parser model: `RInv.update` for changes of the result vector, `tok_good` (no arm
panics, its effect is a `Step`), the loop invariants as statements about `Step`, and `parse` read off the
reachable states (`Reach`, `parse_reach`).  Core-only.
-/
namespace Pelite.Pattern

/-! ## Vocabulary -/

def isCaseOrNop : Atom → Bool | .case _ | .nop => true | _ => false
def isBrk : Atom → Bool | .brk _ => true | _ => false
def isPlain : Atom → Bool | .push _ | .brk _ | .case _ => false | _ => true
def isPush : Atom → Bool | .push _ => true | _ => false
def isPop : Atom → Bool | .pop => true | _ => false

/-- the save slot an atom reads or writes (exactly the atoms `save_len` looks at) -/
def slotOf : Atom → Option Nat
  | .save s | .pir s | .check s | .zero s | .readI8 s | .readI16 s | .readI32 s
  | .readU8 s | .readU16 s | .readU32 s => some s
  | _ => none

def argOf : Atom → Nat
  | .byte n | .save n | .push n | .fuzzy n | .skip n | .back n | .rangext n | .many n | .pir n | .check n
  | .aligned n | .readI8 n | .readU8 n | .readI16 n | .readU16 n | .readI32 n | .readU32 n | .zero n
  | .case n | .brk n => n
  | _ => 0

/-- what may directly follow `Push(k)`: the same `Push(k)` again (from `{{`) or the jump atom it was made from -/
def PushNext (k : Nat) (b : Atom) : Prop :=
  b = .push k ∨ (k = 1 ∧ b = .jump1) ∨ (k = 4 ∧ b = .jump4) ∨ (k = 0 ∧ b = .ptr)

def jumpFor (k : Nat) (b : Atom) : Prop := (k = 1 ∧ b = .jump1) ∨ (k = 4 ∧ b = .jump4) ∨ (k = 0 ∧ b = .ptr)

def maxNext : List Sub → Nat
  | [] => 0
  | s :: ss => max s.saveNext (maxNext ss)

theorem brk_not_caseOrNop {a : Atom} (h : isBrk a = true) (h' : isCaseOrNop a = true) : False := by
  cases a <;> simp [isBrk, isCaseOrNop] at h h'

/-- Invariant of the result vector relative to the open sub-patterns and the save high-water mark `M`.
`caseT`: a `Case` is the still unpatched `Case(0)` of an open sub-pattern (left) or points at the `Case` / `Nop` that starts
the next alternative.  `subsB`: the recorded `brk` indices still hold their `Break(0)` placeholders.  `M` is not `save`:
`|` and `)` reset `save`, so the slots of closed alternatives are bounded only through the open sub-patterns' `saveNext`
(`Inv` takes `max st.save (maxNext st.subs)`). -/
structure RInv (r : Array Atom) (subs : List Sub) (M : Nat) : Prop where
  first : r[0]? = some (.save 0)
  adj : ∀ (i k : Nat), r[i]? = some (.push k) → ∃ b, r[i+1]? = some b ∧ PushNext k b
  brkT : ∀ (i n : Nat), r[i]? = some (.brk n) → i + 1 + n ≤ r.size
  caseT : ∀ (i n : Nat), r[i]? = some (.case n) →
    (∃ s ∈ subs, s.case = i) ∨ (∃ a, r[i+1+n]? = some a ∧ isCaseOrNop a = true)
  args : ∀ (i : Nat) a, r[i]? = some a → argOf a < 256
  slots : ∀ (i : Nat) a k, r[i]? = some a → slotOf a = some k → k < M
  subsC : ∀ s ∈ subs, ∃ a, r[s.case]? = some a ∧ isCaseOrNop a = true
  subsB : ∀ s ∈ subs, ∀ b ∈ s.brks, ∃ a, r[b]? = some a ∧ isBrk a = true

/-! ## Updates of the result vector -/

/-- what the other positions and the open sub-patterns rely on about an atom: `y` may take the place of `x` -/
structure Keeps (x y : Atom) : Prop where
  save : x = .save 0 → y = .save 0
  caseOrNop : isCaseOrNop x = true → isCaseOrNop y = true
  brk : isBrk x = true → isBrk y = true
  next : ∀ k, PushNext k x → PushNext k y

theorem Keeps.refl {x : Atom} : Keeps x x := ⟨id, id, id, fun _ => id⟩

structure RInv.At (r : Array Atom) (subs : List Sub) (M i : Nat) (a : Atom) : Prop where
  push : ∀ k, a = .push k → ∃ b, r[i+1]? = some b ∧ PushNext k b
  brk : ∀ n, a = .brk n → i + 1 + n ≤ r.size
  case : ∀ n, a = .case n → (∃ s ∈ subs, s.case = i) ∨ ∃ a', r[i+1+n]? = some a' ∧ isCaseOrNop a' = true
  arg : argOf a < 256
  slot : ∀ k, slotOf a = some k → k < M

/-- `r'` keeps the role of every old atom (`old`), every atom of `r'` is an unchanged old one or is fine
where it stands (`new`); a sub-pattern may be dropped once its `Case` has a target (`drop`) and added
with its `Case`/`Break` atoms in place (`add`). -/
theorem RInv.update {r r' : Array Atom} {subs subs' : List Sub} {M : Nat} (h : RInv r subs M)
    (hsz : r.size ≤ r'.size)
    (old : ∀ (i : Nat) x, r[i]? = some x → ∃ y, r'[i]? = some y ∧ Keeps x y)
    (new : ∀ (i : Nat) y, r'[i]? = some y → r[i]? = some y ∨ RInv.At r' subs' M i y)
    (drop : ∀ s ∈ subs, s ∈ subs' ∨
      ∀ n, r'[s.case]? = some (.case n) → ∃ a, r'[s.case+1+n]? = some a ∧ isCaseOrNop a = true)
    (add : ∀ s ∈ subs', s ∈ subs ∨ ((∃ a, r'[s.case]? = some a ∧ isCaseOrNop a = true) ∧
      ∀ b ∈ s.brks, ∃ a, r'[b]? = some a ∧ isBrk a = true)) : RInv r' subs' M where
  first := by
    obtain ⟨y, hy, hk⟩ := old 0 _ h.first
    rw [hk.save rfl] at hy; exact hy
  adj i k hi := by
    rcases new i _ hi with ho | hn
    · obtain ⟨b, hb, hp⟩ := h.adj i k ho
      obtain ⟨y, hy, hk⟩ := old _ _ hb
      exact ⟨y, hy, hk.next k hp⟩
    · exact hn.push k rfl
  brkT i n hi := (new i _ hi).elim (fun ho => Nat.le_trans (h.brkT i n ho) hsz) (fun hn => hn.brk n rfl)
  caseT i n hi := by
    rcases new i _ hi with ho | hn
    · rcases h.caseT i n ho with ⟨s, hs, rfl⟩ | ⟨a, ha, hc⟩
      · exact (drop s hs).imp (fun hs' => ⟨s, hs', rfl⟩) (fun ht => ht n hi)
      · obtain ⟨y, hy, hk⟩ := old _ _ ha
        exact Or.inr ⟨y, hy, hk.caseOrNop hc⟩
    · exact hn.case n rfl
  args i a hi := (new i _ hi).elim (h.args i a) (fun hn => hn.arg)
  slots i a k hi := (new i _ hi).elim (h.slots i a k) (fun hn => hn.slot k)
  subsC s hs := by
    rcases add s hs with ho | hn
    · obtain ⟨a, ha, hc⟩ := h.subsC s ho
      obtain ⟨y, hy, hk⟩ := old _ _ ha
      exact ⟨y, hy, hk.caseOrNop hc⟩
    · exact hn.1
  subsB s hs b hb := by
    rcases add s hs with ho | hn
    · obtain ⟨a, ha, hc⟩ := h.subsB s ho b hb
      obtain ⟨y, hy, hk⟩ := old _ _ ha
      exact ⟨y, hy, hk.brk hc⟩
    · exact hn.2 b hb

theorem get_push_inv {r : Array Atom} {i : Nat} {a b} (h : (r.push b)[i]? = some a) :
    r[i]? = some a ∨ (i = r.size ∧ a = b) := by grind

theorem get_push_of {r : Array Atom} {i : Nat} {a} (b : Atom) (h : r[i]? = some a) : (r.push b)[i]? = some a := by
  grind

theorem get_set_inv {r : Array Atom} {i j : Nat} {a b} (h : (r.setIfInBounds j b)[i]? = some a) :
    (i ≠ j ∧ r[i]? = some a) ∨ (i = j ∧ a = b) := by grind

theorem RInv.push {r subs M a} (h : RInv r subs M) (ha : RInv.At (r.push a) subs M r.size a) :
    RInv (r.push a) subs M :=
  h.update (by simp) (fun _ x hi => ⟨x, get_push_of a hi, Keeps.refl⟩)
    (fun _ _ hi => (get_push_inv hi).imp_right fun ⟨hi, hy⟩ => hi ▸ hy ▸ ha) (fun _ => Or.inl) (fun _ => Or.inl)

theorem RInv.set {r subs M j x y} (h : RInv r subs M) (hj : r[j]? = some x) (hk : Keeps x y)
    (hy : RInv.At (r.setIfInBounds j y) subs M j y) : RInv (r.setIfInBounds j y) subs M := by
  refine h.update (by simp) (fun i z hi => ?_)
    (fun i z hi => (get_set_inv hi).elim (fun h => Or.inl h.2) fun ⟨hi, hz⟩ => by subst hi hz; exact Or.inr hy)
    (fun _ => Or.inl) (fun _ => Or.inl)
  by_cases e : i = j
  · subst e; cases hj.symm.trans hi; exact ⟨y, by grind, hk⟩
  · exact ⟨z, by grind, Keeps.refl⟩

theorem RInv.At.plain {r subs M i a} (hp : isPlain a = true) (ha : argOf a < 256)
    (hs : ∀ k, slotOf a = some k → k < M) : RInv.At r subs M i a :=
  ⟨fun _ e => (by subst e; cases hp), fun _ e => (by subst e; cases hp), fun _ e => (by subst e; cases hp), ha, hs⟩

theorem Keeps.of_caseOrNop {x y} (hx : isCaseOrNop x = true) (hy : isCaseOrNop y = true) : Keeps x y := by
  match x, hx with
  | .case _, _ | .nop, _ => exact ⟨nofun, fun _ => hy, nofun, fun k h => by simp [PushNext] at h⟩

theorem Keeps.of_brk {x n} (hx : isBrk x = true) : Keeps x (.brk n) := by
  match x, hx with
  | .brk _, _ => exact ⟨nofun, nofun, fun _ => rfl, fun k h => by simp [PushNext] at h⟩

theorem RInv.mono {r subs M M'} (h : RInv r subs M) (hM : M ≤ M') : RInv r subs M' :=
  { h with slots := fun i a k h1 h2 => Nat.lt_of_lt_of_le (h.slots i a k h1 h2) hM }

theorem RInv.size_pos {r subs M} (h : RInv r subs M) : 0 < r.size := by
  have := h.first; grind

theorem RInv.back_not_push {r subs M k} (h : RInv r subs M) : r.back? ≠ some (.push k) := by
  intro hb
  obtain ⟨b, hb', _⟩ := h.adj (r.size - 1) k (by grind)
  have := h.size_pos
  grind

theorem RInv.case_lt {r subs M s} (h : RInv r subs M) (hs : s ∈ subs) : s.case < r.size := by
  obtain ⟨a, ha, _⟩ := h.subsC s hs; grind

theorem RInv.push_plain {r subs M a} (h : RInv r subs M) (hp : isPlain a = true) (ha : argOf a < 256)
    (hs : ∀ k, slotOf a = some k → k < M) : RInv (r.push a) subs M :=
  h.push (.plain hp ha hs)

/-- arm `{`: `mem::replace(last, Push(k))` then `push(jump)` -/
theorem RInv.open_ {r subs M k j} (h : RInv r subs M) (hb : r.back? = some j) (hj : jumpFor k j) :
    RInv ((setLast r (.push k)).push j) subs M := by
  have hsz := h.size_pos
  have hlast : r[r.size - 1]? = some j := by grind
  have e : (setLast r (.push k)).push j = (r.push j).setIfInBounds (r.size - 1) (.push k) := by
    unfold setLast; grind
  have hk : k < 256 ∧ isPlain j = true ∧ argOf j = 0 ∧ slotOf j = none ∧ Keeps j (.push k) := by
    rcases hj with ⟨rfl, rfl⟩ | ⟨rfl, rfl⟩ | ⟨rfl, rfl⟩ <;>
      exact ⟨by omega, rfl, rfl, rfl, nofun, nofun, nofun, fun _ h => by simp [PushNext] at h; subst h; exact .inl rfl⟩
  rw [e]
  refine (h.push_plain hk.2.1 (by omega) (by simp [hk.2.2.2.1])).set (get_push_of j hlast) hk.2.2.2.2
    ⟨fun _ e => ⟨j, by grind, by cases e; exact Or.inr hj⟩, nofun, nofun, hk.1, nofun⟩

/-- arm `(`, end of arm `|`: `push(Case(0))` opens `sub` and closes the sub-patterns whose `Case` points here -/
theorem RInv.push_case {r subs subs' M sub} (h : RInv r subs M) (hc : sub.case = r.size)
    (hb : ∀ b ∈ sub.brks, ∃ a, r[b]? = some a ∧ isBrk a = true) (hsub : ∀ s ∈ subs', s ∈ subs)
    (hd : ∀ s ∈ subs, s ∈ subs' ∨ ∀ n, r[s.case]? = some (.case n) → s.case + 1 + n = r.size) :
    RInv (r.push (.case 0)) (sub :: subs') M := by
  refine h.update (by simp) (fun _ x hi => ⟨x, get_push_of _ hi, .refl⟩) (fun i y hi => ?_) (fun s hs => ?_) (fun s hs => ?_)
  · refine (get_push_inv hi).imp_right fun ⟨hi, hy⟩ => ?_
    subst hi hy
    exact ⟨nofun, nofun, fun _ _ => .inl ⟨sub, List.mem_cons_self, hc⟩, by simp [argOf], nofun⟩
  · refine (hd s hs).imp (List.mem_cons_of_mem _) fun ht n hn => ⟨.case 0, ?_, rfl⟩
    have := h.case_lt hs
    have := ht n (by grind)
    grind
  · rcases List.mem_cons.mp hs with rfl | hs
    · exact .inr ⟨⟨.case 0, by grind, rfl⟩, fun b hb' => (hb b hb').imp fun a ha => ⟨get_push_of _ ha.1, ha.2⟩⟩
    · exact .inl (hsub s hs)

/-- arm `|`: `push(Break(0))`, `result[sub.case] = Case(len - sub.case - 1)`, `push(Case(0))` -/
theorem RInv.sub_case {r sub subs M sub'} (h : RInv r (sub :: subs) M)
    (hoff : r.size + 1 - sub.case - 1 < 256)
    (hc : sub'.case = r.size + 1) (hbk : sub'.brks = sub.brks ++ [r.size]) :
    RInv (((r.push (.brk 0)).setIfInBounds sub.case (.case (r.size + 1 - sub.case - 1))).push (.case 0)) (sub' :: subs) M := by
  obtain ⟨a, ha, hk⟩ := h.subsC sub List.mem_cons_self
  have hlt := h.case_lt List.mem_cons_self
  have h1 := h.push (a := .brk 0) ⟨nofun, fun n e => by cases e; simp, nofun, by simp [argOf], nofun⟩
  have h2 := h1.set (y := .case (r.size + 1 - sub.case - 1)) (get_push_of _ ha) (.of_caseOrNop hk rfl)
    ⟨nofun, nofun, fun _ _ => .inl ⟨sub, List.mem_cons_self, rfl⟩, hoff, nofun⟩
  refine h2.push_case (by simpa using hc) (fun b hb => ?_) (fun _ => List.mem_cons_of_mem _) (fun s hs => ?_)
  · rw [hbk] at hb
    rcases List.mem_append.mp hb with hb | hb
    · obtain ⟨x, hx, hxb⟩ := h.subsB sub List.mem_cons_self b hb
      exact ⟨x, by grind [brk_not_caseOrNop], hxb⟩
    · exact ⟨.brk 0, by grind, rfl⟩
  · rcases List.mem_cons.mp hs with rfl | hs
    · exact .inr fun n hn => by grind
    · exact .inl hs

/-! ## The loop invariant of `parse_helper` -/

structure Inv (st : PSt) : Prop where
  r : RInv st.result st.subs (max st.save (maxNext st.subs))
  save_le : st.save ≤ 255
  subs_le : ∀ s ∈ st.subs, s.save ≤ 255 ∧ s.saveNext ≤ 255

def Res.Good {α : Type} (P : α → Prop) : Res α → Prop
  | .ok a => P a
  | .err _ => True
  | .panic _ => False

theorem Res.Good.of_eq {α : Type} {P : α → Prop} {x : Res α} {a : α} (h : x.Good P) (e : x = .ok a) : P a := by
  subst e; exact h

@[elab_as_elim]
theorem Res.Good.elim {α : Type} {P : α → Prop} {motive : Res α → Prop} {x : Res α} (h : x.Good P)
    (ok : ∀ a, x = .ok a → P a → motive (.ok a)) (err : ∀ k, motive (.err k)) : motive x := by
  cases x with
  | ok a => exact ok a rfl h
  | err k => exact err k
  | panic s => exact absurd h id

theorem Res.Good.imp {α : Type} {P Q : α → Prop} {x : Res α} (h : x.Good P) (hpq : ∀ a, P a → Q a) : x.Good Q :=
  h.elim (fun a _ => hpq a) fun _ => trivial

/-! ## One iteration of the loop -/

def passive : Atom → Bool
  | .jump1 | .jump4 | .ptr => true
  | .byte n | .skip n | .rangext n | .many n | .aligned n => n < 256
  | _ => false

theorem passive_spec : ∀ {a}, passive a = true →
    isPlain a = true ∧ argOf a < 256 ∧ slotOf a = none ∧ isPush a = false ∧ isPop a = false
  | .jump1, _ | .jump4, _ | .ptr, _ => ⟨rfl, by decide, rfl, rfl, rfl⟩
  | .byte _, h | .skip _, h | .rangext _, h | .many _, h | .aligned _, h => ⟨rfl, of_decide_eq_true h, rfl, rfl, rfl⟩

inductive Grows (r : Array Atom) : Array Atom → Prop
  | refl : Grows r r
  | push {r' a} : Grows r r' → passive a = true → Grows r (r'.push a)

theorem Grows.trans {a b c : Array Atom} (h1 : Grows a b) (h2 : Grows b c) : Grows a c := by
  induction h2 with
  | refl => exact h1
  | push _ ha ih => exact ih.push ha

theorem Grows.rinv {r r' subs M} (hg : Grows r r') (h : RInv r subs M) : RInv r' subs M := by
  induction hg with
  | refl => exact h
  | push _ ha ih =>
    obtain ⟨h1, h2, h3, _⟩ := passive_spec ha
    exact ih.push_plain h1 h2 (by simp [h3])

def SlotMk (mk : Nat → Atom) : Prop :=
  mk ∈ [Atom.save, .zero, .readI8, .readI16, .readI32, .readU8, .readU16, .readU32]

theorem SlotMk.spec {mk} (h : SlotMk mk) (n : Nat) : isPlain (mk n) = true ∧ argOf (mk n) = n ∧
    slotOf (mk n) = some n ∧ isPush (mk n) = false ∧ isPop (mk n) = false := by
  simp only [SlotMk, List.mem_cons, List.not_mem_nil, or_false] at h
  rcases h with rfl | rfl | rfl | rfl | rfl | rfl | rfl | rfl <;> exact ⟨rfl, rfl, rfl, rfl, rfl⟩

/-- What one iteration does to the locals, by the class of its first byte: the arms fall into those
that append passive atoms, those that allocate a slot, the coalescing `?`, and the five that keep books. -/
inductive Step (st : PSt) : Cls → PSt → Prop
  | grow {c r'} : Grows st.result r' → Step st c { st with result := r' }
  | slot {c mk} : SlotMk mk → st.save < 255 →
      Step st c { st with result := st.result.push (mk st.save), save := st.save + 1 }
  | skipInc {c n} : st.result.back? = some (.skip n) → n < 255 →
      Step st c { st with result := setLast st.result (.skip (n + 1)) }
  | openB {k j} : jumpFor k j → st.result.back? = some j →
      Step st .open { st with depth := st.depth + 1, result := (setLast st.result (.push k)).push j }
  | closeB : 0 < st.depth → Step st .close { st with depth := st.depth - 1, result := st.result.push .pop }
  | subStart : Step st .subStart { st with
      subs := { case := st.result.size, brks := [], save := st.save, saveNext := 0, depth := st.depth } :: st.subs,
      result := st.result.push (.case 0) }
  -- the operand is `result.len() - sub.case - 1` taken AFTER `push(Break(0))`, hence `size + 1`
  | subCase {sub subs} : st.subs = sub :: subs → st.result.size + 1 - sub.case - 1 < 256 →
      Step st .subCase { st with
        save := sub.save, depth := sub.depth,
        subs := { sub with saveNext := max sub.saveNext st.save, brks := sub.brks ++ [st.result.size],
                           case := st.result.size + 1 } :: subs,
        result := ((st.result.push (.brk 0)).setIfInBounds sub.case
          (.case (st.result.size + 1 - sub.case - 1))).push (.case 0) }
  | subEnd {sub subs r'} : st.subs = sub :: subs →
      fillBrks (st.result.setIfInBounds sub.case .nop) sub.brks = .ok r' →
      Step st .subEnd { result := r', save := max sub.saveNext st.save, depth := sub.depth, subs := subs,
                        subEnd := r'.size }

theorem opOpen_good (st : PSt) : (opOpen st).Good (Step st .open) := by
  unfold opOpen
  split
  · trivial
  · split
    · omega
    · split
      · next hb => exact .openB (.inl ⟨rfl, rfl⟩) hb
      · next hb => exact .openB (.inr (.inl ⟨rfl, rfl⟩)) hb
      · next hb => exact .openB (.inr (.inr ⟨rfl, rfl⟩)) hb
      · trivial

/-! The arms with their `u8` / `usize` guards resolved (the guards are dead: each repeats the test before it). -/

theorem opClose_eq (st : PSt) : opClose st =
    if 0 < st.depth then .ok { st with depth := st.depth - 1, result := st.result.push .pop } else .err .stackError := by
  unfold opClose
  split
  · rw [if_neg (by omega)]
  · rw [if_neg (by omega), if_pos (by omega)]

theorem opSlot_eq (st : PSt) (mk : Nat → Atom) : opSlot st mk =
    if st.save < 255 then .ok { st with result := st.result.push (mk st.save), save := st.save + 1 }
    else .err .saveOverflow := by
  unfold opSlot
  split
  · rw [if_neg (by omega)]
  · rw [if_neg (by omega), if_pos (by omega)]

theorem opClose_good (st : PSt) : (opClose st).Good (Step st .close) := by
  rw [opClose_eq]
  split
  · exact .closeB ‹_›
  · trivial

theorem opSlot_good {mk} (st : PSt) (c : Cls) (hmk : SlotMk mk) : (opSlot st mk).Good (Step st c) := by
  rw [opSlot_eq]
  split
  · exact .slot hmk ‹_›
  · trivial

/-! ### The arms `|` and `)`: here the absence of panics rests on the invariant -/

theorem opSubCase_eq {st : PSt} {sub : Sub} {subs : List Sub} (hs : st.subs = sub :: subs)
    (hc : sub.case < st.result.size) :
    opSubCase st = if st.result.size + 1 - sub.case - 1 < 256 then .ok { st with
        save := sub.save, depth := sub.depth,
        subs := { sub with saveNext := max sub.saveNext st.save, brks := sub.brks ++ [st.result.size],
                           case := st.result.size + 1 } :: subs,
        result := ((st.result.push (.brk 0)).setIfInBounds sub.case
          (.case (st.result.size + 1 - sub.case - 1))).push (.case 0) }
      else .err .subOverflow := by
  unfold opSubCase
  rw [hs]
  simp only [Array.size_push, Array.size_setIfInBounds]
  rw [if_neg (by omega)]
  split
  · rw [if_neg (by omega)]
  · rw [if_neg (by omega), if_pos (by omega)]

theorem opSubCase_good {st M} (hr : RInv st.result st.subs M) : (opSubCase st).Good (Step st .subCase) := by
  cases hs : st.subs with
  | nil => unfold opSubCase; rw [hs]; trivial
  | cons sub subs =>
    rw [hs] at hr
    rw [opSubCase_eq hs (hr.case_lt List.mem_cons_self)]
    split
    · exact .subCase hs ‹_›
    · trivial

/-- arm `)`: `result[brk] = Break(result.len() - brk - 1)` for every recorded `brk` -/
theorem fillBrks_good {subs M} (brks : List Nat) (r : Array Atom) (h : RInv r subs M)
    (hb : ∀ b ∈ brks, ∃ a, r[b]? = some a ∧ isBrk a = true) :
    (fillBrks r brks).Good (fun r' => RInv r' subs M) := by
  fun_induction fillBrks r brks
  -- case1: done; case3: `SubOverflow`; case5: next `brk`; case2, case4: guards, refuted by `brk < r.size`
  case case1 => exact h
  case case3 => trivial
  case case5 r b bs _ off hoff _ ih =>
    obtain ⟨a, ha, hab⟩ := hb b List.mem_cons_self
    refine ih (h.set ha (.of_brk hab) ⟨nofun, fun n e => ?_, nofun, Nat.lt_of_not_ge hoff, nofun⟩) fun b' hb' => ?_
    · cases e; simp only [Array.size_setIfInBounds]; omega
    · obtain ⟨a', ha', hab'⟩ := hb b' (List.mem_cons_of_mem _ hb')
      by_cases hbb : b' = b
      · exact ⟨.brk off, by grind, rfl⟩
      · exact ⟨a', by grind, hab'⟩
  all_goals
    obtain ⟨a, ha, _⟩ := hb _ List.mem_cons_self
    have := (Array.getElem?_eq_some_iff.mp ha).1
    omega

/-- arm `)`: the popped sub-pattern's last case becomes `Nop`, then its `Break`s are filled in -/
theorem fillBrks_nop_good {r sub subs M} (hr : RInv r (sub :: subs) M) :
    (fillBrks (r.setIfInBounds sub.case .nop) sub.brks).Good (fun r' => RInv r' subs M) := by
  obtain ⟨a', ha', hab'⟩ := hr.subsC sub List.mem_cons_self
  refine fillBrks_good sub.brks _ ?_ fun b hb => ?_
  · refine (hr.set (y := .nop) ha' (.of_caseOrNop hab' rfl) (.plain rfl (by simp [argOf]) nofun)).update (Nat.le_refl _)
      (fun _ x hi => ⟨x, hi, .refl⟩) (fun _ _ => .inl) (fun s hs => ?_) (fun _ => .inl ∘ List.mem_cons_of_mem _)
    rcases List.mem_cons.mp hs with rfl | hs
    · exact .inr fun n hn => by grind
    · exact .inl hs
  · obtain ⟨a, ha, hab⟩ := hr.subsB sub List.mem_cons_self b hb
    exact ⟨a, by grind [brk_not_caseOrNop], hab⟩

theorem opSubEnd_good {st M} (hr : RInv st.result st.subs M) : (opSubEnd st).Good (Step st .subEnd) := by
  unfold opSubEnd
  split
  · trivial
  · next sub subs hsubs =>
    rw [hsubs] at hr
    rw [if_neg (by have := hr.case_lt List.mem_cons_self; omega)]
    dsimp only
    exact (fillBrks_nop_good hr).elim (fun _ hfb _ => .subEnd hsubs hfb) fun _ => trivial

theorem emitRange_grows {r : Array Atom} {n : Nat} {mk : Nat → Atom} (hmk : ∀ x < 256, passive (mk x) = true) :
    Grows r (emitRange r n mk) := by
  have h := hmk (n % 256) (Nat.mod_lt _ (by decide))
  unfold emitRange
  dsimp only
  split
  · exact (Grows.refl.push (a := .rangext _) (decide_eq_true (Nat.mod_lt _ (by decide)))).push h
  · exact Grows.refl.push h

/-- `rest'` is what remains of `rest` behind one of its ASCII bytes.  Tracked because `*pat` is rebuilt from the iterator's
remaining bytes by `from_utf8_unchecked`: behind a byte `< 0x80` a `&str` is at a char boundary (`Thm/C11Parse.lean`). -/
def Ascii (rest rest' : List UInt8) : Prop := ∃ mid b, rest = mid ++ b :: rest' ∧ b.toNat < 128

theorem Ascii.append_left {rest rest'} (pre : List UInt8) (h : Ascii rest rest') : Ascii (pre ++ rest) rest' :=
  let ⟨mid, b, h1, h2⟩ := h; ⟨pre ++ mid, b, by rw [h1, List.append_assoc], h2⟩

theorem Ascii.cons {c : UInt8} {rest rest'} (h : Ascii rest rest') : Ascii (c :: rest) rest' := h.append_left [c]

theorem Ascii.trans {a b c} (h1 : Ascii a b) (h2 : Ascii b c) : Ascii a c :=
  let ⟨mid, x, e, _⟩ := h1; e ▸ (h2.cons (c := x)).append_left mid

theorem manyLower_good (cs : List UInt8) (lb : Nat) (seen : Bool) (hlb : lb < 16384) :
    (manyLower cs lb seen).Good (fun p => Ascii cs p.2.2.2) := by
  fun_induction manyLower cs lb seen
  -- case2: the terminator; case6: a digit; the rest: errors and the `u32` guards, refuted by `lb < 16384`
  case case2 c cs _ _ _ h => exact ⟨[], c, rfl, by omega⟩
  case case6 ih => exact (ih (by omega)).imp fun _ => Ascii.cons
  all_goals first | trivial | omega

theorem manyUpper_good (cs : List UInt8) (ub : Nat) (hub : ub < 16384) :
    (manyUpper cs ub).Good (fun p => Ascii cs p.2) := by
  fun_induction manyUpper cs ub
  case case2 c cs _ _ h => exact ⟨[], c, rfl, by omega⟩
  case case6 ih => exact (ih (by omega)).imp fun _ => Ascii.cons
  all_goals first | trivial | omega

/-- `rest'` is what remains of `c :: rest` after consuming a token whose last byte is ASCII -/
def EndsAscii (c : Nat) (rest rest' : List UInt8) : Prop := (rest' = rest ∧ c < 128) ∨ Ascii rest rest'

def TokOK (st : PSt) (c : Cls) (chr : Nat) (rest : List UInt8) (nx : Next) : Prop :=
  Step st c nx.st ∧ EndsAscii chr rest nx.rest

theorem EndsAscii.suffix {c rest rest'} (h : EndsAscii c rest rest') : rest' <:+ rest := by
  rcases h with ⟨rfl, _⟩ | ⟨mid, b, rfl, _⟩
  · exact List.suffix_refl _
  · exact ⟨mid ++ [b], by simp⟩

theorem EndsAscii.ascii {c : UInt8} {rest rest'} (h : EndsAscii c.toNat rest rest') : Ascii (c :: rest) rest' :=
  h.elim (fun ⟨e, hc⟩ => ⟨[], c, by rw [e]; rfl, hc⟩) Ascii.cons

theorem opMany_good (st : PSt) (c : Cls) (chr : Nat) (rest : List UInt8) : (opMany st rest).Good (TokOK st c chr rest) := by
  unfold opMany
  refine (manyLower_good rest 0 false (by decide)).elim (fun p _ h1 => ?_) fun _ => trivial
  obtain ⟨lb, seen, chr, rest1⟩ := p
  dsimp only at h1 ⊢
  have hr1 : Grows st.result (if lb > 0 then emitRange st.result lb .skip else st.result) := by
    split
    · exact emitRange_grows fun _ => decide_eq_true
    · exact .refl
  split
  · trivial
  · split
    · exact ⟨.grow hr1, .inr h1⟩
    · refine (manyUpper_good rest1 0 (by decide)).elim (fun q _ h2 => ?_) fun _ => trivial
      obtain ⟨ub, rest2⟩ := q
      dsimp only at h2 ⊢
      split
      · rw [if_neg (by omega)]
        exact ⟨.grow (hr1.trans (emitRange_grows fun _ => decide_eq_true)), .inr (h1.trans h2)⟩
      · trivial

theorem opHex_good {chr} (st : PSt) (c : Cls) (rest : List UInt8)
    (hc : (48 ≤ chr ∧ chr ≤ 57) ∨ (65 ≤ chr ∧ chr ≤ 70) ∨ (97 ≤ chr ∧ chr ≤ 102)) :
    (opHex st chr rest).Good (TokOK st c chr rest) := by
  unfold opHex
  rw [if_neg (by omega)]
  dsimp only
  have hhi : (if chr ≥ 97 then chr - 97 + 10 else if chr ≥ 65 then chr - 65 + 10 else chr - 48) < 16 := by
    split
    · omega
    · split <;> omega
  generalize (if chr ≥ 97 then chr - 97 + 10 else if chr ≥ 65 then chr - 65 + 10 else chr - 48) = hi at hhi ⊢
  rw [if_neg (by omega)]
  cases rest with
  | nil => trivial
  | cons b rest =>
    dsimp only
    split
    · trivial
    · next lo hlo =>
      have : lo < 16 ∧ b.toNat < 128 := by
        (repeat' split at hlo) <;> cases hlo <;> omega
      rw [if_neg (by omega)]
      exact ⟨.grow (Grows.refl.push (a := .byte _) (decide_eq_true (by omega))), .inr ⟨[], b, rfl, this.2⟩⟩

theorem quoted_grows {cs : List UInt8} {r r' : Array Atom} {rest' : List UInt8} (h : quoted cs r = some (r', rest')) :
    Grows r r' ∧ Ascii cs rest' := by
  fun_induction quoted cs r
  case case1 => cases h
  case case2 c cs r hc ih =>
    obtain ⟨h1, h2⟩ := ih h
    exact ⟨(Grows.refl.push (a := .byte _) (decide_eq_true (UInt8.toNat_lt c))).trans h1, h2.cons⟩
  case case3 c cs r hc =>
    cases h
    exact ⟨.refl, [], c, rfl, by omega⟩

theorem opQuote_good (st : PSt) (c : Cls) (chr : Nat) (rest : List UInt8) : (opQuote st rest).Good (TokOK st c chr rest) := by
  unfold opQuote
  split
  · trivial
  · next r rest' hq => exact ⟨.grow (quoted_grows hq).1, .inr (quoted_grows hq).2⟩

theorem opAligned_good (st : PSt) (c : Cls) (chr : Nat) (rest : List UInt8) : (opAligned st rest).Good (TokOK st c chr rest) := by
  unfold opAligned
  cases rest with
  | nil => trivial
  | cons o rest =>
    have key : ∀ n, n < 256 → o.toNat < 128 → TokOK st c chr (o :: rest) ⟨pushA st (.aligned n), rest, true⟩ :=
      fun n hn ho => ⟨.grow (Grows.refl.push (a := .aligned n) (decide_eq_true hn)), .inr ⟨[], o, rfl, ho⟩⟩
    dsimp only
    split
    · exact key _ (by omega) (by omega)
    · split
      · rw [if_neg (by omega)]; exact key _ (by omega) (by omega)
      · split
        · rw [if_neg (by omega)]; exact key _ (by omega) (by omega)
        · trivial

theorem opRead_good {mk1 mk2 mk4} (st : PSt) (c : Cls) (chr : Nat) (rest : List UInt8) (h1 : SlotMk mk1)
    (h2 : SlotMk mk2) (h4 : SlotMk mk4) : (opRead st rest mk1 mk2 mk4).Good (TokOK st c chr rest) := by
  unfold opRead
  cases rest with
  | nil => trivial
  | cons b rest =>
    dsimp only
    split
    · trivial
    · next mk hmk =>
      have : SlotMk mk ∧ b.toNat < 128 := by
        (repeat' split at hmk) <;> cases hmk <;> exact ⟨‹_›, by omega⟩
      exact (opSlot_good st c this.1).elim (fun _ _ hs => ⟨hs, .inr ⟨[], b, rfl, this.2⟩⟩) fun _ => trivial

theorem opSkip_step (st : PSt) (c : Cls) : Step st c (opSkip st).1 := by
  have hplain : Step st c (pushA st (.skip 1)) := .grow (Grows.refl.push (a := .skip 1) rfl)
  unfold opSkip
  split
  · split
    · next n hb =>
      split
      · exact .skipInc hb (by omega)
      · exact hplain
    · exact hplain
  · exact hplain

theorem liftSt_good {st c chr rest} {x : Res PSt} (h : x.Good (Step st c)) (hc : EndsAscii chr rest rest) :
    (liftSt rest x).Good (TokOK st c chr rest) :=
  h.elim (fun _ _ hs => ⟨hs, hc⟩) fun _ => trivial

theorem ite_eq_cases {α : Type} {p : Prop} [Decidable p] {a b x : α} :
    (if p then a else b) = x ↔ (p ∧ a = x) ∨ (¬p ∧ b = x) := by
  by_cases h : p <;> simp [h]

theorem classify_hex {c : Nat} (h : classify c = .hex) :
    (48 ≤ c ∧ c ≤ 57) ∨ (65 ≤ c ∧ c ≤ 70) ∨ (97 ≤ c ∧ c ≤ 102) := by
  -- first-match chain: the outcome says which condition held
  simp only [classify, ite_eq_cases, reduceCtorEq, and_false, false_or, and_true, or_false] at h
  omega

theorem classify_subStart {c : Nat} (h : classify c = .subStart) : c = 40 := by
  simp only [classify, ite_eq_cases, reduceCtorEq, and_false, false_or, and_true, or_false] at h
  omega

theorem classify_ascii {c : Nat} (h : classify c ≠ .other) : c < 128 := by
  refine Decidable.by_contra fun hc => h ?_
  unfold classify
  repeat rw [if_neg (by omega)]

theorem tok_good {st} (chr : Nat) (rest : List UInt8) (h : Inv st) :
    (tok chr rest st).Good (TokOK st (classify chr) chr rest) := by
  unfold tok
  generalize hcls : classify chr = c
  have same : c ≠ .other → EndsAscii chr rest rest := fun hc => .inl ⟨rfl, classify_ascii (hcls ▸ hc)⟩
  cases c with
  | jump1 | jump4 | ptr => exact ⟨.grow (Grows.refl.push rfl), same nofun⟩
  | «open» => exact liftSt_good (opOpen_good st) (same nofun)
  | close => exact liftSt_good (opClose_good st) (same nofun)
  | subStart => exact ⟨.subStart, same nofun⟩
  | subCase => exact liftSt_good (opSubCase_good h.r) (same nofun)
  | subEnd => exact liftSt_good (opSubEnd_good h.r) (same nofun)
  | many => exact opMany_good st _ chr rest
  | hex => exact opHex_good st _ rest (classify_hex hcls)
  | quote => exact opQuote_good st _ chr rest
  | save | zero => exact liftSt_good (opSlot_good st _ (by simp [SlotMk])) (same nofun)
  | skip => exact ⟨opSkip_step st _, same nofun⟩
  | aligned => exact opAligned_good st _ chr rest
  | readI | readU => exact opRead_good st _ chr rest (by simp [SlotMk]) (by simp [SlotMk]) (by simp [SlotMk])
  | space => exact ⟨.grow .refl, same nofun⟩
  | other => trivial

theorem Step.inv {st c st'} (hs : Step st c st') (h : Inv st) : Inv st' := by
  cases hs with
  | grow hg => exact ⟨hg.rinv h.r, h.save_le, h.subs_le⟩
  | @slot _ mk hmk hs =>
    obtain ⟨h1, h2, h3, _⟩ := hmk.spec st.save
    refine ⟨(h.r.mono (M' := max (st.save + 1) (maxNext st.subs)) (by omega)).push_plain h1 (by omega) fun k hk => ?_,
      hs, h.subs_le⟩
    cases h3.symm.trans hk
    omega
  | @skipInc _ n hb hn =>
    have := h.r.size_pos
    exact ⟨h.r.set (x := .skip n) (by grind) ⟨nofun, nofun, nofun, fun k h => by simp [PushNext] at h⟩
      (.plain rfl (Nat.succ_lt_succ hn) nofun), h.save_le, h.subs_le⟩
  | openB hj hb => exact ⟨h.r.open_ hb hj, h.save_le, h.subs_le⟩
  | closeB => exact ⟨h.r.push_plain rfl (by decide) nofun, h.save_le, h.subs_le⟩
  | subStart =>
    exact ⟨h.r.push_case rfl nofun (fun _ => id) (fun _ => .inl), h.save_le,
      fun _ hs => (List.mem_cons.mp hs).elim (fun e => e ▸ ⟨h.save_le, Nat.zero_le _⟩) (h.subs_le _)⟩
  | @subCase sub subs hsubs hoff =>
    have hr := h.r
    have hsl := h.subs_le
    rw [hsubs] at hr hsl
    have hsub := hsl sub List.mem_cons_self
    have hs := h.save_le
    refine ⟨(hr.sub_case hoff rfl rfl).mono ?_, hsub.1, fun s hs => ?_⟩
    · simp only [maxNext]; omega
    · rcases List.mem_cons.mp hs with rfl | hs
      · exact ⟨hsub.1, by dsimp only; omega⟩
      · exact hsl s (List.mem_cons_of_mem _ hs)
  | @subEnd sub subs r' hsubs hfb =>
    have hr := h.r
    have hsl := h.subs_le
    rw [hsubs] at hr hsl
    have hsub := hsl sub List.mem_cons_self
    have hs := h.save_le
    exact ⟨((fillBrks_nop_good hr).of_eq hfb).mono (by simp only [maxNext]; omega), by dsimp only; omega,
      fun s hs => hsl s (List.mem_cons_of_mem _ hs)⟩

/-! ## The loop -/

theorem initSt_inv : Inv initSt := by
  have get : ∀ {i : Nat} {a}, initSt.result[i]? = some a → a = .save 0 := fun {i a} h => by
    cases i with
    | zero => exact (Option.some.inj h).symm
    | succ i => cases h
  refine ⟨⟨rfl, fun _ _ h => (nomatch get h), fun _ _ h => (nomatch get h), fun _ _ h => (nomatch get h), fun _ _ h => ?_,
    fun _ _ _ h hk => ?_, nofun, nofun⟩, by decide, nofun⟩
  · cases get h; decide
  · cases get h; cases hk; decide

/-- the states of the `while let` loop reachable on input `s`: (iterator, `*pat`, locals) -/
inductive Reach (s : List UInt8) : List UInt8 → List UInt8 → PSt → Prop
  | init : Reach s s s initSt
  | step {c rest pat st nx} : Reach s (c :: rest) pat st → tok c.toNat rest st = .ok nx →
      Reach s nx.rest (if nx.upd then nx.rest else pat) nx.st

theorem Reach.spec {s rest pat st} (h : Reach s rest pat st) : Inv st ∧ rest <:+ pat ∧
    (∃ pre, s = pre ++ rest) ∧ (pat = s ∨ Ascii s pat) := by
  induction h with
  | init => exact ⟨initSt_inv, List.suffix_refl _, ⟨[], rfl⟩, .inl rfl⟩
  | step hr ht ih =>
    rename_i c rest pat st nx
    obtain ⟨hinv, hsuf, ⟨pre, hpre⟩, hb⟩ := ih
    obtain ⟨hstep, ha⟩ := (tok_good c.toNat rest hinv).of_eq ht
    have hnew : Ascii s nx.rest := hpre ▸ ha.ascii.append_left pre
    have ⟨pre', b, h1, _⟩ := hnew
    refine ⟨hstep.inv hinv, ?_, ⟨pre' ++ [b], by rw [h1]; simp⟩, ?_⟩
    · split
      · exact List.suffix_refl _
      · exact (ha.suffix.trans (List.suffix_cons c rest)).trans hsuf
    · split
      · exact .inr hnew
      · exact hb

theorem finish_spec (st : PSt) :
    match finish st with
    | .ok r => st.depth = 0 ∧ st.subs = [] ∧ r = trim st.result
    | .err k => k = .stackError ∨ k = .subPattern
    | .panic _ => False := by
  unfold finish
  by_cases hd : st.depth ≠ 0
  · rw [if_pos hd]; exact .inl rfl
  · rw [if_neg hd]
    by_cases hs : st.subs.length ≠ 0
    · rw [if_pos hs]; exact .inr rfl
    · rw [if_neg hs]; exact ⟨by omega, List.eq_nil_of_length_eq_zero (by omega), rfl⟩

theorem parseLoop_reach (s : List UInt8) : ∀ (fuel : Nat) (rest pat : List UInt8) (st : PSt),
    Reach s rest pat st → rest.length < fuel →
    match parseLoop fuel rest pat st with
    | .ok r => ∃ pat' st', Reach s [] pat' st' ∧ st'.depth = 0 ∧ st'.subs = [] ∧ r = trim st'.result
    | .err k pat' => ∃ rest' st', Reach s rest' pat' st' ∧ (rest' ≠ [] ∨ k = .stackError ∨ k = .subPattern)
    | .panic _ => False
    | .diverge => False := by
  intro fuel
  induction fuel with
  | zero => intro _ _ _ _ h; cases h
  | succ fuel ih =>
    intro rest pat st hr hfuel
    unfold parseLoop
    cases rest with
    | nil =>
      dsimp only
      have := finish_spec st
      revert this
      cases finish st with
      | ok r => exact fun h => ⟨_, _, hr, h⟩
      | err k => exact fun h => ⟨_, _, hr, .inr h⟩
      | panic _ => exact id
    | cons c rest =>
      dsimp only
      refine (tok_good c.toNat rest hr.spec.1).elim (fun nx ht hg => ?_) fun k => ⟨_, _, hr, .inl (List.cons_ne_nil _ _)⟩
      have := hg.2.suffix.length_le
      exact ih _ _ _ (hr.step ht) (by simp only [List.length_cons] at hfuel; omega)

theorem parse_reach (s : List UInt8) :
    match parse s with
    | .ok atoms => ∃ pat st, Reach s [] pat st ∧ st.depth = 0 ∧ st.subs = [] ∧ atoms = (trim st.result).toList
    | .err k pos => ∃ rest pat st, Reach s rest pat st ∧ pos + pat.length = s.length ∧
        (rest ≠ [] ∨ k = .stackError ∨ k = .subPattern)
    | .panic _ => False
    | .diverge => False := by
  unfold parse
  have := parseLoop_reach s (s.length + 1) s s initSt .init (Nat.lt_succ_self _)
  revert this
  cases parseLoop (s.length + 1) s s initSt with
  | ok r => exact fun ⟨pat, st, hr, hd, hs, e⟩ => ⟨pat, st, hr, hd, hs, by rw [e]⟩
  | err k pat =>
    intro ⟨rest, st, hr, hk⟩
    have : pat.length ≤ s.length := by
      rcases hr.spec.2.2.2 with rfl | ⟨pre, b, rfl, _⟩
      · exact Nat.le_refl _
      · simp only [List.length_append, List.length_cons]; omega
    dsimp only
    rw [if_neg (by omega)]
    exact ⟨rest, pat, st, hr, by omega, hk⟩
  | panic _ => exact id
  | diverge => exact id

theorem parse_ok_reach {s : List UInt8} {atoms : List Atom} (h : parse s = .ok atoms) :
    ∃ pat st, Reach s [] pat st ∧ st.depth = 0 ∧ st.subs = [] ∧ atoms = (trim st.result).toList := by
  have := parse_reach s
  rwa [h] at this

theorem parse_err_reach {s : List UInt8} {k : PatErr} {pos : Nat} (h : parse s = .err k pos) :
    ∃ rest pat st, Reach s rest pat st ∧ pos + pat.length = s.length ∧ (rest ≠ [] ∨ k = .stackError ∨ k = .subPattern) := by
  have := parse_reach s
  rwa [h] at this

/-! ## Trimming -/

theorem trim_reverse : ∀ l : List Atom, (trim l.reverse.toArray).toList = (l.dropWhile isRedundant).reverse
  | [] => by rw [trim]; simp
  | a :: l => by
    rw [trim]
    simp only [List.reverse_cons, List.size_toArray, List.length_append, List.length_reverse, List.length_cons,
      List.length_nil, Nat.zero_add, ↓reduceDIte, Nat.zero_lt_succ]
    have e : (l.reverse ++ [a]).toArray[l.length + 1 - 1] = a := by simp
    rw [e]
    by_cases h : isRedundant a = true
    · rw [if_pos h, List.dropWhile_cons_of_pos h]
      have : (l.reverse ++ [a]).toArray.pop = l.reverse.toArray := by simp
      rw [this]; exact trim_reverse l
    · rw [if_neg h, List.dropWhile_cons_of_neg h]; simp

theorem trim_eq_dropWhile (r : Array Atom) : (trim r).toList = (r.toList.reverse.dropWhile isRedundant).reverse := by
  simpa using trim_reverse r.toList.reverse

theorem dropWhileEnd_split {α : Type} (p : α → Bool) (l : List α) :
    l = (l.reverse.dropWhile p).reverse ++ (l.reverse.takeWhile p).reverse ∧
    (∀ a ∈ (l.reverse.takeWhile p).reverse, p a = true) ∧
    ∀ a, (l.reverse.dropWhile p).reverse[(l.reverse.dropWhile p).reverse.length - 1]? = some a → p a = false := by
  refine ⟨?_, fun a ha => List.all_eq_true.mp List.all_takeWhile a (List.mem_reverse.mp ha), fun a ha => ?_⟩
  · rw [← List.reverse_append, List.takeWhile_append_dropWhile, List.reverse_reverse]
  · rw [← List.getLast?_eq_getElem?, List.getLast?_reverse] at ha
    have := List.head?_dropWhile_not p l.reverse
    rw [ha] at this
    simpa using this

theorem trim_append (r : Array Atom) :
    ∃ tail, r.toList = (trim r).toList ++ tail ∧ (∀ a ∈ tail, isRedundant a = true) ∧
      (∀ a, (trim r).toList[(trim r).toList.length - 1]? = some a → isRedundant a = false) := by
  rw [trim_eq_dropWhile]
  exact ⟨_, dropWhileEnd_split isRedundant r.toList⟩
/-! ## List-level statements about the result -/

structure WellFormed (l : List Atom) : Prop where
  /-- the pattern starts by recording the match position in slot 0 -/
  first : l[0]? = some (.save 0)
  /-- `Push(k)` is directly followed by another `Push(k)` (from `{{`) or by the jump atom it belongs to -/
  adj : ∀ (i k : Nat), l[i]? = some (.push k) → ∃ b, l[i+1]? = some b ∧ PushNext k b
  /-- `Case(n)` at `i` points at the `Case`/`Nop` that starts the next alternative, inside the list -/
  caseT : ∀ (i n : Nat), l[i]? = some (.case n) → ∃ a, l[i+1+n]? = some a ∧ isCaseOrNop a = true
  /-- `Break(n)` at `i` points inside the list or exactly at its end -/
  brkT : ∀ (i n : Nat), l[i]? = some (.brk n) → i + 1 + n ≤ l.length
  args : ∀ a ∈ l, argOf a < 256
  slots : ∀ a ∈ l, ∀ k, slotOf a = some k → k < 255

theorem Inv.wellFormed {st : PSt} (h : Inv st) (hs : st.subs = []) : WellFormed st.result.toList := by
  have hM : max st.save (maxNext []) ≤ 255 := Nat.max_le.mpr ⟨h.save_le, Nat.zero_le _⟩
  have h := h.r
  rw [hs] at h
  have mem : ∀ a ∈ st.result.toList, ∃ i : Nat, st.result[i]? = some a := fun a ha =>
    (List.mem_iff_getElem?.mp ha).imp fun i hi => by simpa using hi
  constructor <;> try simp only [Array.getElem?_toList, Array.length_toList]
  · exact h.first
  · exact h.adj
  · exact fun i n hi => (h.caseT i n hi).resolve_left fun ⟨_, hs, _⟩ => nomatch hs
  · exact h.brkT
  · exact fun a ha => let ⟨i, hi⟩ := mem a ha; h.args i a hi
  · exact fun a ha k hk => let ⟨i, hi⟩ := mem a ha; Nat.lt_of_lt_of_le (h.slots i a k hi hk) hM

theorem parse_ok_struct {s : List UInt8} {atoms : List Atom} (h : parse s = .ok atoms) :
    ∃ tail, WellFormed (atoms ++ tail) ∧ (∀ a ∈ tail, isRedundant a = true) ∧
      (∀ a, atoms[atoms.length - 1]? = some a → isRedundant a = false) := by
  obtain ⟨pat, st, hr, _, hs, rfl⟩ := parse_ok_reach h
  obtain ⟨tail, h1, h2, h3⟩ := trim_append st.result
  exact ⟨tail, h1 ▸ hr.spec.1.wellFormed hs, h2, h3⟩

theorem parse_ok_or_err (s : List UInt8) : (∃ atoms, parse s = .ok atoms) ∨ ∃ k pos, parse s = .err k pos := by
  have := parse_reach s
  cases h : parse s with
  | ok atoms => exact .inl ⟨atoms, rfl⟩
  | err k pos => exact .inr ⟨k, pos, rfl⟩
  | panic site => rw [h] at this; exact this.elim
  | diverge => rw [h] at this; exact this.elim

theorem pushNext_not_redundant {k b} (h : PushNext k b) : isRedundant b = false := by
  rcases h with rfl | ⟨_, rfl⟩ | ⟨_, rfl⟩ | ⟨_, rfl⟩ <;> rfl

theorem caseOrNop_not_redundant : ∀ {a}, isCaseOrNop a = true → isRedundant a = false
  | .case _, _ | .nop, _ => rfl

theorem getElem?_append_of_not_redundant {l tail : List Atom} {i : Nat} {a : Atom}
    (ht : ∀ a ∈ tail, isRedundant a = true) (h : (l ++ tail)[i]? = some a) (ha : isRedundant a = false) :
    l[i]? = some a := by
  rw [List.getElem?_append] at h
  split at h
  · exact h
  · have := ht a (List.mem_of_getElem? h)
    rw [ha] at this; cases this

theorem getElem?_append_left' {l tail : List Atom} {i : Nat} {a : Atom} (h : l[i]? = some a) :
    (l ++ tail)[i]? = some a := by
  rw [List.getElem?_append_left (List.getElem?_eq_some_iff.mp h).1]; exact h

/-- What survives trimming: everything except that `Break` targets may lie beyond the end. -/
structure TrimmedOK (atoms : List Atom) : Prop where
  first : atoms[0]? = some (.save 0)
  adj : ∀ (i k : Nat), atoms[i]? = some (.push k) → ∃ b, atoms[i+1]? = some b ∧ PushNext k b
  caseT : ∀ (i n : Nat), atoms[i]? = some (.case n) → ∃ a, atoms[i+1+n]? = some a ∧ isCaseOrNop a = true
  args : ∀ a ∈ atoms, argOf a < 256
  slots : ∀ a ∈ atoms, ∀ k, slotOf a = some k → k < 255
  last : ∀ a, atoms[atoms.length - 1]? = some a → isRedundant a = false

theorem trimmedOK_of {atoms tail : List Atom} (h : WellFormed (atoms ++ tail))
    (ht : ∀ a ∈ tail, isRedundant a = true)
    (hl : ∀ a, atoms[atoms.length - 1]? = some a → isRedundant a = false) : TrimmedOK atoms where
  first := getElem?_append_of_not_redundant ht h.first rfl
  adj i k hi :=
    let ⟨b, hb, hn⟩ := h.adj i k (getElem?_append_left' hi)
    ⟨b, getElem?_append_of_not_redundant ht hb (pushNext_not_redundant hn), hn⟩
  caseT i n hi :=
    let ⟨a, ha, hc⟩ := h.caseT i n (getElem?_append_left' hi)
    ⟨a, getElem?_append_of_not_redundant ht ha (caseOrNop_not_redundant hc), hc⟩
  args a ha := h.args a (List.mem_append_left _ ha)
  slots a ha := h.slots a (List.mem_append_left _ ha)
  last := hl

theorem parse_trimmedOK {s : List UInt8} {atoms : List Atom} (h : parse s = .ok atoms) : TrimmedOK atoms :=
  let ⟨_, hw, ht, hl⟩ := parse_ok_struct h
  trimmedOK_of hw ht hl

theorem WellFormed.push_run {l : List Atom} (h : WellFormed l) :
    ∀ (d i k : Nat), l.length - i ≤ d → l[i]? = some (.push k) →
      ∃ j b, i < j ∧ (∀ m, i ≤ m → m < j → l[m]? = some (.push k)) ∧ l[j]? = some b ∧ jumpFor k b := by
  intro d
  induction d with
  | zero =>
    intro i k hd hi
    have := (List.getElem?_eq_some_iff.mp hi).1
    omega
  | succ d ih =>
    intro i k hd hi
    have hlt := (List.getElem?_eq_some_iff.mp hi).1
    obtain ⟨b, hb, hn⟩ := h.adj i k hi
    rcases hn with rfl | hj
    · obtain ⟨j, b', hj1, hj2, hj3, hj4⟩ := ih (i + 1) k (by omega) hb
      refine ⟨j, b', by omega, fun m hm1 hm2 => ?_, hj3, hj4⟩
      by_cases hmi : m = i
      · exact hmi ▸ hi
      · exact hj2 m (by omega) hm2
    · exact ⟨i + 1, b, by omega, fun m hm1 hm2 => (by omega : i = m) ▸ hi, hb, hj⟩

/-! ## `save_len` -/

theorem saveLen_eq (l : List Atom) :
    saveLen l = l.foldl (fun m a => match slotOf a with | some s => max m (s + 1) | none => m) 0 := by
  unfold saveLen
  congr 1
  funext m a
  cases a <;> rfl

theorem foldl_slot_le_iff (l : List Atom) (m0 M : Nat) :
    l.foldl (fun m a => match slotOf a with | some s => max m (s + 1) | none => m) m0 ≤ M ↔
      m0 ≤ M ∧ ∀ a ∈ l, ∀ k, slotOf a = some k → k < M := by
  induction l generalizing m0 with
  | nil => simp
  | cons b l ih =>
    rw [List.foldl_cons, ih]
    cases hb : slotOf b <;> simp [hb, Nat.max_le] <;> grind

theorem saveLen_le_iff {l : List Atom} {M : Nat} : saveLen l ≤ M ↔ ∀ a ∈ l, ∀ k, slotOf a = some k → k < M := by
  rw [saveLen_eq, foldl_slot_le_iff]; simp

theorem saveLen_covers {l : List Atom} {a : Atom} (ha : a ∈ l) {k : Nat} (hk : slotOf a = some k) :
    k < saveLen l :=
  saveLen_le_iff.mp (Nat.le_refl _) a ha k hk

/-! ## `Push`/`Pop` balance (only for inputs without `(`: see the counterexamples in Thm/C11Parse) -/

theorem Grows.countP {r r' : Array Atom} (hg : Grows r r') {p : Atom → Bool} (hp : ∀ a, passive a = true → p a = false) :
    r'.countP p = r.countP p := by
  induction hg with
  | refl => rfl
  | push _ ha ih => simp [hp _ ha, ih]

theorem setLast_push (ys : Array Atom) (j a : Atom) : setLast (ys.push j) a = ys.push a := by
  unfold setLast
  apply Array.ext_getElem?
  intro i
  grind

def Bal (st : PSt) : Prop :=
  st.subs = [] ∧ st.result.countP isPush = st.result.countP isPop + st.depth

theorem Step.bal {st c st'} (hs : Step st c st') (hc : c ≠ .subStart) (h : Bal st) : Bal st' := by
  obtain ⟨h1, h2⟩ := h
  cases hs with
  | grow hg =>
    exact ⟨h1, by rw [hg.countP fun _ ha => (passive_spec ha).2.2.2.1, hg.countP fun _ ha => (passive_spec ha).2.2.2.2]; exact h2⟩
  | slot hmk _ => exact ⟨h1, by simpa [(hmk.spec _).2.2.2.1, (hmk.spec _).2.2.2.2] using h2⟩
  | skipInc hb _ =>
    obtain ⟨ys, hys⟩ := Array.back?_eq_some_iff.mp hb
    rw [hys] at h2
    exact ⟨h1, by simpa [hys, setLast_push, isPush, isPop] using h2⟩
  | openB hj hb =>
    obtain ⟨ys, hys⟩ := Array.back?_eq_some_iff.mp hb
    rw [hys] at h2
    refine ⟨h1, ?_⟩
    rcases hj with ⟨_, rfl⟩ | ⟨_, rfl⟩ | ⟨_, rfl⟩ <;> simp [hys, setLast_push, Array.countP_push, isPush, isPop] at h2 ⊢ <;> omega
  | closeB hd => exact ⟨h1, by simp [Array.countP_push, isPush, isPop]; omega⟩
  | subStart => exact absurd rfl hc
  | subCase hsubs _ => cases h1.symm.trans hsubs
  | subEnd hsubs _ => cases h1.symm.trans hsubs

theorem Reach.bal {s rest pat st} (hno : ∀ c ∈ s, c ≠ (40 : UInt8)) (h : Reach s rest pat st) : Bal st := by
  induction h with
  | init => exact ⟨rfl, by decide⟩
  | step hr ht ih =>
    rename_i c rest pat st nx
    obtain ⟨hinv, _, ⟨pre, hpre⟩, _⟩ := hr.spec
    refine ((tok_good c.toNat rest hinv).of_eq ht).1.bal (fun hc => ?_) ih
    exact hno c (by rw [hpre]; simp) (UInt8.toNat_inj.mp (classify_subStart hc))

end Pelite.Pattern
