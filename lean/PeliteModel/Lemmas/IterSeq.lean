/-!
The sequence specification of C18 for forward iterators, for any item type (core-only: the driver
links it to print the specification's answer next to the model's).

"Every iterator the library hands out behaves like the plain front-to-back sequence of its items:
for any interleaving of next, nth, size_hint, count and clone the results equal those of the same
calls on a deque holding that sequence".  `DequeSpec` is the deque; `Seq.runSeq` replays a whole
history on it.  With the exact hint policy, at item type `Record`, it is the forward fragment of the double-ended
`Rich.Spec.runDeque` (`C18_seq_is_deque_fragment` in Thm/C18.lean).

Size hints: a deque knows its length, so its own `size_hint` is exact; an iterator that is not
`ExactSizeIterator` only promises *sound* bounds.  The specification therefore takes the hint
policy of the iterator type as a parameter (`Hint`: remaining length ↦ answer) and what C18 asks of
it is `Hint.Sound` (lower bound ≤ remaining length ≤ upper bound), resp. `= Hint.exact` for
exact-size iterators.
-/
namespace Pelite.DequeSpec

def next {α} (q : List α) : Option α × List α := (q.head?, q.tail)
def nextBack {α} (q : List α) : Option α × List α := (q.getLast?, q.dropLast)
def nth {α} (q : List α) (n : Nat) : Option α × List α := (q[n]?, q.drop (n + 1))

end Pelite.DequeSpec

namespace Pelite.Seq

/-- the calls a forward iterator (`Iterator + Clone`) offers -/
inductive Op
  | next | nth (n : Nat) | sizeHint | count | clone
  deriving DecidableEq, Repr

inductive Res (α : Type)
  | item (r : Option α)                   -- next / nth
  | num (n : Nat)                         -- `it.clone().count()`
  | hint (lo : Nat) (hi : Option Nat)     -- size_hint
  | list (l : List α)                     -- the items a clone still yields; the history goes on with the clone
  deriving DecidableEq, Repr

/-- size-hint policy of an iterator type: remaining length ↦ `(lower, upper)` -/
abbrev Hint := Nat → Nat × Option Nat

/-- what `Iterator::size_hint` must satisfy -/
def Hint.Sound (h : Hint) : Prop := ∀ n, (h n).1 ≤ n ∧ ∀ hi ∈ (h n).2, n ≤ hi

/-- `ExactSizeIterator` -/
def Hint.exact : Hint := fun n => (n, some n)
/-- the provided `size_hint` of `core::iter::Iterator` -/
def Hint.unknown : Hint := fun _ => (0, none)

theorem Hint.exact_sound : Hint.exact.Sound := by
  intro n; simp [Hint.exact]

theorem Hint.unknown_sound : Hint.unknown.Sound := by
  intro n; simp [Hint.unknown]

def stepSeq {α : Type} (hint : Hint) (q : List α) : Op → Res α × List α
  | .next => (.item (DequeSpec.next q).1, (DequeSpec.next q).2)
  | .nth n => (.item (DequeSpec.nth q n).1, (DequeSpec.nth q n).2)
  | .sizeHint => (.hint (hint q.length).1 (hint q.length).2, q)
  | .count => (.num q.length, q)
  | .clone => (.list q, q)

/-- the answers of a whole call history on the sequence `q` -/
def runSeq {α : Type} (hint : Hint) : List α → List Op → List (Res α)
  | _, [] => []
  | q, o :: os => (stepSeq hint q o).1 :: runSeq hint (stepSeq hint q o).2 os

theorem runSeq_nil_fused {α : Type} (hint : Hint) (ops : List Op) :
    ∀ r ∈ runSeq hint ([] : List α) ops,
      r = .item none ∨ r = .num 0 ∨ r = .hint (hint 0).1 (hint 0).2 ∨ r = .list [] := by
  induction ops with
  | nil => exact fun r hr => by cases hr
  | cons o os ih =>
    have hst : (stepSeq hint ([] : List α) o).2 = [] := by
      cases o <;> simp [stepSeq, DequeSpec.next, DequeSpec.nth]
    intro r hr
    rw [runSeq, hst] at hr
    rcases List.mem_cons.mp hr with rfl | hr
    · cases o <;> simp [stepSeq, DequeSpec.next, DequeSpec.nth]
    · exact ih r hr

end Pelite.Seq
