import PeliteModel.Lemmas.Rich
import PeliteModel.Lemmas.Window
/-! The bytes bridge of C16: `words (bytesOf ws ++ tail) = ws`, read back through Lemmas/Window; the documented layout
consists of 32-bit values. -/
namespace Pelite.Rich
open Spec Pelite.Resources

theorem bytesOf_eq (ws : List Nat) : bytesOf ws = (ws.flatMap le32b).toArray := by
  unfold bytesOf stubBytes
  rw [List.map_flatMap]
  rfl

theorem wordsGo_flat (post : List UInt8) : ∀ (ws pre : List Nat), (∀ w ∈ ws, w < 4294967296) →
    wordsGo ((pre.flatMap le32b ++ (ws.flatMap le32b ++ post)).toArray) ws.length pre.length = ws := by
  intro ws
  induction ws with
  | nil => intro pre _; rfl
  | cons w ws ih =>
    intro pre h
    have hw : Window (pre.flatMap le32b ++ (le32b w ++ (ws.flatMap le32b ++ post))).toArray (4 * pre.length) (le32b w) :=
      ReadAt.window ⟨pre.flatMap le32b, ws.flatMap le32b ++ post, by simp, length_flatMap_le32b pre⟩
    have := ih (pre ++ [w]) (fun x hx => h x (by simp [hx]))
    simp only [List.flatMap_append, List.flatMap_cons, List.flatMap_nil, List.append_nil, List.append_assoc,
      List.length_append, List.length_cons, List.length_nil] at this
    simp only [List.length_cons, wordsGo, List.flatMap_cons, List.append_assoc, hw.le32 (h w (by simp)), this]

theorem words_bytesOf_append (ws : List Nat) (tail : Bytes) (h : ∀ w ∈ ws, w < 4294967296)
    (ht : tail.size < 4) : words (bytesOf ws ++ tail) = ws := by
  have hb : bytesOf ws ++ tail = (([] : List Nat).flatMap le32b ++ (ws.flatMap le32b ++ tail.toList)).toArray := by
    rw [bytesOf_eq]; simp
  unfold words
  rw [show (bytesOf ws ++ tail).size / 4 = ws.length by
    rw [Array.size_append, bytesOf_eq, List.size_toArray, length_flatMap_le32b]; omega, hb]
  exact wordsGo_flat _ ws [] h

theorem words_bytesOf (ws : List Nat) (h : ∀ w ∈ ws, w < 4294967296) : words (bytesOf ws) = ws := by
  have := words_bytesOf_append ws #[] h (by decide)
  simpa using this

theorem checksum_lt (stub : List Nat) (rs : List Record) : Spec.checksum stub rs < 4294967296 := by
  unfold Spec.checksum; omega

theorem layout_lt (stub : List Nat) (k : Nat) (rs : List Record) (pad : Nat)
    (hs : ∀ w ∈ stub, w < 4294967296) (hk : k < 4294967296) (hwf : ∀ r ∈ rs, r.WF) :
    ∀ w ∈ Spec.layout stub k rs pad, w < 4294967296 := by
  intro w hw
  simp only [Spec.layout, Spec.header, List.mem_append, List.mem_cons, List.mem_flatMap, encRecord,
    List.mem_replicate, List.not_mem_nil, or_false] at hw
  rcases hw with (hw | ((hw | hw | hw | hw) | ⟨r, hr, hw | hw⟩) | hw | hw) | ⟨_, hw⟩
  · exact hs w hw
  · subst hw; exact xor_lt32 (by decide) hk
  · subst hw; exact hk
  · subst hw; exact hk
  · subst hw; exact hk
  · subst hw
    obtain ⟨h1, h2, _⟩ := hwf r hr
    exact xor_lt32 (by unfold compId; omega) hk
  · subst hw; exact xor_lt32 (hwf r hr).2.2 hk
  · subst hw; decide
  · subst hw; exact hk
  · subst hw; decide

end Pelite.Rich
