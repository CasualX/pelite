import PeliteModel.Lemmas.Scan
import PeliteModel.Lemmas.Pattern
/-!
Which save slots an execution can change — on every path: nested `Push` frames, both outcomes of a `Case`,
every attempt of `exec_many` (failed attempts leave their writes behind), the failing paths as well.  The second
half (`namespace Pelite.Scan`) carries the frame through `next` and whole scans and relates it to `save_len`.
-/
namespace Pelite.Exec
open Pelite.Pattern

theorem slotOf_of_wslot {a : Atom} {k : Nat} (h : wslot a = some k) : slotOf a = some k := by
  cases a <;> simp_all [wslot, slotOf]

/-- `t` is `s` except possibly at the indices in `W`; same length -/
def Frame (W : Nat → Prop) (s t : Array Nat) : Prop :=
  t.size = s.size ∧ ∀ i : Nat, ¬ W i → t[i]? = s[i]?

theorem Frame.refl (W : Nat → Prop) (s : Array Nat) : Frame W s s := ⟨rfl, fun _ _ => rfl⟩

theorem Frame.trans {W : Nat → Prop} {a b c : Array Nat} (h1 : Frame W a b) (h2 : Frame W b c) : Frame W a c :=
  ⟨h2.1.trans h1.1, fun i hi => (h2.2 i hi).trans (h1.2 i hi)⟩

theorem Frame.mono {W W' : Nat → Prop} {s t : Array Nat} (h : Frame W s t) (hW : ∀ i, W i → W' i) : Frame W' s t :=
  ⟨h.1, fun i hi => h.2 i (fun hw => hi (hW i hw))⟩

theorem Frame.set (W : Nat → Prop) (s : Array Nat) (k v : Nat) (hk : W k) : Frame W s (saveSet s k v) := by
  refine ⟨saveSet_size _ _ _, fun i hi => ?_⟩
  simp only [saveSet, Array.getElem?_setIfInBounds]
  by_cases hki : k = i
  · subst hki; exact absurd hk hi
  · simp [hki]

def WrittenFrom (pat : List Atom) (lo : Nat) (i : Nat) : Prop :=
  ∃ j a, lo ≤ j ∧ pat[j]? = some a ∧ wslot a = some i

theorem exec_frame (S : ScanI) (pat : List Atom) (fuel : Nat) (st : St) (mask ext : Nat) (b : Bool) (st' : St)
    (h : exec S pat fuel st mask ext = .ok (b, st')) : Frame (WrittenFrom pat st.pc) st.save st'.save :=
  (exec_inv (P := (st.pc ≤ ·)) (C := fun _ => True) (Q := Frame (WrittenFrom pat st.pc) st.save)
    ⟨fun _ _ _ h => Nat.le_succ_of_le h, fun _ _ _ h => by omega, fun _ _ _ => trivial,
     fun j a hp hj _ _ _ _ _ _ hs _ hq => by
      refine ⟨trivial, hq.trans ?_⟩
      rcases (step_some hs).2.1 with h | ⟨k, v, hk, h, _⟩ <;> rw [h]
      · exact Frame.refl _ _
      · exact Frame.set _ _ _ _ ⟨j, a, hj, hp, hk⟩⟩
    fuel st mask ext b st' h ⟨Nat.le_refl _, trivial, Frame.refl _ _⟩).2.2

def Written (pat : List Atom) (i : Nat) : Prop := ∃ a ∈ pat, wslot a = some i

theorem run_frame (S : ScanI) (pat : List Atom) (c : Nat) (save save' : Array Nat) (b : Bool)
    (h : run S pat c save = .ok (b, save')) : Frame (Written pat) save save' := by
  obtain ⟨st', hex, rfl⟩ := run_exec h
  exact (exec_frame S pat _ _ _ _ _ _ hex).mono fun _ ⟨_, a, _, hp, hw⟩ => ⟨a, List.mem_of_getElem? hp, hw⟩

/-- what `pattern::parse` emits -/
def slot0Reserved : List Atom → Bool
  | .save 0 :: r => r.all (fun a => wslot a != some 0)
  | _ => false

theorem slot0Reserved_spec {pat : List Atom} (h : slot0Reserved pat = true) :
    pat[0]? = some (.save 0) ∧ ∀ j a, 0 < j → pat[j]? = some a → wslot a ≠ some 0 := by
  unfold slot0Reserved at h
  split at h
  · next r =>
    refine ⟨rfl, ?_⟩
    intro j a hj hp hw
    obtain ⟨i, rfl⟩ : ∃ i, j = i + 1 := ⟨j - 1, by omega⟩
    rw [List.getElem?_cons_succ] at hp
    have := List.all_eq_true.1 h a (List.mem_of_getElem? hp)
    simp [hw] at this
  · cases h

theorem run_first_save (S : ScanI) (pat : List Atom) (hres : slot0Reserved pat = true)
    (c : Nat) (save save' : Array Nat) (b : Bool) (h : run S pat c save = .ok (b, save')) :
    save'.size = save.size ∧ (0 < save.size → save'[0]? = some c) := by
  obtain ⟨h0, hno⟩ := slot0Reserved_spec hres
  obtain ⟨st', hex, rfl⟩ := run_exec h
  have hsz := (exec_frame S pat _ _ _ _ _ _ hex).1
  refine ⟨hsz, fun hs => ?_⟩
  have hp : pat[(⟨0, c, save⟩ : St).pc]? = some (.save 0) := h0
  unfold fuelFor at hex
  rw [exec_simple hp rfl] at hex
  simp only [step] at hex
  have hf := exec_frame S pat _ _ _ _ _ _ hex
  have := hf.2 0 (by
    rintro ⟨j, a, hj, hpj, hw⟩
    exact hno j a (by simp at hj; omega) hpj hw)
  rw [this]
  simp [saveSet, hs]

theorem slot0Reserved_of {pat : List Atom} (h0 : pat[0]? = some (.save 0))
    (hno : ∀ j a, 0 < j → pat[j]? = some a → wslot a ≠ some 0) : slot0Reserved pat = true := by
  cases pat with
  | nil => simp at h0
  | cons a0 r =>
    simp only [List.getElem?_cons_zero, Option.some.injEq] at h0
    subst h0
    simp only [slot0Reserved, List.all_eq_true]
    intro a ha
    obtain ⟨i, hi⟩ := List.mem_iff_getElem?.mp ha
    have := hno (i + 1) a (Nat.succ_pos _) (by rw [List.getElem?_cons_succ]; exact hi)
    simpa using this

end Pelite.Exec

namespace Pelite.Scan
open Pelite.Pattern Pelite.Exec

theorem interp_keeps_frame (v : Pe.View) (pat : List Atom) : (interp v pat).Keeps (Frame (Written pat)) where
  refl := Frame.refl _
  trans := fun _ _ _ => Frame.trans
  call := fun c s b s' h => run_frame (ofView v) pat c s s' b h

theorem next_frame (v : Pe.View) (pat : List Atom) (m : MSt) (save : Array Nat) (r : Res)
    (h : next v pat m save = .ok r) : Frame (Written pat) save r.save :=
  (nextWith_returns (interp_keeps_frame v pat) v (setup pat) m save r h).rel

theorem scanAll_frame (v : Pe.View) (pat : List Atom) (n : Nat) (m : MSt) (save : Array Nat) (a : All)
    (h : scanAll (next v pat) n m save = .ok a) :
    Frame (Written pat) save a.save ∧ ∀ x ∈ a.hits, Frame (Written pat) save x.2 :=
  scanAll_rel (interp_keeps_frame v pat) v (setup pat) n m save a h

theorem next_pos_save0 (v : Pe.View) (hsz : v.b.size < 4294967296) (pat : List Atom) (hres : slot0Reserved pat = true)
    (m : MSt) (save : Array Nat) :
    ∃ r, next v pat m save = .ok r ∧ r.save.size = save.size ∧
      (r.found = true → 0 < save.size → r.save[0]? = some r.pos) := by
  obtain ⟨r, hr, hs⟩ := next_sound v hsz pat m save
  have hfr := next_frame v pat m save r hr
  refine ⟨r, hr, hfr.1, fun hf hpos => ?_⟩
  obtain ⟨_, _, _, _, s, hrun⟩ := hs.found hf
  obtain ⟨h1, h2⟩ := run_first_save (ofView v) pat hres r.pos s r.save true hrun
  exact h2 (by rw [← h1, hfr.1]; exact hpos)

theorem not_written_of_saveLen_le {pat : List Atom} {i : Nat} (h : saveLen pat ≤ i) : ¬ Written pat i := by
  rintro ⟨a, ha, hw⟩
  have := saveLen_covers ha (slotOf_of_wslot hw)
  omega

end Pelite.Scan
