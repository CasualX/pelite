import PeliteModel.Spec.PatternSemDoc
import PeliteModel.Lemmas.PatternSemImpl
/-!
Lemmas for `Thm/C11Doc.lean`: the documented-upper-bound semantics `semD` / `denoteDoc`
(`Spec/PatternSemDoc.lean`) is the implemented one (`semI` / `denoteImpl`) of the tree with every `[a-b]`
rewritten to `[a-(b+1)]` (`bumpRanges`).
-/
namespace Pelite.PatSem
open Pelite.Pattern Pelite.Exec

theorem semD_plain (S : ScanI) (k : Nat) {it : Item} (r : List Item) (c : Nat) (κ : Kont) (h : plain it = true) :
    semD S k (it :: r) c κ =
      match semItem S k it c with
      | none => none
      | some (c1, w1) => addCaps w1 (semD S (slotsItem k it) r c1 κ) :=
  semD.eq_5 S k c κ it r (plain_ne h).1 (plain_ne h).2.1 (plain_ne h).2.2

theorem semAltsD_cons2 (S : ScanI) (k : Nat) (b b' : List Item) (bs : List (List Item)) (c : Nat) (κ : Kont) :
    semAltsD S k (b :: b' :: bs) c κ =
      match semD S k b c Kont.done with
      | some (c1, w1) => addCaps w1 (κ c1)
      | none => semAltsD S k (b' :: bs) c κ :=
  semAltsD.eq_3 S k c κ b (b' :: bs) (List.cons_ne_nil _ _)

theorem bumpRanges_plain {it : Item} (r : List Item) (h : plain it = true) :
    bumpRanges (it :: r) = it :: bumpRanges r :=
  bumpRanges.eq_5 it r (plain_ne h).1 (plain_ne h).2.1 (plain_ne h).2.2

theorem hasRange_plain {it : Item} (r : List Item) (h : plain it = true) :
    hasRange (it :: r) = hasRange r :=
  hasRange.eq_5 it r (plain_ne h).1 (plain_ne h).2.1 (plain_ne h).2.2

theorem bumpAlts_ne_nil (b' : List Item) (bs : List (List Item)) : bumpAlts (b' :: bs) ≠ [] := by
  rw [bumpAlts]; exact List.cons_ne_nil _ _

theorem slots_bump_both :
    (∀ (items : List Item) (k : Nat), slotsItems k (bumpRanges items) = slotsItems k items) ∧
    (∀ (bodies : List (List Item)) (k : Nat), slotsAlts k (bumpAlts bodies) = slotsAlts k bodies) := by
  refine items_induction ?_ ?_ ?_ ?_
  · intro k; rw [bumpRanges]
  · intro it r hg ha ih k
    cases it with
    | range a b => rw [bumpRanges]; simp only [slotsItems, slotsItem]; exact ih _
    | group j gap body => rw [bumpRanges]; simp only [slotsItems, slotsItem]; rw [hg _ _ _ rfl, ih]
    | alt bodies => rw [bumpRanges]; simp only [slotsItems, slotsItem]; rw [ha _ rfl, ih]
    | _ => rw [bumpRanges_plain _ rfl]; simp only [slotsItems]; exact ih _
  · intro k; rw [bumpAlts]
  · intro b bs hb hbs k; rw [bumpAlts, slotsAlts, slotsAlts, hb, hbs]

theorem slots_bump (items : List Item) (k : Nat) : slotsItems k (bumpRanges items) = slotsItems k items :=
  slots_bump_both.1 items k

theorem slots_bumpAlts (bodies : List (List Item)) (k : Nat) : slotsAlts k (bumpAlts bodies) = slotsAlts k bodies :=
  slots_bump_both.2 bodies k

theorem trailingItem_all_bump : ∀ r : List Item, (bumpRanges r).all trailingItem = r.all trailingItem := by
  apply seqInd (P := fun r => (bumpRanges r).all trailingItem = r.all trailingItem) (Q := fun _ => True)
  · rw [bumpRanges]
  · intro it r h ih; rw [bumpRanges_plain _ h, List.all_cons, List.all_cons, ih]
  · intro a b r ih; rw [bumpRanges, List.all_cons, List.all_cons, ih]; rfl
  · intro j gap body r _ ih; rw [bumpRanges, List.all_cons, List.all_cons, ih]; rfl
  · intro bodies r _ ih; rw [bumpRanges, List.all_cons, List.all_cons, ih]; rfl
  · trivial
  · intros; trivial

theorem dropTrailing_bump : ∀ (items : List Item) (e : Bool),
    dropTrailing e (bumpRanges items) = bumpRanges (dropTrailing e items) := by
  apply seqInd (P := fun items => ∀ e : Bool, dropTrailing e (bumpRanges items) = bumpRanges (dropTrailing e items))
    (Q := fun bodies => ∀ e : Bool, dropTrailingAlts e (bumpAlts bodies) = bumpAlts (dropTrailingAlts e bodies))
  · intro e; rw [bumpRanges, dropTrailing, bumpRanges]
  · intro it r h ih e
    rw [bumpRanges_plain _ h, dropTrailing_plain _ _ h, dropTrailing_plain _ _ h, bumpRanges_plain _ h, ih]
  · intro a b r ih e
    rw [bumpRanges, dropTrailing, dropTrailing, trailingItem_all_bump, ih]
    cases e && r.all trailingItem
    · rw [if_neg Bool.false_ne_true, if_neg Bool.false_ne_true, bumpRanges]
    · rw [if_pos rfl, if_pos rfl, bumpRanges_plain _ rfl]
  · intro j gap body r ihb ih e
    rw [bumpRanges, dropTrailing, dropTrailing, trailingItem_all_bump, ih, ihb, bumpRanges]
  · intro bodies r ihb ih e
    rw [bumpRanges, dropTrailing, dropTrailing, trailingItem_all_bump, ih, ihb, bumpRanges]
  · intro e; rw [bumpAlts, dropTrailingAlts, bumpAlts]
  · intro b bs hb hbs e
    cases bs with
    | nil => simp only [bumpAlts, dropTrailingAlts, hb]
    | cons b' bs =>
      rw [bumpAlts, dropTrailingAlts_cons_ne _ _ (bumpAlts_ne_nil b' bs), dropTrailingAlts_cons2, hb, hbs, bumpAlts]

theorem semD_eq_semI_bump (S : ScanI) : ∀ (items : List Item) (k c : Nat) (κ : Kont),
    semD S k items c κ = semI S k (bumpRanges items) c κ := by
  apply seqInd (P := fun items => ∀ (k c : Nat) (κ : Kont), semD S k items c κ = semI S k (bumpRanges items) c κ)
    (Q := fun bodies => ∀ (k c : Nat) (κ : Kont), semAltsD S k bodies c κ = semAltsI S k (bumpAlts bodies) c κ)
  · intro k c κ; rw [bumpRanges, semD, semI]
  · intro it r h ih k c κ
    rw [bumpRanges_plain _ h, semD_plain S k r c κ h, semI_plain S k _ c κ h]
    simp only [ih]; rfl
  · intro a b r ih k c κ
    rw [bumpRanges, semD, semI]
    simp only [ih]; rfl
  · intro j gap body r ihb ih k c κ
    rw [bumpRanges, semD, semI]
    simp only [ihb, ih, slots_bump]; rfl
  · intro bodies r ihb ih k c κ
    rw [bumpRanges, semD, semI, ihb, slots_bumpAlts]
    simp only [ih]
  · intro k c κ; rw [bumpAlts, semAltsD, semAltsI]
  · intro b bs hb hbs k c κ
    cases bs with
    | nil => simp only [bumpAlts, semAltsD, semAltsI, hb]
    | cons b' bs =>
      rw [bumpAlts, semAltsD_cons2, hb, hbs, semAltsI_cons_ne _ _ _ (bumpAlts_ne_nil b' bs)]; rfl

theorem denoteDoc_eq_denoteImpl_bump (S : ScanI) (p : Pat) (c : Nat) :
    denoteDoc S p c = denoteImpl S (bumpRanges p) c := by
  rw [denoteDoc, denoteImpl, dropTrailing_bump, semD_eq_semI_bump]

theorem bump_noRange : ∀ items : List Item, hasRange items = false → bumpRanges items = items := by
  apply seqInd (P := fun items => hasRange items = false → bumpRanges items = items)
    (Q := fun bodies => hasRangeAlts bodies = false → bumpAlts bodies = bodies)
  · intro _; rw [bumpRanges]
  · intro it r h ih hr; rw [hasRange_plain _ h] at hr; rw [bumpRanges_plain _ h, ih hr]
  · intro a b r _ hr; rw [hasRange] at hr; cases hr
  · intro j gap body r ihb ih hr
    rw [hasRange, Bool.or_eq_false_iff] at hr
    rw [bumpRanges, ihb hr.1, ih hr.2]
  · intro bodies r ihb ih hr
    rw [hasRange, Bool.or_eq_false_iff] at hr
    rw [bumpRanges, ihb hr.1, ih hr.2]
  · intro _; rw [bumpAlts]
  · intro b bs hb hbs hr
    rw [hasRangeAlts, Bool.or_eq_false_iff] at hr
    rw [bumpAlts, hb hr.1, hbs hr.2]

end Pelite.PatSem
