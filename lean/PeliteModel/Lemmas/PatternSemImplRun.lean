import PeliteModel.Lemmas.PatternSemImpl
/-!
Lemmas for C11 (semantic half): compiler correctness, `comp_runsK_both` — the code of a sequence, in any program
that contains it, trimmed or not, followed by any continuation, computes `semI`.

The parser trims the redundant atoms `Skip / Rangext / Pop / Many` from the end of the code.  `F` is any program
that holds the code of the sequence as compiled, `n` the length of what is kept (`n > F.length`: nothing is
trimmed, `Cut.none`); what runs is `F.take n`.  A run that comes to the cut returns `true`, and so does every frame
around it (`Ends`).  The cut never falls inside the code of an item: it stands in front of the longest run of
redundant atoms (`Cut.le_of_red`), so a `[a-b]` whose `Many` is cut is cut together with everything behind it and
with its own lower bound — it means what `[a]` means, which is `dropTrailing`.

The simulation relation is `RunsK`: "running from `pc` behaves as the continuation semantics says, and then as
`ret`".  `ret` is the return of the enclosing frame (`retAt`), or — for a sequence none of whose `[a-b]` looks
beyond it — whatever the code behind it does (`goOn`: the conclusion is then the equation `Runs`).
-/
namespace Pelite.PatSem
open Pelite.Pattern Pelite.Exec

/-! ## the cut -/

/-- `n` is where the parser cuts the code `F` -/
structure Cut (F : List Atom) (n : Nat) : Prop where
  tail : ∀ i a, n ≤ i → F[i]? = some a → redundant a = true
  last : n ≤ F.length → n = 0 ∨ ∃ a, F[n - 1]? = some a ∧ redundant a = false

theorem At.take {F : List Atom} {n pc : Nat} {code : List Atom} (hA : At F pc code) (hn : pc + code.length ≤ n) :
    At (F.take n) pc code := by
  intro i a ha
  have hi := pc_lt_of_some ha
  rw [List.getElem?_take_of_lt (by omega)]
  exact hA i a ha

section Cut
variable {F : List Atom} {n : Nat} (h : Cut F n) {i pos : Nat} {a : Atom} {code : List Atom}
include h

theorem Cut.lt_of_solid (ha : F[i]? = some a) (hr : redundant a = false) : i < n :=
  Nat.lt_of_not_le fun hle => by rw [h.tail i a hle ha] at hr; cases hr

/-- redundant atoms in front of the cut are cut, too -/
theorem Cut.le_of_red (hA : At F pos code) (hr : ∀ a ∈ code, redundant a = true) (hn : n ≤ pos + code.length) :
    n ≤ pos := by
  apply Nat.le_of_not_lt
  intro hlt
  -- `code` is not empty, so it ends inside `F`
  have hin : n ≤ F.length := by
    have hlt' : code.length - 1 < code.length := by omega
    have := pc_lt_of_some (hA _ _ (List.getElem?_eq_getElem hlt'))
    omega
  rcases h.last hin with h0 | ⟨a, ha, hra⟩
  · exact Nat.not_lt_zero _ (h0 ▸ hlt)
  · -- the last kept atom is one of `code`
    obtain ⟨i, hi⟩ := Nat.le.dest (Nat.le_sub_one_of_lt hlt)
    have hlt' : i < code.length := by omega
    rw [← hi, hA i _ (List.getElem?_eq_getElem hlt')] at ha
    cases ha
    rw [hr _ (List.getElem_mem hlt')] at hra
    cases hra

theorem Cut.red_of_le (hA : At F pos code) (hn : n ≤ pos) : ∀ a ∈ code, redundant a = true := by
  intro a ha
  obtain ⟨i, hi⟩ := List.mem_iff_getElem?.1 ha
  exact h.tail (pos + i) a (Nat.le_trans hn (Nat.le_add_right _ _)) (hA i a hi)

theorem Cut.take_red (hA : At F pos code) (hr : ∀ a ∈ code, redundant a = true) (hlt : ¬ n ≤ pos) :
    At (F.take n) pos code :=
  hA.take (Nat.le_of_not_le fun hn => hlt (h.le_of_red hA hr hn))

theorem Cut.take_solid {x y : List Atom} (hA : At F pos (x ++ y)) (hy : ∀ a ∈ y, redundant a = false) (hne : y ≠ []) :
    At (F.take n) pos (x ++ y) := by
  have hl : y.length - 1 < y.length := Nat.sub_lt (List.length_pos_iff.2 hne) Nat.one_pos
  have := h.lt_of_solid (hA.right _ _ (List.getElem?_eq_getElem hl)) (hy _ (List.getElem_mem hl))
  exact hA.take (by rw [List.length_append]; omega)

end Cut

/-- nothing is cut: `n` lies BEHIND the code — at `n = F.length` the field `last` would ask untrimmed code to end in an atom
that is not redundant -/
theorem Cut.none {F : List Atom} {n : Nat} (h : F.length < n) : Cut F n where
  tail i a hle ha := by have := pc_lt_of_some ha; omega
  last hn := absurd hn (Nat.not_le.2 h)

/-! ## the code of a sequence, item by item -/

theorem flush_redundant : ∀ (pend : Option Nat), ∀ a ∈ flush pend, redundant a = true
  | none => fun _ h => nomatch h
  | some _ => List.forall_mem_singleton.2 rfl

theorem rangext_redundant (m : Nat) : ∀ a ∈ rangext m, redundant a = true := by
  unfold rangext
  split
  · exact List.forall_mem_singleton.2 rfl
  · exact fun _ h => nomatch h

theorem redundant_append {x y : List Atom} (hx : ∀ a ∈ x, redundant a = true) (hy : ∀ a ∈ y, redundant a = true) :
    ∀ a ∈ x ++ y, redundant a = true :=
  fun a ha => (List.mem_append.1 ha).elim (hx a) (hy a)

theorem redundant_readAtom (sg : Bool) (w k : Nat) : redundant (readAtom sg w k) = false := by
  unfold readAtom; split <;> rfl

theorem compAlts_solid (k : Nat) : ∀ bodies : List (List Item), bodies ≠ [] →
    ∃ a ∈ compAlts k bodies, redundant a = false
  | [], h => absurd rfl h
  | [b], _ => ⟨.nop, by simp [compAlts], rfl⟩
  | b :: b' :: bs, _ => by
    rw [compAlts_cons2]
    exact ⟨_, List.mem_cons_self .., rfl⟩

theorem rangeLo_redundant (pend : Option Nat) (a : Nat) : ∀ x ∈ rangeLo pend a, redundant x = true := by
  unfold rangeLo
  split
  · exact flush_redundant _
  · exact redundant_append (redundant_append (flush_redundant _) (rangext_redundant _)) (List.forall_mem_singleton.2 rfl)

theorem comp_group_split (k : Nat) (pend : Option Nat) (j : Jump) (gap : List UInt8) (body r : List Item) :
    comp k pend (.group j gap body :: r) =
      (flush pend ++ [.push j.push, j.atom] ++ comp k none body) ++ ([.pop] ++ comp (slotsItems k body) none r) := by
  rw [comp]; simp

theorem comp_alt_split (k : Nat) (pend : Option Nat) (bodies : List (List Item)) (r : List Item) :
    comp k pend (.alt bodies :: r) = (flush pend ++ compAlts k bodies) ++ comp (slotsAlts k bodies) none r :=
  comp_cons_of rfl r

theorem compAlts_cons2_split (k : Nat) (b b' : List Item) (bs : List (List Item)) :
    compAlts k (b :: b' :: bs) =
      ([.case ((comp k none b).length + 1)] ++ comp k none b) ++
        ([.brk (compAlts k (b' :: bs)).length] ++ compAlts k (b' :: bs)) := by
  rw [compAlts_cons2]
  rfl

def ItemCode (d : Nat) (it : Item) (pre : List Atom) : Prop :=
  (trailingItem it = true → ∀ a ∈ pre, redundant a = true) ∧
  (trailingItem it = false → wfItem d it = true → ∃ x a y, pre = x ++ a :: y ∧ redundant a = false ∧
    (plain it = true → ∀ b ∈ y, redundant b = false))

theorem ItemCode.solid {d : Nat} {it : Item} {pre : List Atom} (x : List Atom) (a : Atom) (y : List Atom)
    (ht : trailingItem it = false) (hpre : pre = x ++ a :: y) (hr : redundant a = false)
    (hy : plain it = true → ∀ b ∈ y, redundant b = false) : ItemCode d it pre :=
  ⟨fun h => (by rw [ht] at h; cases h), fun _ _ => ⟨x, a, y, hpre, hr, hy⟩⟩

theorem ItemCode.red {d : Nat} {it : Item} {pre : List Atom} (ht : trailingItem it = true)
    (h : ∀ a ∈ pre, redundant a = true) : ItemCode d it pre :=
  ⟨fun _ => h, fun h' => by rw [ht] at h'; cases h'⟩

theorem compItem_code (d k : Nat) (pend : Option Nat) (it : Item) : ItemCode d it (compItem k pend it).1 := by
  have simple : ∀ {a : Atom}, simpleAtom k it = some a → trailingItem it = false → redundant a = false →
      ItemCode d it (compItem k pend it).1 :=
    fun {a} h ht hr => compItem_simple h pend ▸ .solid (flush pend) a [] ht rfl hr (fun _ _ h => nomatch h)
  cases it
  case ws s => exact .red rfl (fun _ h => nomatch h)
  case byte b => exact simple rfl rfl rfl
  case jump j => exact simple rfl rfl (by cases j <;> rfl)
  case save => exact simple rfl rfl rfl
  case aligned m => exact simple rfl rfl rfl
  case readI w => exact simple rfl rfl (redundant_readAtom _ _ _)
  case readU w => exact simple rfl rfl (redundant_readAtom _ _ _)
  case zero => exact simple rfl rfl rfl
  case str bs =>
    cases bs with
    | nil => exact .red rfl (fun _ h => nomatch h)
    | cons x xs =>
      exact .solid (flush pend) (.byte x.toNat) (xs.map fun c => .byte c.toNat) rfl (by simp [compItem]) rfl
        (fun _ b hb => by obtain ⟨_, _, rfl⟩ := List.mem_map.1 hb; rfl)
  case any =>
    cases pend with
    | none => exact .red rfl (fun _ h => nomatch h)
    | some m =>
      rw [compItem]
      split
      · exact .red rfl (fun _ h => nomatch h)
      · exact .red rfl (List.forall_mem_singleton.2 rfl)
  case skip m =>
    rw [compItem]
    split
    · exact .red rfl (fun _ h => nomatch h)
    · exact .red rfl (redundant_append (flush_redundant _) (rangext_redundant _))
  case range a b =>
    exact .red rfl
      (redundant_append (redundant_append (rangeLo_redundant pend a) (rangext_redundant _)) (List.forall_mem_singleton.2 rfl))
  case group j gap body =>
    exact .solid (flush pend) (.push j.push) (j.atom :: (comp k none body ++ [.pop])) rfl (by simp [compItem]) rfl nofun
  case alt bodies =>
    refine ⟨fun h => (nomatch h), fun _ hwf => ?_⟩
    have hne : bodies ≠ [] := by
      intro hb; subst hb; simp [wfItem] at hwf
    obtain ⟨a, ha, hra⟩ := compAlts_solid k bodies hne
    obtain ⟨s, t, hst⟩ := List.append_of_mem ha
    exact ⟨flush pend ++ s, a, t, by simp [compItem, hst], hra, nofun⟩

theorem comp_trailing : ∀ (r : List Item) (k : Nat) (pend : Option Nat), r.all trailingItem = true →
    ∀ a ∈ comp k pend r, redundant a = true := by
  intro r
  induction r with
  | nil => intro k pend _; rw [comp]; exact flush_redundant pend
  | cons it r ih =>
    intro k pend h
    rw [List.all_cons, Bool.and_eq_true] at h
    rw [comp_cons]
    exact redundant_append ((compItem_code 0 k pend it).1 h.1) (ih _ _ h.2)

theorem trailing_of_comp : ∀ (r : List Item) (d k : Nat) (pend : Option Nat), wfItems d r = true →
    (∀ a ∈ comp k pend r, redundant a = true) → r.all trailingItem = true := by
  intro r
  induction r with
  | nil => intro _ _ _ _ _; rfl
  | cons it r ih =>
    intro d k pend hwf h
    rw [comp_cons] at h
    rw [List.all_cons, Bool.and_eq_true]
    refine ⟨?_, ih d _ _ (wf_cons hwf).2 (fun a ha => h a (List.mem_append_right _ ha))⟩
    cases ht : trailingItem it with
    | true => rfl
    | false =>
      obtain ⟨x, a, y, hpre, hra, _⟩ := (compItem_code d k pend it).2 ht (wf_cons hwf).1
      rw [h a (List.mem_append_left _ (hpre ▸ List.mem_append_right _ (List.mem_cons_self ..)))] at hra
      cases hra

/- `xs`: the redundant atoms between a sub-pattern and the rest of its sequence (`[.many _]`, `[.pop]`, `[]`); `cut_iff` ties
the position of the cut to the flag `e && r.all trailingItem` that `dropTrailing` computes -/
section CutIff
variable {F : List Atom} {n : Nat} (hcut : Cut F n) {e : Bool} {r : List Item} {k' pos q : Nat} {xs : List Atom}
  (hxs : ∀ x ∈ xs, redundant x = true) (hA : At F pos (xs ++ comp k' none r))
  (hq : q = pos + (xs ++ comp k' none r).length)
include hcut hxs hA hq

theorem cut_le (he : e = true → n ≤ q) (h : (e && r.all trailingItem) = true) : n ≤ pos := by
  rw [Bool.and_eq_true] at h
  exact hcut.le_of_red hA (redundant_append hxs (comp_trailing r k' none h.2)) (hq ▸ he h.1)

theorem cut_iff {d : Nat} (hwf : wfItems d r = true) (he : e = true ↔ n ≤ q) :
    (e && r.all trailingItem) = true ↔ n ≤ pos := by
  refine ⟨cut_le hcut hxs hA hq he.1, fun hn => ?_⟩
  rw [Bool.and_eq_true]
  have hle : n ≤ pos + xs.length := Nat.le_trans hn (Nat.le_add_right _ _)
  rw [add_length_append] at hq
  exact ⟨he.2 (hq ▸ Nat.le_trans hle (Nat.le_add_right _ _)),
    trailing_of_comp r d k' none hwf (hcut.red_of_le hA.right hle)⟩

end CutIff

theorem plain_take {F : List Atom} {n : Nat} (hcut : Cut F n) {it : Item} (hp : plain it = true) {d k pc : Nat}
    (hwf : wfItem d it = true) {pend : Option Nat} (hA : At F pc (compItem k pend it).1) (hlt : ¬ n ≤ pc) :
    At (F.take n) pc (compItem k pend it).1 := by
  cases ht : trailingItem it with
  | true => exact hcut.take_red hA ((compItem_code d k pend it).1 ht) hlt
  | false =>
    obtain ⟨x, a, y, hpre, hra, hy⟩ := (compItem_code d k pend it).2 ht hwf
    rw [hpre] at hA ⊢
    exact hcut.take_solid hA (List.forall_mem_cons.2 ⟨hra, hy hp⟩) (List.cons_ne_nil _ _)

theorem semI_trailing (S : ScanI) (κ : Kont) : ∀ (r : List Item) (k c : Nat), r.all trailingItem = true →
    slotsItems k r = k ∧ ∃ c', (c < 4294967296 → c' < 4294967296) ∧ semI S k (dropTrailing true r) c κ = κ c'
  | [], k, c, _ => ⟨rfl, c, id, by rw [dropTrailing, semI]⟩
  | it :: r, k, c, h => by
    rw [List.all_cons, Bool.and_eq_true] at h
    have step : ∀ {it' : Item} {c1 : Nat}, plain it' = true → slotsItem k it = k → slotsItem k it' = k →
        dropTrailing true (it :: r) = it' :: dropTrailing true r → semItem S k it' c = some (c1, []) →
        (c < 4294967296 → c1 < 4294967296) → slotsItems k (it :: r) = k ∧
          ∃ c', (c < 4294967296 → c' < 4294967296) ∧ semI S k (dropTrailing true (it :: r)) c κ = κ c' := by
      intro it' c1 hp hs hs' hd hsem hc1
      obtain ⟨hsl, c', hc', hr⟩ := semI_trailing S κ r k c1 h.2
      exact ⟨by rw [slotsItems, hs, hsl], c', fun hc => hc' (hc1 hc), by rw [hd, semI_plain S k _ c κ hp, hsem, bindK_nil, hs', hr]⟩
    cases it
    case ws => exact step rfl rfl rfl (dropTrailing_plain _ _ rfl) rfl id
    case any => exact step rfl rfl rfl (dropTrailing_plain _ _ rfl) rfl (fun _ => wadd32_lt _ _)
    case skip => exact step rfl rfl rfl (dropTrailing_plain _ _ rfl) rfl (fun _ => wadd32_lt _ _)
    case range a b =>
      exact step (it' := .skip a) rfl rfl rfl (by rw [dropTrailing, h.2]; rfl) rfl (fun _ => wadd32_lt _ _)
    case str bs =>
      obtain rfl : bs = [] := by simpa [trailingItem] using h.1
      exact step rfl rfl rfl (dropTrailing_plain _ _ rfl) rfl id
    all_goals cases h.1

/-! ## running to the end of the frame -/

section K
variable {S : ScanI} {U : List Atom} {n : Nat} {e : Bool} {k k1 pc pc' E E' c c' : Nat} {ret : Nat → Array Nat → Bool × St}
  {sv : Array Nat} {res : Option (Nat × Caps)}

theorem RunsK.mono (h : RunsK n e S U k1 pc E c sv ret res) (hk : k ≤ k1) : RunsK n e S U k pc E c sv ret res :=
  Returns.after (SaveOK.refl _ _) hk h

theorem RunsK.done {pcR : Nat} (hterm : IsTerm S U pc pcR) (hc : c < 4294967296) :
    RunsK n e S U k pc 0 c sv (retAt pcR) (Kont.done c) :=
  ⟨sv, .inl (hterm c sv), SaveOK.refl _ _, Writes.nil _, hc⟩

theorem RunsK.done_cut {pcR : Nat} (he : e = true) (hU : U.length ≤ pc) (hn : n ≤ pc) (hc : c < 4294967296) :
    RunsK n e S U k pc 0 c sv (retAt pcR) (Kont.done c) :=
  ⟨sv, .inr ⟨he, by rw [execT_none (List.getElem?_eq_none_iff.2 hU)]; exact ⟨hn, rfl, rfl⟩⟩, SaveOK.refl _ _,
    Writes.nil _, hc⟩

theorem RunsK.seq {len1 E' : Nat} {pend' : Option Nat} {resIt : Option (Nat × Caps)} {res2 : Nat → Option (Nat × Caps)}
    (h1 : RunsP S U k pc len1 E c sv pend' E' resIt) (hk : k ≤ k1) (hs1 : CapsIn k k1 resIt)
    (h2 : ∀ c0 sv1, c0 < 4294967296 → RunsK n e S U k1 (pc + len1) E' c0 sv1 ret (res2 (cur pend' E' c0))) :
    RunsK n e S U k pc E c sv ret (bindK resIt res2) := by
  match resIt, h1, hs1 with
  | none, h1, _ => exact h1
  | some (c1, w1), ⟨c0, sv1, he1, hcur, hc0, ho1, hw1⟩, hs1 =>
    unfold RunsK
    rw [he1]
    exact Returns.addCaps ho1 hk hw1 (hs1 c1 w1 rfl) (hcur ▸ h2 c0 sv1 hc0)

end K

/-! ## compiler correctness, case by case -/

/-- the statement for a sequence whose code stands at `pc` and ends at `q`: `e` says that the code is cut there or in front of
it, `ef` the same of the end of the frame the sequence lies in — a last alternative ends in front of its frame's end — so that a
run of the frame may end at the cut (`Ends`).
`exec_many` needs `RetTrue ret`; the other disjunct — none of the `[a-b]` looks beyond the sequence — is what
allows an arbitrary `ret`, i.e. the equation `Runs` about a piece of code whatever follows it (`alts_runs`). -/
def SeqOK (S : ScanI) (F : List Atom) (n : Nat) (items : List Item) : Prop :=
  ∀ (k d : Nat) (pend : Option Nat) (E pc q c : Nat) (sv : Array Nat) (ret : Nat → Array Nat → Bool × St) (e ef : Bool)
    (κ : Kont),
    wfItems d items = true → At F pc (comp k pend items) → q = pc + (comp k pend items).length →
    PendGood pend E → c < 4294967296 → (e = true ↔ n ≤ q) → (e = true → ef = true) →
    (scopeOK false items = true ∨ RetTrue ret) →
    (∀ c1 sv1, c1 < 4294967296 → RunsK n ef S (F.take n) (slotsItems k items) q 0 c1 sv1 ret (κ c1)) →
    RunsK n ef S (F.take n) k pc E c sv ret (semI S k (dropTrailing e items) (cur pend E c) κ)

/-- the same for the alternatives of a `( | )`: their code begins with `Case` or `Nop`, so no `Skip` is pending -/
def AltsOK (S : ScanI) (F : List Atom) (n : Nat) (bodies : List (List Item)) : Prop :=
  ∀ (k d pc q c : Nat) (sv : Array Nat) (ret : Nat → Array Nat → Bool × St) (e ef : Bool) (κ : Kont), bodies ≠ [] →
    wfAlts d bodies = true → At F pc (compAlts k bodies) → q = pc + (compAlts k bodies).length →
    c < 4294967296 → (e = true ↔ n ≤ q) → (e = true → ef = true) → (scopeOKAlts false bodies = true ∨ RetTrue ret) →
    (∀ c1 sv1, c1 < 4294967296 → RunsK n ef S (F.take n) (slotsAlts k bodies) q 0 c1 sv1 ret (κ c1)) →
    RunsK n ef S (F.take n) k pc 0 c sv ret (semAltsI S k (dropTrailingAlts e bodies) c κ)

section Cases
variable {S : ScanI} (hS : S.WF) {F : List Atom} {n : Nat} (hcut : Cut F n)
  (hB : BytesOK F) (hC : Coherent S)
  {it : Item} {r : List Item} {k k' d pc pc' q E E' c : Nat} {ret : Nat → Array Nat → Bool × St} {pend pend' : Option Nat}
  {sv : Array Nat} {e ef : Bool} {κ : Kont}

theorem SeqOK.rest (ih : SeqOK S F n r) {pre : List Atom}
    (hcomp : comp k pend (it :: r) = pre ++ comp (slotsItem k it) pend' r)
    (hwf : wfItems d (it :: r) = true) (hA : At F pc (comp k pend (it :: r)))
    (hq : q = pc + (comp k pend (it :: r)).length) (he : e = true ↔ n ≤ q) (hef : e = true → ef = true)
    (hret : scopeOK false (it :: r) = true ∨ RetTrue ret)
    (hκ : ∀ c1 sv1, c1 < 4294967296 → RunsK n ef S (F.take n) (slotsItems k (it :: r)) q 0 c1 sv1 ret (κ c1))
    {c1 : Nat} (sv1 : Array Nat) (hg : PendGood pend' E') (hc1 : c1 < 4294967296) :
    RunsK n ef S (F.take n) (slotsItem k it) (pc + pre.length) E' c1 sv1 ret
      (semI S (slotsItem k it) (dropTrailing e r) (cur pend' E' c1) κ) := by
  rw [hcomp] at hA hq
  rw [slotsItems] at hκ
  exact ih _ d pend' E' _ q c1 sv1 ret e ef κ (wf_cons hwf).2 hA.right (by rw [hq, add_length_append]) hg hc1 he hef
    (hret.imp_left scopeOK_tail) hκ

include hcut

theorem SeqOK.beyond {items : List Item} (hwf : wfItems d items = true) (hA : At F pc (comp k pend items))
    (hq : q = pc + (comp k pend items).length) (hc : c < 4294967296) (he : e = true ↔ n ≤ q) (hef : e = true → ef = true)
    (hκ : ∀ c1 sv1, c1 < 4294967296 → RunsK n ef S (F.take n) (slotsItems k items) q 0 c1 sv1 ret (κ c1)) (hn : n ≤ pc) :
    RunsK n ef S (F.take n) k pc E c sv ret (semI S k (dropTrailing e items) (cur pend E c) κ) := by
  have hnq : n ≤ q := hq ▸ Nat.le_trans hn (Nat.le_add_right _ _)
  obtain rfl := he.2 hnq
  obtain ⟨hsl, c', hc', hsem⟩ := semI_trailing S κ items k (cur pend E c)
    (trailing_of_comp items d k pend hwf (hcut.red_of_le hA hn))
  rw [hsem]
  exact RunsK.of_beyond (List.length_take_le _ _) (hef rfl) (hsl ▸ hκ c' sv (hc' (cur_lt hc))) hnq (st := ⟨pc, c, sv⟩) hn rfl _ _

include hS

theorem seqOK_nil : SeqOK S F n [] := by
  intro k d pend E pc q c sv ret e ef κ hwf hA hq hg hc he hef _ hκ
  by_cases hn : n ≤ pc
  · exact SeqOK.beyond hcut hwf hA hq hc he hef hκ hn
  rw [comp] at hA hq
  rw [dropTrailing, semI]
  exact RunsK.of_eq (run_flush hS (hcut.take_red hA (flush_redundant pend) hn) hg) (hq ▸ hκ _ sv (cur_lt hc))

theorem seqOK_plain (hp : plain it = true) (ih : SeqOK S F n r) : SeqOK S F n (it :: r) := by
  intro k d pend E pc q c sv ret e ef κ hwf hA hq hg hc he hef hret hκ
  by_cases hn : n ≤ pc
  · exact SeqOK.beyond hcut hwf hA hq hc he hef hκ hn
  rw [comp_cons] at hA hq
  rw [slotsItems] at hκ
  obtain ⟨E', hg', hrun⟩ := plain_runs hS (sv := sv) hp (wf_cons hwf).1 (plain_take hcut hp (wf_cons hwf).1 hA.left hn) hg hc
  rw [dropTrailing_plain e r hp, semI_plain S k _ _ κ hp]
  exact RunsK.seq hrun (slotsItem_le k it) (semItem_slots S k it _) fun c0 sv1 hc0 =>
    ih _ d _ E' _ q c0 sv1 ret e ef κ (wf_cons hwf).2 hA.right (by rw [hq, add_length_append]) hg' hc0 he hef
      (hret.imp_left scopeOK_tail) hκ

include hB hC

theorem seqOK_range {a b : Nat} (ih : SeqOK S F n r) : SeqOK S F n (.range a b :: r) := by
  intro k d pend E pc q c sv ret e ef κ hwf hA hq hg hc he hef hret hκ
  by_cases hn : n ≤ pc
  · exact SeqOK.beyond hcut hwf hA hq hc he hef hκ hn
  have hrt : RetTrue ret := hret.resolve_left (by simp [scopeOK])
  have hab : a < b := by
    have := (wf_cons hwf).1
    simp only [wfItem, Bool.and_eq_true, decide_eq_true_eq] at this; exact this.1
  have hcomp := comp_range_split k pend a b r
  have hrr : ∀ c1 sv1, c1 < 4294967296 → RunsK n ef S (F.take n) k (pc + (rangeLo pend a).length + (rangext (b - a)).length + 1) 0
      c1 sv1 ret (semI S k (dropTrailing e r) c1 κ) := by
    intro c1 sv1 hc1
    have := ih.rest (hcomp.trans (List.append_assoc _ _ _).symm) hwf hA hq he hef hret hκ sv1 (E' := 0) rfl hc1
    simpa only [add_length_append, slotsItem, List.length_singleton, cur] using this
  rw [hcomp] at hA hq
  have hiff := cut_iff hcut (xs := [.many ((b - a) % 256)]) (List.forall_mem_singleton.2 rfl) hA.right
    (by rw [hq, add_length_append]) (wf_cons hwf).2 he
  -- the sequence begins in front of the cut, so the `Many` is not cut: the lower bound in front of it is redundant
  have hlive : ¬ n ≤ pc + (rangeLo pend a ++ rangext (b - a)).length := fun h =>
    hn (hcut.le_of_red hA.left (redundant_append (rangeLo_redundant pend a) (rangext_redundant _)) h)
  have hf : (e && r.all trailingItem) = false := Bool.eq_false_iff.2 fun h => hlive (hiff.1 h)
  have hAU : At (F.take n) pc ((rangeLo pend a ++ rangext (b - a)) ++ [.many ((b - a) % 256)]) :=
    (At.left (y := comp k none r) (by rw [List.append_assoc]; exact hA)).take
      (by rw [List.length_append, List.length_singleton]; omega)
  have hpm := hAU.right.head
  simp only [add_length_append] at hpm
  have h12 := (run_rangeLo hS hAU.left.left hg hc (sv := sv)).trans (run_rangext hS hAU.left.right)
  have h3 := execT_many hS (st := ⟨_, wadd32 (cur pend E c) a, sv⟩) (m := 0xff) (e := (b - a) / 256 * 256) hpm
  rw [Nat.div_add_mod' (b - a) 256] at h3
  simp only [Nat.sub_ne_zero_of_lt hab, if_false] at h3
  rw [dropTrailing, hf, if_neg Bool.false_ne_true, semI]
  unfold RunsK
  rw [h12, h3]
  simp only [addRva_eq_wadd32]
  cases hsl : S.slice (wadd32 (cur pend E c) a) with
  | none => exact ⟨_, rfl, SaveOK.refl _ _⟩
  | some ol =>
    exact manyT_runsK hS (fun b hb => hB b (List.mem_of_mem_take hb)) hrt hrr (min (b - a) ol.2) 0 _
      (fun j _ hj => hC _ _ _ j hsl (by omega))

omit hB hC

theorem seqOK_group {j : Jump} {gap : List UInt8} {body : List Item} (ihb : SeqOK S F n body)
    (ih : SeqOK S F n r) : SeqOK S F n (.group j gap body :: r) := by
  intro k d pend E pc q c sv ret e ef κ hwf hA hq hg hc he hef hret hκ
  by_cases hn : n ≤ pc
  · exact SeqOK.beyond hcut hwf hA hq hc he hef hκ hn
  have hwfb : wfItems (d + 1) body = true := by
    have := (wf_cons hwf).1
    simp only [wfItem, Bool.and_eq_true] at this; exact this.2
  have hcomp := comp_group_split k pend j gap body r
  have hcomp' : comp k pend (.group j gap body :: r) =
      (flush pend ++ (.push j.push :: j.atom :: (comp k none body ++ [.pop]))) ++ comp (slotsItems k body) none r := by
    rw [hcomp]; simp
  have hrest := fun sv1 => ih.rest (c1 := addRva (cur pend E c) (j.width S)) hcomp' hwf hA hq he hef hret hκ sv1 (E' := 0) rfl
    (wadd32_lt _ _)
  rw [hcomp] at hA hq
  have heb := cut_iff hcut (xs := [.pop]) (List.forall_mem_singleton.2 rfl) hA.right
    (by rw [hq, add_length_append]) (wf_cons hwf).2 he
  -- `Push` and the jump are not redundant: they and the pending `Skip` in front of them are kept
  have hAU := hcut.take_solid (x := flush pend) hA.left.left
    (y := [.push j.push, j.atom]) (by intro a ha; simp at ha; rcases ha with rfl | rfl; rfl; cases j <;> rfl) (List.cons_ne_nil _ _)
  have hAbody := hA.left.right
  have hpopF := hA.right.left.head
  simp only [add_length_append, List.length_cons, List.length_nil, Nat.zero_add, Nat.reduceAdd] at heb hAbody hpopF
  rw [dropTrailing, semI, slots_dropTrailing]
  refine RunsK.of_eq (run_flush hS hAU.left hg) (push_runsK hS (blen := (comp k none body).length)
    (g := fun t => semI S k (dropTrailing (e && r.all trailingItem) body) t Kont.done)
    (f := fun c1 => semI S (slotsItems k body) (dropTrailing e r) c1 κ) hAU.right.head
    hAU.right.tail.head (cur_lt (pend := pend) (E := E) hc) (eb := e && r.all trailingItem) ?_ (slotsItems_le k body) ?_ (fun sv1 => ?_) ?_)
  · intro t sv1 ht
    refine ihb k (d + 1) none 0 _ _ t sv1 _ (e && r.all trailingItem) _ Kont.done hwfb hAbody rfl rfl ht heb id
      (.inr fun _ _ => rfl) (fun c1 sv1 hc1 => ?_)
    cases heq : (e && r.all trailingItem) with
    | false =>
      have hlt : ¬ n ≤ _ := fun h => Bool.false_ne_true (heq ▸ heb.2 h)
      exact RunsK.done (IsTerm.pop ((List.getElem?_take_of_lt (Nat.lt_of_not_le hlt)).trans hpopF)) hc1
    | true => exact RunsK.done_cut rfl (Nat.le_trans (List.length_take_le _ _) (heb.1 heq)) (heb.1 heq) hc1
  · intro t c' w hsem
    have := semI_done_slots S k _ t c' w hsem
    rwa [slots_dropTrailing] at this
  · have := hrest sv1
    rwa [show pc + (flush pend ++ Atom.push j.push :: j.atom :: (comp k none body ++ [Atom.pop])).length
      = pc + (flush pend).length + 2 + (comp k none body).length + 1 by simp; omega] at this
  · intro heq
    have := heb.1 heq
    rw [Bool.and_eq_true] at heq
    exact ⟨hef heq.1, List.length_take_le _ _, by omega⟩

theorem seqOK_alt {bodies : List (List Item)} (ihb : AltsOK S F n bodies)
    (ih : SeqOK S F n r) : SeqOK S F n (.alt bodies :: r) := by
  intro k d pend E pc q c sv ret e ef κ hwf hA hq hg hc he hef hret hκ
  have hwfb : bodies ≠ [] ∧ wfAlts d bodies = true := by
    have := (wf_cons hwf).1
    simp only [wfItem, Bool.and_eq_true, Bool.not_eq_true', List.isEmpty_eq_false_iff] at this; exact this
  have hcomp := comp_alt_split k pend bodies r
  have hrest := fun c1 sv1 => ih.rest (c1 := c1) hcomp hwf hA hq he hef hret hκ sv1 (E' := 0) rfl
  rw [hcomp] at hA hq
  have heb := cut_iff hcut (xs := []) (fun _ h => nomatch h) hA.right
    (by rw [hq, add_length_append]; rfl) (wf_cons hwf).2 he
  rw [add_length_append] at hrest heb hq
  -- the alternatives hold an atom that is not redundant: the pending `Skip` in front of them is kept
  obtain ⟨a, ha, hra⟩ := compAlts_solid k bodies hwfb.1
  obtain ⟨i, hi⟩ := List.mem_iff_getElem?.1 ha
  have hAU := hA.left.left.take (n := n) (by have := hcut.lt_of_solid (hA.left.right i a hi) hra; omega)
  rw [dropTrailing, semI, slots_dropTrailingAlts]
  exact RunsK.of_eq (run_flush hS hAU hg)
    (ihb k d _ _ _ sv ret (e && r.all trailingItem) ef _ hwfb.1 hwfb.2 hA.left.right rfl (cur_lt hc) heb
      (fun h => hef (Bool.and_eq_true _ _ ▸ h).1) (hret.imp_left fun h => by simp only [scopeOK, Bool.false_and, Bool.and_eq_true] at h; exact h.1) hrest)

theorem altsOK_cons {b : List Item} {bs : List (List Item)} (ihb : SeqOK S F n b) (ihbs : AltsOK S F n bs) :
    AltsOK S F n (b :: bs) := by
  intro k d pc q c sv ret e ef κ _ hwf hA hq hc he hef hret hκ
  rw [wfAlts, Bool.and_eq_true] at hwf
  rw [slotsAlts] at hκ
  cases bs with
  | nil =>
    -- the last alternative: `Nop`, then the alternative continues into what follows the `)`
    simp only [compAlts] at hA hq
    simp only [dropTrailingAlts, semAltsI]
    have hnop := (List.getElem?_take_of_lt (hcut.lt_of_solid hA.head rfl)).trans hA.head
    refine RunsK.of_eq (execT_step_some hS (st := ⟨pc, c, sv⟩) hnop rfl rfl) ?_
    exact ihb k d none 0 (pc + 1) q c sv ret e ef κ hwf.1 hA.tail (by rw [hq, List.length_cons]; omega) rfl hc he hef
      (hret.imp_left fun h => by simpa only [scopeOKAlts] using h) (fun c2 sv2 hc2 => (hκ c2 sv2 hc2).mono (Nat.le_max_left _ _))
  | cons b' bs =>
    -- an earlier alternative: `Case`, the alternative as a frame of its own ended by `Break`, the others
    rw [compAlts_cons2_split] at hA hq
    have hbrkF := hA.right.left.head
    have hq' : q = pc + 1 + (comp k none b).length + 1 + (compAlts k (b' :: bs)).length := by
      rw [hq]; simp only [List.length_append, List.length_cons, List.length_nil]; omega
    have hArest := hA.right.right
    simp only [add_length_append, List.length_cons, List.length_nil, Nat.zero_add] at hbrkF hArest
    -- `Case` and `Break` are not redundant: they are kept, and the kept code does not end in front of the `Break`
    have hbrkn := hcut.lt_of_solid hbrkF rfl
    have hbrk := (List.getElem?_take_of_lt hbrkn).trans hbrkF
    have hcase := (List.getElem?_take_of_lt (hcut.lt_of_solid hA.left.left.head rfl)).trans hA.left.left.head
    have hb := ihb k d none 0 (pc + 1) _ c sv (retAt q) false false Kont.done hwf.1 hA.left.right rfl rfl hc
      ⟨fun h => (nomatch h), fun h => absurd h (Nat.not_le.2 hbrkn)⟩ id (.inr fun _ _ => rfl)
      (fun c1 sv1 hc1 => RunsK.done (hq' ▸ IsTerm.brk hbrk) hc1)
    have hcs := execT_case hS (st := ⟨pc, c, sv⟩) (m := 0xff) (e := 0) hcase
    rw [dropTrailingAlts_cons2, semAltsI_cons_ne S k _ (dropTrailingAlts_ne e (b' :: bs) (List.cons_ne_nil _ _))]
    unfold RunsK at hb ⊢
    rw [hcs]
    cases hs : semI S k (dropTrailing false b) c Kont.done with
    | some x =>
      obtain ⟨c1, w1⟩ := x
      obtain ⟨sv1, he1, hok1, hw1, hc1⟩ := hs ▸ hb
      have hq1 := semI_done_slots S k _ _ _ _ hs
      rw [slots_dropTrailing] at hq1
      simp only [he1.exact]
      exact Returns.addCaps hok1 (Nat.le_trans (slotsItems_le k b) (Nat.le_max_left _ _)) hw1
        (hq1.mono (Nat.le_refl _) (Nat.le_max_left _ _)) (hκ c1 sv1 hc1)
    | none =>
      obtain ⟨st', he1, hok1⟩ := hs ▸ hb
      simp only [he1]
      exact Returns.after hok1 (Nat.le_refl _)
        (ihbs k d _ q c st'.save ret e ef κ (List.cons_ne_nil _ _) hwf.2 hArest hq' hc he hef
          (hret.imp_left fun h => by rw [scopeOKAlts_cons2, Bool.and_eq_true] at h; exact h.2) (fun c2 sv2 hc2 => (hκ c2 sv2 hc2).mono (Nat.le_max_right _ _)))

end Cases

/-- compiler correctness; the statement is `SeqOK` / `AltsOK` -/
theorem comp_runsK_both {S : ScanI} (hS : S.WF) {F : List Atom} {n : Nat} (hcut : Cut F n)
    (hB : BytesOK F) (hC : Coherent S) :
    (∀ items : List Item, SeqOK S F n items) ∧ (∀ bodies : List (List Item), AltsOK S F n bodies) :=
  seqAltsInd (seqOK_nil hS hcut) (fun _ _ hp ih => seqOK_plain hS hcut hp ih)
    (fun _ _ _ ih => seqOK_range hS hcut hB hC ih) (fun _ _ _ _ ihb ih => seqOK_group hS hcut ihb ih)
    (fun _ _ ihb ih => seqOK_alt hS hcut ihb ih) (fun _ _ _ _ _ _ _ _ _ _ hne => absurd rfl hne) (fun _ _ ihb ihbs => altsOK_cons hS hcut ihb ihbs)

end Pelite.PatSem
