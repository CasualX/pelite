import PeliteModel.Lemmas.RelocsFold
import PeliteModel.Model.Json
import PeliteModel.Lemmas.PeHdr
/-! `ExtractsAs`: what ONE evaluation of an example image of `C14_extraction` yields; acceptance of the image and the
facts about the extracted directory are its projections. -/
namespace Pelite.Relocs

section
open Pelite.Pe

def relocGood (v : View) (want : List (Nat × Nat)) : Bool :=
  match v.baseRelocsBytes with
  | .ok data => Spec.wellFormedDir data.toList && flat data == want && flat data == Spec.decodeDir data.toList
  | _ => false

/-- The window is read off the byte LIST: indexed reads of a literal image, as `Array.extract` does them, are slow to evaluate. -/
def ExtractsAs (f : Fmt) (k : Kind) (bytes : Bytes) (base : Nat) (dd : Nat × Nat) (r : Ref)
    (want : List (Nat × Nat)) : Prop :=
  Accept f ⟨bytes, 0⟩ ∧ imageBaseField f bytes = base ∧
    (View.mk ⟨bytes, 0⟩ f k base).dataDir 5 = some dd ∧ (View.mk ⟨bytes, 0⟩ f k base).baseRelocsRef = .ok r ∧
    (let data := ((bytes.toList.drop r.off).take r.len).toArray
     Spec.wellFormedDir data.toList && flat data == want && flat data == Spec.decodeDir data.toList) = true

instance (f k bytes base dd r want) : Decidable (ExtractsAs f k bytes base dd r want) := by
  unfold ExtractsAs; infer_instance

theorem ExtractsAs.constructed {f k bytes base dd r want} (h : ExtractsAs f k bytes base dd r want) :
    fromBytes f k ⟨bytes, 0⟩ = .ok ⟨⟨bytes, 0⟩, f, k, base⟩ :=
  fromBytes_ok_of h.1 h.2.1

theorem ExtractsAs.good {f k bytes base dd r want} (h : ExtractsAs f k bytes base dd r want) :
    (View.mk ⟨bytes, 0⟩ f k base).dataDir 5 = some dd ∧ (View.mk ⟨bytes, 0⟩ f k base).baseRelocsRef = .ok r ∧
      relocGood ⟨⟨bytes, 0⟩, f, k, base⟩ want = true := by
  obtain ⟨-, -, hdd, hr, hgood⟩ := h
  refine ⟨hdd, hr, ?_⟩
  unfold relocGood View.baseRelocsBytes
  simp only [hr, View.b, extract_eq_window, Nat.add_sub_cancel_left]
  exact hgood

end

end Pelite.Relocs
