import PeliteModel.Lemmas.Resources
import PeliteModel.Lemmas.Window
/-!
C12: the model against the layout relation `IsNode`.  `Rep`: an entry handed out by the code stands for a node;
`EntriesRep`: the records `entries()` hands out stand for the entries of a represented directory (equivalent to
`IsEntries`, without offsets) — on a represented tree every proof about an operation that folds over `entries()` is an
induction over it, and a walk over arbitrary bytes that succeeds builds one.  `RepLike`: the relations
through which the lookups can be followed, with the instances `Rep` and `RepC` (`Rep` with the canonical layout `Canon`).
Uniqueness, `Reach`, the traversal `readTree`.
-/
namespace Pelite.Resources
open Pelite

def storedName (r : Resources) (f : Nat) : RName :=
  if f < 0x80000000 then .id f
  else .wide (wordsAt r.sec (f % 0x80000000 + 2) (le16 r.sec (f % 0x80000000)))

theorem getName_ok {r : Resources} (hb : Aligned r) {e : DirEntry} {nm : Name} (h : e.getName r = .ok nm) :
    NameAt r e.name (storedName r e.name) ∧ nm = (storedName r e.name).toName := by
  rw [getName_eq hb] at h
  unfold storedName
  by_cases c0 : e.name < 0x80000000
  · rw [if_pos c0] at h ⊢
    cases h
    exact ⟨⟨rfl, c0⟩, rfl⟩
  · rw [if_neg c0] at h ⊢
    simp only [ite_err_eq_ok, Out.ok.injEq] at h
    obtain ⟨c1, c2, c3, rfl⟩ := h
    refine ⟨?_, rfl⟩
    unfold NameAt
    dsimp only
    rw [wordsAt_length]
    exact ⟨by omega, by omega, by omega, rfl, rfl⟩

theorem getName_of_nameAt {r : Resources} (hb : Aligned r) {e : DirEntry} {nm : RName} (h : NameAt r e.name nm) :
    e.getName r = .ok nm.toName := by
  rw [getName_eq hb]
  cases nm with
  | id n =>
    obtain ⟨h1, h2⟩ := h
    rw [if_pos (by omega), h1]; rfl
  | wide ws =>
    obtain ⟨h1, h2, h3, h4, h5⟩ := h
    rw [if_neg (by omega), if_neg (by omega), if_neg (by omega), if_neg (by omega), h4]
    show Out.ok (Name.wide _) = Out.ok (Name.wide ws)
    rw [← h5]

theorem nameAt_unique {r : Resources} {f : Nat} {a b : RName} (ha : NameAt r f a) (hb : NameAt r f b) : a = b := by
  cases a with
  | id n =>
    cases b with
    | id m => obtain ⟨h1, _⟩ := ha; obtain ⟨h2, _⟩ := hb; rw [← h1, ← h2]
    | wide ws => obtain ⟨h1, h1'⟩ := ha; obtain ⟨h2, _⟩ := hb; omega
  | wide ws =>
    cases b with
    | id m => obtain ⟨h1, _⟩ := ha; obtain ⟨h2, h2'⟩ := hb; omega
    | wide vs =>
      obtain ⟨_, _, _, h4, h5⟩ := ha
      obtain ⟨_, _, _, g4, g5⟩ := hb
      have : ws.length = vs.length := by omega
      rw [h5, g5, this]

theorem data_of_isNode {r : Resources} (hb : Aligned r) {off : Nat} {c : List UInt8} {cp : Nat}
    (h : IsNode r off (.data c cp)) :
    dataTryFrom r off = .ok ⟨off, le32 r.sec off, le32 r.sec (off + 4), le32 r.sec (off + 8)⟩ ∧
    DataEntry.bytes r ⟨off, le32 r.sec off, le32 r.sec (off + 4), le32 r.sec (off + 8)⟩ =
      .ok ⟨le32 r.sec off - r.dirVA, le32 r.sec (off + 4), 1⟩ ∧
    c = bytesAt r.sec (le32 r.sec off - r.dirVA) (le32 r.sec (off + 4)) ∧ cp = le32 r.sec (off + 8) := by
  unfold IsNode at h
  obtain ⟨h1, h2, h3, h4, h5, h6, h7⟩ := h
  refine ⟨?_, ?_, h6, h7⟩
  · rw [dataTryFrom_eq hb, if_neg (by omega), if_neg (by omega)]
  · unfold DataEntry.bytes
    dsimp only
    rw [if_neg (by omega), if_neg (by omega), if_neg (by omega)]

theorem dir_of_isNode {r : Resources} (hb : Aligned r) {off n : Nat} {es : Entries}
    (h : IsNode r off (.dir n es)) :
    dirTryFrom r off = .ok ⟨off, n, es.length - n⟩ ∧ DirOK r ⟨off, n, es.length - n⟩ ∧ n ≤ es.length ∧
    IsEntries r (off + 16) es := by
  unfold IsNode at h
  obtain ⟨h1, h2, h3, h4, h5⟩ := h
  have h6 : le16 r.sec (off + 14) = es.length - n := by omega
  refine ⟨?_, ⟨h1, ?_, h3.symm, h6.symm⟩, by omega, h5⟩
  · rw [dirTryFrom_eq hb, if_neg (by omega), if_neg (by omega), if_neg (by omega), h3, h6]
  · show off + 16 + 8 * (n + (es.length - n)) ≤ r.sec.size
    omega

def Rep (r : Resources) : Entry → Node → Prop
  | .dir d, .dir n es => d = ⟨d.off, n, es.length - n⟩ ∧ IsNode r d.off (.dir n es)
  | .data de, .data c cp =>
    de = ⟨de.off, le32 r.sec de.off, le32 r.sec (de.off + 4), le32 r.sec (de.off + 8)⟩ ∧ IsNode r de.off (.data c cp)
  | _, _ => False

def RepDir (r : Resources) (d : Dir) (t : Node) : Prop := Rep r (.dir d) t
def RepData (r : Resources) (de : DataEntry) (t : Node) : Prop := Rep r (.data de) t
def RepBytes (r : Resources) (ref : Ref) (t : Node) : Prop :=
  ∃ c cp, t = .data c cp ∧ ref.off + ref.len ≤ r.sec.size ∧ ref.len = c.length ∧ bytesAt r.sec ref.off ref.len = c

def Entry.off : Entry → Nat
  | .dir d => d.off
  | .data de => de.off

theorem entry_off {r : Resources} (hb : Aligned r) {e : DirEntry} {en : Entry} (h : e.entry r = .ok en) :
    en.off = e.offset % 0x80000000 := by
  cases en with
  | dir d => exact (entry_dir_ok hb h).2.2
  | data de =>
    obtain ⟨h1, h2⟩ := entry_data_ok h
    obtain ⟨_, _, rfl⟩ := dataTryFrom_ok hb h2
    exact (Nat.mod_eq_of_lt h1).symm

theorem Rep.isNode {r : Resources} : ∀ {en : Entry} {t : Node}, Rep r en t → IsNode r en.off t
  | .dir _, .dir .., h => h.2
  | .data _, .data .., h => h.2
  | .dir _, .data .., h => h.elim
  | .data _, .dir .., h => h.elim

theorem data_ok {r : Resources} (hb : Aligned r) {off : Nat} {de : DataEntry} {ref : Ref}
    (h1 : dataTryFrom r off = .ok de) (h2 : de.bytes r = .ok ref) :
    Rep r (.data de) (.data (bytesAt r.sec ref.off ref.len) de.codePage) := by
  obtain ⟨c1, c2, rfl⟩ := dataTryFrom_ok hb h1
  unfold DataEntry.bytes at h2
  simp only [ite_err_eq_ok, Out.ok.injEq] at h2
  obtain ⟨d1, d2, d3, rfl⟩ := h2
  refine ⟨rfl, ?_⟩
  show IsNode r off _
  unfold IsNode
  exact ⟨by omega, by omega, by omega, by omega, by omega, rfl, rfl⟩

theorem entry_rep {r : Resources} (hb : Aligned r) {pos : Nat} {ch : Node}
    (hkind : 0x80000000 ≤ le32 r.sec (pos + 4) ↔ ch.isDir = true)
    (hnode : IsNode r (le32 r.sec (pos + 4) % 0x80000000) ch) :
    ∃ en, (entryAt r pos).entry r = .ok en ∧ Rep r en ch := by
  cases ch with
  | dir n ces =>
    have hge : (entryAt r pos).offset ≥ 0x80000000 := hkind.2 rfl
    exact ⟨_, entry_eq_ok.2 (.inl ⟨hge, _, (dir_of_isNode hb hnode).1, rfl⟩), rfl, hnode⟩
  | data c cp =>
    have hlt : (entryAt r pos).offset < 0x80000000 := Nat.lt_of_not_le fun hc => Bool.noConfusion (hkind.1 hc)
    rw [show le32 r.sec (pos + 4) = (entryAt r pos).offset from rfl, Nat.mod_eq_of_lt hlt] at hnode
    exact ⟨_, entry_eq_ok.2 (.inr ⟨hlt, _, (data_of_isNode hb hnode).1, rfl⟩), rfl, hnode⟩

inductive EntriesRep (r : Resources) (R : Entry → Node → Prop) : List DirEntry → Entries → Prop
  | nil : EntriesRep r R [] .nil
  | cons {e : DirEntry} {l : List DirEntry} {nm : RName} {ch : Node} {rest : Entries} {en : Entry} :
      NameAt r e.name nm → e.entry r = .ok en → R en ch → EntriesRep r R l rest →
      EntriesRep r R (e :: l) (.cons nm ch rest)

theorem isEntries_rep {r : Resources} (hb : Aligned r) : ∀ (es : Entries) (pos : Nat), IsEntries r pos es →
    EntriesRep r (Rep r) (entriesFrom r pos es.length) es
  | .nil, _, _ => .nil
  | .cons nm ch rest, pos, h => by
    unfold IsEntries at h
    obtain ⟨en, he, hrep⟩ := entry_rep hb h.2.1 h.2.2.1
    exact .cons (e := entryAt r pos) h.1 he hrep (isEntries_rep hb rest (pos + 8) h.2.2.2)

theorem RepDir.isEntries {r : Resources} (hb : Aligned r) {d : Dir} {n : Nat} {es : Entries} (h : RepDir r d (.dir n es)) :
    d.entries r = .ok (entriesFrom r (d.off + 16) es.length) ∧ IsEntries r (d.off + 16) es := by
  obtain ⟨hd, hnode⟩ := h
  obtain ⟨_, hok, hle, hents⟩ := dir_of_isNode hb hnode
  refine ⟨?_, hents⟩
  rw [hd, entries_eq hb hok]
  show Out.ok (entriesFrom r (d.off + 16) (n + (es.length - n))) = _
  rw [show n + (es.length - n) = es.length by omega]

theorem RepDir.entries {r : Resources} (hb : Aligned r) {d : Dir} {n : Nat} {es : Entries} (h : RepDir r d (.dir n es)) :
    ∃ l, d.entries r = .ok l ∧ EntriesRep r (Rep r) l es :=
  ⟨_, (h.isEntries hb).1, isEntries_rep hb es _ (h.isEntries hb).2⟩

theorem EntriesRep.isEntries {r : Resources} (hb : Aligned r) : ∀ {n pos : Nat} {es : Entries},
    EntriesRep r (Rep r) (entriesFrom r pos n) es → es.length = n ∧ IsEntries r pos es
  | 0, _, _, h => by cases h; exact ⟨rfl, trivial⟩
  | n + 1, pos, _, h => by
    cases h with
    | @cons _ _ nm ch rest en hname hentry hrep hrest =>
      obtain ⟨hl, hr⟩ := EntriesRep.isEntries hb hrest
      have hnode := hrep.isNode
      rw [entry_off hb hentry] at hnode
      refine ⟨by rw [Entries.length, hl], ?_⟩
      unfold IsEntries
      refine ⟨hname, ?_, hnode, hr⟩
      -- the high bit of the Offset field says which of the two `try_from`s `entry()` called
      rcases entry_eq_ok.1 hentry with ⟨hge, d, _, rfl⟩ | ⟨hlt, de, _, rfl⟩
      · cases ch with
        | data _ _ => exact hrep.elim
        | dir _ _ => exact ⟨fun _ => rfl, fun _ => hge⟩
      · cases ch with
        | dir _ _ => exact hrep.elim
        | data _ _ => exact ⟨fun h => absurd h (Nat.not_le.2 hlt), fun h => nomatch h⟩

theorem RepDir.of_entries {r : Resources} (hb : Aligned r) {d : Dir} (hd : DirOK r d) {es : Entries}
    (h : EntriesRep r (Rep r) (entriesFrom r (d.off + 16) (d.named + d.ids)) es) : RepDir r d (.dir d.named es) := by
  obtain ⟨hl, he⟩ := h.isEntries hb
  obtain ⟨h1, h2, h3, h4⟩ := hd
  refine ⟨by cases d; simp only [Dir.mk.injEq, true_and]; simp only at hl; omega, ?_⟩
  unfold IsNode
  exact ⟨h1, by omega, h3.symm, by omega, he⟩

theorem Rep.dir_inv {r : Resources} {en : Entry} {n : Nat} {es : Entries} (h : Rep r en (.dir n es)) :
    ∃ d, en = .dir d ∧ RepDir r d (.dir n es) := by
  cases en with
  | dir d => exact ⟨d, rfl, h⟩
  | data _ => exact h.elim

theorem Rep.data_inv {r : Resources} (hb : Aligned r) {en : Entry} {c : List UInt8} {cp : Nat} (h : Rep r en (.data c cp)) :
    ∃ de ref, en = .data de ∧ de.bytes r = .ok ref ∧ bytesAt r.sec ref.off ref.len = c ∧ de.codePage = cp := by
  cases en with
  | dir _ => exact h.elim
  | data de =>
    obtain ⟨_, h2, h3, h4⟩ := data_of_isNode hb h.2
    rw [← h.1] at h2
    exact ⟨de, _, rfl, h2, h3.symm, by rw [h.1]; exact h4.symm⟩

theorem RepData.bytes {r : Resources} (hb : Aligned r) {de : DataEntry} {c : List UInt8} {cp : Nat} (h : RepData r de (.data c cp)) :
    ∃ ref, de.bytes r = .ok ref ∧ bytesAt r.sec ref.off ref.len = c ∧ RepBytes r ref (.data c cp) := by
  obtain ⟨_, ref, hde, hbytes, hc, _⟩ := Rep.data_inv hb h
  cases hde
  exact ⟨ref, hbytes, hc, c, cp, rfl, (bytes_bound hbytes).1, by rw [← hc, bytesAt_length], hc⟩

theorem root_rep {r : Resources} (hb : Aligned r) {t : Node} (h : IsTree r t) : ∃ d, root r = .ok d ∧ RepDir r d t := by
  obtain ⟨hdir, hnode⟩ := h
  cases t with
  | data c cp => cases hdir
  | dir n es => exact ⟨_, (dir_of_isNode hb hnode).1, rfl, hnode⟩

structure RepLike (r : Resources) (R : Entry → Node → Prop) : Prop where
  rep : ∀ {en t}, R en t → Rep r en t
  entries : ∀ {d n es}, R (.dir d) (.dir n es) → ∃ l, d.entries r = .ok l ∧ EntriesRep r R l es

theorem repLike_rep {r : Resources} (hb : Aligned r) : RepLike r (Rep r) := ⟨id, fun h => RepDir.entries hb h⟩

/-! ### canonical layout: the writer puts the content of a data entry right behind it -/

mutual
def Canon (r : Resources) : Nat → Node → Prop
  | off, .data _ _ => le32 r.sec off = r.dirVA + off + 16 ∧ off % 4 = 0
  | off, .dir _ es => CanonEntries r (off + 16) es
def CanonEntries (r : Resources) : Nat → Entries → Prop
  | _, .nil => True
  | pos, .cons _ ch rest => Canon r (le32 r.sec (pos + 4) % 0x80000000) ch ∧ CanonEntries r (pos + 8) rest
end

def RepC (r : Resources) (en : Entry) (t : Node) : Prop := Rep r en t ∧ Canon r en.off t

theorem entriesRep_canon {r : Resources} (hb : Aligned r) : ∀ {n : Nat} {pos : Nat} {es : Entries},
    EntriesRep r (Rep r) (entriesFrom r pos n) es → CanonEntries r pos es → EntriesRep r (RepC r) (entriesFrom r pos n) es
  | 0, _, _, h, _ => by cases h; exact .nil
  | n + 1, pos, _, h, hc => by
    cases h with
    | cons hname hentry hrep hrest =>
      unfold CanonEntries at hc
      exact .cons hname hentry ⟨hrep, by rw [entry_off hb hentry]; exact hc.1⟩ (entriesRep_canon hb hrest hc.2)

theorem repLike_repC {r : Resources} (hb : Aligned r) : RepLike r (RepC r) where
  rep h := h.1
  entries {d n es} h := by
    have hc : CanonEntries r (d.off + 16) es := by have := h.2; unfold Canon at this; exact this
    exact ⟨_, (RepDir.isEntries hb h.1).1, entriesRep_canon hb (isEntries_rep hb es _ (RepDir.isEntries hb h.1).2) hc⟩

theorem RepC.bytes {r : Resources} (hb : Aligned r) {de : DataEntry} {c : List UInt8} {cp : Nat} (h : RepC r (.data de) (.data c cp)) :
    de.bytes r = .ok ⟨de.off + 16, c.length, 1⟩ ∧ de.off % 4 = 0 := by
  obtain ⟨⟨hde, hnode⟩, hc⟩ := h
  obtain ⟨_, h2, h3, _⟩ := data_of_isNode hb hnode
  have hc' : le32 r.sec de.off = r.dirVA + de.off + 16 ∧ de.off % 4 = 0 := hc
  have hlen : le32 r.sec (de.off + 4) = c.length := by rw [h3, bytesAt_length]
  rw [← hde, hc'.1, show r.dirVA + de.off + 16 - r.dirVA = de.off + 16 by omega, hlen] at h2
  exact ⟨h2, hc'.2⟩

/-! ### the represented tree is unique

Whether a node is a directory is not stored at its offset but in the high bit of the parent's entry,
hence the hypothesis `t1.isDir = t2.isDir` (supplied by `IsEntries`, resp. `IsTree` at the root). -/

mutual
theorem isNode_unique {r : Resources} : ∀ (t1 t2 : Node) (off : Nat), IsNode r off t1 → IsNode r off t2 →
    t1.isDir = t2.isDir → t1 = t2
  | .data c1 cp1, .data c2 cp2, off, h1, h2, _ => by
    unfold IsNode at h1 h2
    obtain ⟨_, _, _, _, _, a6, a7⟩ := h1
    obtain ⟨_, _, _, _, _, b6, b7⟩ := h2
    rw [a6, a7, b6, b7]
  | .data .., .dir .., _, _, _, hk => by cases hk
  | .dir .., .data .., _, _, _, hk => by cases hk
  | .dir n1 es1, .dir n2 es2, off, h1, h2, _ => by
    unfold IsNode at h1 h2
    obtain ⟨_, _, a3, a4, a5⟩ := h1
    obtain ⟨_, _, b3, b4, b5⟩ := h2
    have hn : n1 = n2 := by rw [← a3, ← b3]
    have hl : es1.length = es2.length := by omega
    rw [hn, isEntries_unique es1 es2 (off + 16) a5 b5 hl]
theorem isEntries_unique {r : Resources} : ∀ (es1 es2 : Entries) (pos : Nat), IsEntries r pos es1 → IsEntries r pos es2 →
    es1.length = es2.length → es1 = es2
  | .nil, .nil, _, _, _, _ => rfl
  | .nil, .cons .., _, _, _, hl => by simp [Entries.length] at hl
  | .cons .., .nil, _, _, _, hl => by simp [Entries.length] at hl
  | .cons nm1 ch1 rest1, .cons nm2 ch2 rest2, pos, h1, h2, hl => by
    unfold IsEntries at h1 h2
    obtain ⟨a1, a2, a3, a4⟩ := h1
    obtain ⟨b1, b2, b3, b4⟩ := h2
    have hnm := nameAt_unique a1 b1
    have hkind : ch1.isDir = ch2.isDir := by
      by_cases hc : 0x80000000 ≤ le32 r.sec (pos + 4)
      · rw [a2.1 hc, b2.1 hc]
      · have e1 : ch1.isDir = false := by
          cases hd : ch1.isDir with
          | false => rfl
          | true => exact absurd (a2.2 hd) hc
        have e2 : ch2.isDir = false := by
          cases hd : ch2.isDir with
          | false => rfl
          | true => exact absurd (b2.2 hd) hc
        rw [e1, e2]
    have hch := isNode_unique ch1 ch2 _ a3 b3 hkind
    have hrest := isEntries_unique rest1 rest2 (pos + 8) a4 b4 (by simp only [Entries.length] at hl; omega)
    rw [hnm, hch, hrest]
end

theorem isTree_unique {r : Resources} {t1 t2 : Node} (h1 : IsTree r t1) (h2 : IsTree r t2) : t1 = t2 :=
  isNode_unique t1 t2 0 h1.2 h2.2 (by rw [h1.1, h2.1])

/-! ### reachability in the stored graph -/

/-- the directory stored at offset `a` has an entry that designates a sub-directory at offset `b` -/
def SubDirAt (r : Resources) (a b : Nat) : Prop :=
  ∃ i, i < le16 r.sec (a + 12) + le16 r.sec (a + 14) ∧ b < 0x80000000 ∧
    le32 r.sec (a + 16 + 8 * i + 4) = 0x80000000 + b

inductive Reach (r : Resources) : Nat → Nat → Nat → Prop
  | refl (a : Nat) : Reach r a 0 a
  | step {a n b c : Nat} : Reach r a n b → SubDirAt r b c → Reach r a (n + 1) c

theorem isEntries_get {r : Resources} : ∀ (es : Entries) (pos i : Nat), IsEntries r pos es → i < es.length →
    ∃ ch : Node, (0x80000000 ≤ le32 r.sec (pos + 8 * i + 4) ↔ ch.isDir = true) ∧
      IsNode r (le32 r.sec (pos + 8 * i + 4) % 0x80000000) ch ∧ ch.depth ≤ es.depth
  | .nil, _, _, _, hi => by simp [Entries.length] at hi
  | .cons nm ch rest, pos, i, h, hi => by
    unfold IsEntries at h
    obtain ⟨_, hkind, hnode, hrest⟩ := h
    cases i with
    | zero => exact ⟨ch, hkind, hnode, by simp only [Entries.depth]; omega⟩
    | succ i =>
      simp only [Entries.length] at hi
      obtain ⟨c, h1, h2, h3⟩ := isEntries_get rest (pos + 8) i hrest (by omega)
      have e : pos + 8 + 8 * i + 4 = pos + 8 * (i + 1) + 4 := by omega
      rw [e] at h1 h2
      exact ⟨c, h1, h2, by simp only [Entries.depth]; omega⟩

theorem subDir_isNode {r : Resources} {a b n : Nat} {es : Entries} (h : IsNode r a (.dir n es)) (hs : SubDirAt r a b) :
    ∃ n' es', IsNode r b (.dir n' es') ∧ es'.depth + 1 ≤ es.depth := by
  obtain ⟨i, hi, hb31, hf⟩ := hs
  unfold IsNode at h
  obtain ⟨_, _, h3, h4, h5⟩ := h
  obtain ⟨ch, h1, h2, hdep⟩ := isEntries_get es (a + 16) i h5 (by omega)
  rw [hf] at h1 h2
  have hmod : (0x80000000 + b) % 0x80000000 = b := by omega
  rw [hmod] at h2
  have hdir : ch.isDir = true := h1.1 (by omega)
  cases ch with
  | data c cp => cases hdir
  | dir n' es' => exact ⟨n', es', h2, by simp only [Node.depth] at hdep; omega⟩

theorem reach_isNode {r : Resources} {a n b : Nat} (hr : Reach r a n b) :
    ∀ {m : Nat} {es : Entries}, IsNode r a (.dir m es) →
      ∃ m' es', IsNode r b (.dir m' es') ∧ es'.depth + n ≤ es.depth := by
  induction hr with
  | refl => intro m es h; exact ⟨m, es, h, by omega⟩
  | step _ hs ih =>
    intro m es h
    obtain ⟨m1, es1, h1, d1⟩ := ih h
    obtain ⟨m2, es2, h2, d2⟩ := subDir_isNode h1 hs
    exact ⟨m2, es2, h2, by omega⟩

/-- going round the cycle gives a strictly shallower tree at the same offset, but the represented tree is unique -/
theorem no_self_reach {r : Resources} {a n m : Nat} {es : Entries} (hr : Reach r a (n + 1) a) : ¬ IsNode r a (.dir m es) := fun h => by
  obtain ⟨m', es', h1, h2⟩ := reach_isNode hr h
  cases isNode_unique _ _ a h h1 rfl
  omega

theorem reach_isTree {r : Resources} {t : Node} (h : IsTree r t) {n b : Nat} (hr : Reach r 0 n b) :
    n < t.depth ∧ (∃ m es, IsNode r b (.dir m es)) ∧ ∀ k, ¬ Reach r b (k + 1) b := by
  obtain ⟨hdir, hnode⟩ := h
  cases t with
  | data c cp => cases hdir
  | dir m es =>
    obtain ⟨m', es', h1, h2⟩ := reach_isNode hr hnode
    exact ⟨by simp only [Node.depth]; omega, ⟨m', es', h1⟩, fun k hk => no_self_reach hk h1⟩

/-! ### full traversal of a represented tree -/

theorem toName_toRName (nm : RName) : nm.toName.toRName = nm := by cases nm <;> rfl

mutual
theorem readDir_complete {r : Resources} (hb : Aligned r) : ∀ (t : Node) (k : Nat) (d : Dir), RepDir r d t → t.depth ≤ k →
    readDir r k d = .ok t
  | .data .., _, _, h, _ => h.elim
  | .dir n es, 0, _, _, hdep => by simp [Node.depth] at hdep
  | .dir n es, k+1, d, hd, hdep => by
    obtain ⟨l, hl, hrep⟩ := hd.entries hb
    rw [readDir, hl]
    dsimp only
    rw [readEntries_complete hb es k l hrep (by simp only [Node.depth] at hdep; omega), hd.1]
theorem readEntries_complete {r : Resources} (hb : Aligned r) : ∀ (es : Entries) (k : Nat) (l : List DirEntry),
    EntriesRep r (Rep r) l es → es.depth ≤ k → readEntries (readDir r k) r l = .ok es
  | .nil, _, _, .nil, _ => rfl
  | .cons nm ch rest, k, _, .cons hname hentry hrep hrest, hdep => by
    simp only [Entries.depth] at hdep
    rw [readEntries, getName_of_nameAt hb hname, hentry]
    cases ch with
    | dir n ces =>
      obtain ⟨d, rfl, hd⟩ := hrep.dir_inv
      dsimp only
      rw [readDir_complete hb (.dir n ces) k d hd (by omega)]
      dsimp only
      rw [readEntries_complete hb rest k _ hrest (by omega), toName_toRName]
    | data c cp =>
      obtain ⟨de, ref, rfl, hbytes, hc, hcp⟩ := hrep.data_inv hb
      dsimp only
      rw [hbytes]
      dsimp only
      rw [readEntries_complete hb rest k _ hrest (by omega), toName_toRName, DataEntry.codePageOf, hc, hcp]
end

theorem readTree_of_isTree {r : Resources} (hb : Aligned r) {t : Node} (h : IsTree r t) {k : Nat} (hk : t.depth ≤ k) :
    readTree r k = .ok t := by
  obtain ⟨d, hr, hrep⟩ := root_rep hb h
  rw [readTree, hr]
  exact readDir_complete hb t k d hrep hk

end Pelite.Resources
