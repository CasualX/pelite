import PeliteModel.Model.WrapExports
import PeliteModel.Lemmas.Exports
/-! Helper lemmas for the format agnostic export API (`Model/WrapExports.lean`, theorems in `Thm/C19Wrap.lean`): what
`Wrap.get` undoes. -/
namespace Pelite.Exports
open Pelite.Pe

/-- `c` is `Wrap.t32` or `Wrap.t64` -/
theorem mapOut_get_wrap {α} (c : α → Wrap α) (hc : ∀ a, (c a).get = a) (o : Out α) :
    mapOut Wrap.get (o.bind fun a => .ok (c a)) = o := by
  cases o with
  | ok a => exact congrArg Out.ok (hc a)
  | _ => rfl

theorem wExportsBy_get (w : WExports) : mapOut Wrap.get w.by = w.get.by := by
  cases w with
  | t32 e => exact mapOut_get_wrap .t32 (fun _ => rfl) e.by
  | t64 e => exact mapOut_get_wrap .t64 (fun _ => rfl) e.by

/-- both arms of `exports()` / `by()` wrap what the format specific call answers -/
theorem wExports_by_wrap (c : Exports → WExports) (hc : ∀ e, mapOut Wrap.get (c e).by = e.by ∧ (c e).get = e)
    (o : Out Exports) :
    mapOut Wrap.get (o.bind fun e => .ok (c e)) = o ∧
    mapOut Wrap.get ((o.bind fun e => .ok (c e)).bind WExports.by) = o.bind Exports.by := by
  cases o with
  | ok e => exact ⟨congrArg Out.ok (hc e).2, (hc e).1⟩
  | _ => exact ⟨rfl, rfl⟩

theorem wExports_ofView (v : View) :
    wExports (Wrap.ofView v) =
      match v.fmt with
      | .pe32 => (tryFrom v).bind fun e => .ok (Wrap.t32 e)
      | .pe64 => (tryFrom v).bind fun e => .ok (Wrap.t64 e) := by
  unfold Wrap.ofView
  cases v.fmt <;> rfl

end Pelite.Exports
