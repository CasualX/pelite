import PeliteModel.Lemmas.PatternSemImpl
/-!
Lemmas for the perturbation clause of C11 over the semantics the interpreter implements for every tree
(`semI` / `denoteImpl`):
* `semI_footprint` — the result of `semI` depends on the image only through the answers to the questions listed
  by `fpI` (`Spec/PatternSemImpl.lean`);
* straight-line sequences (`straight`): the literal bytes `consI` are in the footprint, hold on every accepted
  layout, and a second image that answers one of them differently (and every other question alike) is rejected.
-/
namespace Pelite.PatSem
open Pelite.Pattern Pelite.Exec

def AgreeOn (S S' : ScanI) (qs : List Query) : Prop := ∀ q ∈ qs, q.same S S'

theorem AgreeOn.left {S S' : ScanI} {l1 l2 : List Query} (h : AgreeOn S S' (l1 ++ l2)) : AgreeOn S S' l1 :=
  fun q hq => h q (List.mem_append_left _ hq)

theorem AgreeOn.right {S S' : ScanI} {l1 l2 : List Query} (h : AgreeOn S S' (l1 ++ l2)) : AgreeOn S S' l2 :=
  fun q hq => h q (List.mem_append_right _ hq)

theorem AgreeOn.head {S S' : ScanI} {q : Query} {l : List Query} (h : AgreeOn S S' (q :: l)) : q.same S S' :=
  h q (List.mem_cons_self ..)

theorem AgreeOn.tail {S S' : ScanI} {q : Query} {l : List Query} (h : AgreeOn S S' (q :: l)) : AgreeOn S S' l :=
  fun q' hq => h q' (List.mem_cons_of_mem _ hq)

theorem fpI_plain (S : ScanI) (k : Nat) {it : Item} (r : List Item) (c : Nat) (κ : Kont) (φ : Nat → List Query)
    (h : plain it = true) :
    fpI S k (it :: r) c κ φ =
      fpItem S it c ++
      match semItem S k it c with
      | none => []
      | some (c1, _) => fpI S (slotsItem k it) r c1 κ φ :=
  fpI.eq_5 S k c κ φ it r (plain_ne h).1 (plain_ne h).2.1 (plain_ne h).2.2

theorem fpAltsI_cons2 (S : ScanI) (k : Nat) (b b' : List Item) (bs : List (List Item)) (c : Nat) (κ : Kont)
    (φ : Nat → List Query) :
    fpAltsI S k (b :: b' :: bs) c κ φ =
      fpI S k b c Kont.done (fun _ => []) ++
      match semI S k b c Kont.done with
      | some (c1, _) => φ c1
      | none => fpAltsI S k (b' :: bs) c κ φ := by
  exact fpAltsI.eq_3 S k c κ φ b (b' :: bs) (by intro h; cases h)

theorem matchBytes_same {S S' : ScanI} : ∀ (bs : List Nat) (c : Nat), AgreeOn S S' (fpMatch S bs c) →
    matchBytes S' bs c = matchBytes S bs c
  | [], c, _ => by simp [matchBytes]
  | b :: bs, c, h => by
    rw [fpMatch] at h
    have h1 : S'.read 1 c = S.read 1 c := h.head
    simp only [matchBytes, h1]
    by_cases hb : S.read 1 c = some b
    · rw [if_pos hb] at h ⊢
      rw [if_pos hb]
      exact matchBytes_same bs (c + 1) h.tail
    · rw [if_neg hb, if_neg hb]

theorem target_same {S S' : ScanI} (hf : S'.fmt = S.fmt) (j : Jump) (c : Nat) (h : AgreeOn S S' (j.fp S c)) :
    j.target S' c = j.target S c := by
  cases j with
  | j1 =>
    have h1 : S'.read 1 c = S.read 1 c := h.head
    simp [Jump.target, h1]
  | j4 =>
    have h1 : S'.read 4 c = S.read 4 c := h.head
    simp [Jump.target, h1]
  | ptr =>
    simp only [Jump.fp] at h
    have h1 : S'.read S.fmt.ptrSize c = S.read S.fmt.ptrSize c := h.head
    simp only [Jump.target, hf, h1]
    cases hv : S.read S.fmt.ptrSize c with
    | none => rfl
    | some v =>
      rw [hv] at h
      have h2 : S'.pointer v = S.pointer v := h.tail.head
      simp [h2]

theorem width_same {S S' : ScanI} (hf : S'.fmt = S.fmt) (j : Jump) : j.width S' = j.width S := by
  cases j <;> simp [Jump.width, hf]

theorem semItem_same {S S' : ScanI} (hf : S'.fmt = S.fmt) (k : Nat) (it : Item) (c : Nat) (hp : plain it = true)
    (h : AgreeOn S S' (fpItem S it c)) : semItem S' k it c = semItem S k it c := by
  cases it with
  | byte b => simp only [semItem]; rw [matchBytes_same [b] c h]
  | str bs => simp only [semItem]; rw [matchBytes_same _ c h]
  | jump j => simp only [semItem]; rw [target_same hf j c h]
  | readI w | readU w =>
    have h1 : S'.read w c = S.read w c := h.head
    simp [semItem, h1]
  | range _ _ | group _ _ _ | alt _ => cases hp
  -- the remaining items do not look at the image
  | _ => rfl

theorem firstSome_same {α : Type} {S S' : ScanI} (f f' : Nat → Option α) (g : Nat → List Query)
    (hfg : ∀ j, AgreeOn S S' (g j) → f' j = f j) : ∀ (n i : Nat), AgreeOn S S' (fpFirst f g n i) →
    firstSome f' n i = firstSome f n i
  | 0, _, _ => rfl
  | n + 1, i, h => by
    rw [fpFirst] at h
    rw [firstSome, firstSome, hfg i h.left]
    cases hfi : f i with
    | some x => rfl
    | none =>
      rw [hfi] at h
      exact firstSome_same f f' g hfg n (i + 1) h.right

/-! ## the footprint theorem -/

/-- an image that answers the footprint of a sequence (against `κ`, whose own footprint is `φ`) alike gets the same result -/
def FpSeq (S S' : ScanI) (items : List Item) : Prop :=
  ∀ (k c : Nat) (κ κ' : Kont) (φ : Nat → List Query),
    (∀ c1, AgreeOn S S' (φ c1) → κ' c1 = κ c1) → AgreeOn S S' (fpI S k items c κ φ) →
    semI S' k items c κ' = semI S k items c κ

def FpAlts (S S' : ScanI) (bodies : List (List Item)) : Prop :=
  ∀ (k c : Nat) (κ κ' : Kont) (φ : Nat → List Query),
    (∀ c1, AgreeOn S S' (φ c1) → κ' c1 = κ c1) → AgreeOn S S' (fpAltsI S k bodies c κ φ) →
    semAltsI S' k bodies c κ' = semAltsI S k bodies c κ

theorem semI_footprint {S S' : ScanI} (hf : S'.fmt = S.fmt) : ∀ items, FpSeq S S' items := by
  apply seqInd (P := FpSeq S S') (Q := FpAlts S S')
  · intro k c κ κ' φ hκ h
    rw [fpI] at h; rw [semI, semI]; exact hκ c h
  · intro it r hp ih k c κ κ' φ hκ h
    rw [fpI_plain S k r c κ φ hp] at h
    rw [semI_plain S' k r c κ' hp, semI_plain S k r c κ hp, semItem_same hf k it c hp h.left]
    cases hi : semItem S k it c with
    | none => rfl
    | some x =>
      obtain ⟨c1, w1⟩ := x
      rw [hi] at h
      simp only [bindK]
      rw [ih _ c1 κ κ' φ hκ h.right]
  · intro a b r ih k c κ κ' φ hκ h
    rw [fpI] at h
    rw [semI, semI]
    have hs : (S'.slice (addRva c a)).map (·.2) = (S.slice (addRva c a)).map (·.2) := h.head
    cases hsl : S.slice (addRva c a) with
    | none =>
      rw [hsl] at hs
      cases hsl' : S'.slice (addRva c a) with
      | none => rfl
      | some x => rw [hsl'] at hs; simp at hs
    | some x =>
      obtain ⟨o, len⟩ := x
      rw [hsl] at hs h
      cases hsl' : S'.slice (addRva c a) with
      | none => rw [hsl'] at hs; simp at hs
      | some x' =>
        obtain ⟨o', len'⟩ := x'
        rw [hsl'] at hs
        simp only [Option.map_some, Option.some.injEq] at hs
        subst hs
        simp only
        exact firstSome_same _ _ _ (fun j hj => ih k _ κ κ' φ hκ hj) _ 0 h.tail
  · intro j gap body r ihb ih k c κ κ' φ hκ h
    rw [fpI] at h
    rw [semI, semI, target_same hf j c h.left, width_same hf]
    cases ht : j.target S c with
    | none => rfl
    | some t =>
      rw [ht] at h
      simp only
      have hb := ihb k t Kont.done Kont.done (fun _ => []) (fun _ _ => rfl) h.right.left
      rw [hb]
      cases hsb : semI S k body t Kont.done with
      | none => rfl
      | some x =>
        obtain ⟨cb, wb⟩ := x
        have h2 := h.right.right
        rw [hsb] at h2
        simp only
        rw [ih _ _ κ κ' φ hκ h2]
  · intro bodies r ihb ih k c κ κ' φ hκ h
    rw [fpI] at h
    rw [semI, semI]
    exact ihb k c _ _ _ (fun c1 hc1 => ih _ c1 κ κ' φ hκ hc1) h
  · intro k c κ κ' φ _ _
    rw [semAltsI, semAltsI]
  · intro b bs hb hbs k c κ κ' φ hκ h
    cases bs with
    | nil =>
      simp only [fpAltsI] at h
      simp only [semAltsI]
      exact hb k c κ κ' φ hκ h
    | cons b' bs =>
      rw [fpAltsI_cons2] at h
      rw [semAltsI_cons2, semAltsI_cons2, hb k c Kont.done Kont.done (fun _ => []) (fun _ _ => rfl) h.left]
      cases hsb : semI S k b c Kont.done with
      | some x =>
        obtain ⟨c1, w1⟩ := x
        have h2 := h.right
        rw [hsb] at h2
        simp only
        rw [hκ c1 h2]
      | none =>
        have h2 := h.right
        rw [hsb] at h2
        exact hbs k c κ κ' φ hκ h2

theorem denoteImpl_footprint {S S' : ScanI} (hf : S'.fmt = S.fmt) (p : Pat) (c : Nat)
    (h : ∀ q ∈ footprint S p c, q.same S S') : denoteImpl S' p c = denoteImpl S p c := by
  rw [denoteImpl, denoteImpl,
    semI_footprint hf (dropTrailing true p) 1 c Kont.done Kont.done (fun _ => []) (fun _ _ => rfl) h]

/-! ## straight-line sequences: the constrained bytes -/

theorem straight_plain {it : Item} (r : List Item) (h : plain it = true) : straight (it :: r) = straight r := by
  rw [straight]
  cases it <;> first | (simp [plain] at h; done) | simp [straightItem]

theorem consI_range (S : ScanI) (k a b : Nat) (r : List Item) (c : Nat) : consI S k (.range a b :: r) c = [] := by
  rw [consI]; simp [consIt, advanceI]

theorem consI_alt (S : ScanI) (k : Nat) (bodies : List (List Item)) (r : List Item) (c : Nat) :
    consI S k (.alt bodies :: r) c = [] := by
  rw [consI]; simp [consIt, advanceI]

theorem consI_group (S : ScanI) (k : Nat) (j : Jump) (gap : List UInt8) (body r : List Item) (c : Nat) :
    consI S k (.group j gap body :: r) c =
      match j.target S c with
      | none => []
      | some t =>
        consI S k body t ++
        match semI S k body t Kont.done with
        | none => []
        | some _ => consI S (slotsItems k body) r (addRva c (j.width S)) := by
  rw [consI]
  simp only [consIt, advanceI, slotsItem]
  cases j.target S c with
  | none => rfl
  | some t =>
    simp only
    cases semI S k body t Kont.done <;> rfl

theorem consI_plain (S : ScanI) (k : Nat) {it : Item} (r : List Item) (c : Nat) (h : plain it = true) :
    consI S k (it :: r) c =
      consItem S it c ++
      match semItem S k it c with
      | none => []
      | some (c1, _) => consI S (slotsItem k it) r c1 := by
  rw [consI]
  have h1 : consIt S k it c = consItem S it c := by
    cases it <;> first | (simp [plain] at h; done) | simp [consIt, consItem]
  have h2 : advanceI S k it c = (semItem S k it c).map (·.1) := by
    cases it <;> first | (simp [plain] at h; done) | simp [advanceI]
  rw [h1, h2]
  cases semItem S k it c with
  | none => rfl
  | some x => obtain ⟨c1, w1⟩ := x; rfl

theorem dropTrailing_straight : ∀ (items : List Item) (e : Bool), straight items = true → dropTrailing e items = items := by
  apply seqInd (P := fun items => ∀ e : Bool, straight items = true → dropTrailing e items = items)
    (Q := fun _ => True)
  · intro e _; rw [dropTrailing]
  · intro it r hp ih e hs
    rw [straight_plain r hp] at hs
    rw [dropTrailing_plain _ _ hp, ih e hs]
  · intro a b r _ e hs; rw [straight, straightItem] at hs; cases hs
  · intro j gap body r ihb ih e hs
    rw [straight, straightItem, Bool.and_eq_true] at hs
    rw [dropTrailing, ihb _ hs.1, ih e hs.2]
  · intro bodies r _ _ e hs; rw [straight, straightItem] at hs; cases hs
  · trivial
  · intros; trivial

theorem matchBytes_end (S : ScanI) : ∀ (bs : List Nat) (c c' : Nat), matchBytes S bs c = some c' → c' = c + bs.length
  | [], c, c', h => by simp only [matchBytes, Option.some.injEq] at h; simp [h]
  | b :: bs, c, c', h => by
    simp only [matchBytes] at h
    split at h
    · have := matchBytes_end S bs (c + 1) c' h
      simp only [List.length_cons]; omega
    · cases h

theorem consMatch_length (S : ScanI) : ∀ (bs : List Nat) (c c' : Nat), matchBytes S bs c = some c' →
    (consMatch S bs c).length = bs.length
  | [], _, _, _ => rfl
  | b :: bs, c, c', h => by
    simp only [matchBytes] at h
    split at h
    · next hb => rw [consMatch, if_pos hb, List.length_cons, consMatch_length S bs (c + 1) c' h, List.length_cons]
    · cases h

theorem consMatch_fp (S : ScanI) : ∀ (bs : List Nat) (c : Nat) (a v : Nat), (a, v) ∈ consMatch S bs c →
    Query.lit a ∈ fpMatch S bs c
  | [], _, a, v, hm => by simp [consMatch] at hm
  | b :: bs, c, a, v, hm => by
    rw [consMatch] at hm
    rw [fpMatch]
    rcases List.mem_cons.1 hm with he | ht
    · simp only [Prod.mk.injEq] at he; obtain ⟨rfl, _⟩ := he; exact List.mem_cons_self ..
    · by_cases hb : S.read 1 c = some b
      · rw [if_pos hb] at ht ⊢
        exact List.mem_cons_of_mem _ (consMatch_fp S bs (c + 1) a v ht)
      · rw [if_neg hb] at ht; cases ht

def AgreeExcept (S S' : ScanI) (a0 : Nat) (qs : List Query) : Prop := ∀ q ∈ qs, q ≠ Query.lit a0 → q.same S S'

theorem AgreeExcept.left {S S' : ScanI} {a0 : Nat} {l1 l2 : List Query} (h : AgreeExcept S S' a0 (l1 ++ l2)) :
    AgreeExcept S S' a0 l1 := fun q hq => h q (List.mem_append_left _ hq)

theorem AgreeExcept.right {S S' : ScanI} {a0 : Nat} {l1 l2 : List Query} (h : AgreeExcept S S' a0 (l1 ++ l2)) :
    AgreeExcept S S' a0 l2 := fun q hq => h q (List.mem_append_right _ hq)

theorem AgreeExcept.tail {S S' : ScanI} {a0 : Nat} {q : Query} {l : List Query} (h : AgreeExcept S S' a0 (q :: l)) :
    AgreeExcept S S' a0 l := fun q' hq => h q' (List.mem_cons_of_mem _ hq)

theorem matchBytes_perturbed {S S' : ScanI} {a0 v : Nat} (hne : S'.read 1 a0 ≠ some v) :
    ∀ (bs : List Nat) (c : Nat), (a0, v) ∈ consMatch S bs c → AgreeExcept S S' a0 (fpMatch S bs c) →
    matchBytes S' bs c = none
  | [], _, hm, _ => by simp [consMatch] at hm
  | b :: bs, c, hm, h => by
    rw [consMatch] at hm
    rw [fpMatch] at h
    simp only [matchBytes]
    rcases List.mem_cons.1 hm with he | ht
    · simp only [Prod.mk.injEq] at he; obtain ⟨rfl, rfl⟩ := he
      rw [if_neg hne]
    · by_cases hb : S.read 1 c = some b
      · rw [if_pos hb] at ht h
        by_cases hb' : S'.read 1 c = some b
        · rw [if_pos hb']
          exact matchBytes_perturbed hne bs (c + 1) ht h.tail
        · rw [if_neg hb']
      · rw [if_neg hb] at ht; cases ht

theorem matchBytes_lockstep (S S' : ScanI) (bs : List Nat) (c c' : Nat) (h : matchBytes S bs c = some c') :
    matchBytes S' bs c = none ∨ matchBytes S' bs c = some c' := by
  cases h' : matchBytes S' bs c with
  | none => exact Or.inl rfl
  | some c2 =>
    rw [matchBytes_end S bs c c' h, matchBytes_end S' bs c c2 h']
    exact Or.inr rfl

theorem lit_not_in_jump_fp (S : ScanI) (j : Jump) (c a0 : Nat) : ∀ q ∈ j.fp S c, q ≠ Query.lit a0 := by
  intro q hq
  cases j with
  | j1 => simp only [Jump.fp, List.mem_singleton] at hq; subst hq; simp
  | j4 => simp only [Jump.fp, List.mem_singleton] at hq; subst hq; simp
  | ptr =>
    simp only [Jump.fp, List.mem_cons] at hq
    rcases hq with rfl | hq
    · simp
    · cases hv : S.read S.fmt.ptrSize c with
      | none => rw [hv] at hq; simp at hq
      | some v => rw [hv] at hq; simp only [List.mem_singleton] at hq; subst hq; simp

theorem AgreeExcept.jump {S S' : ScanI} {a0 : Nat} {j : Jump} {c : Nat} (h : AgreeExcept S S' a0 (j.fp S c)) :
    AgreeOn S S' (j.fp S c) := fun q hq => h q hq (lit_not_in_jump_fp S j c a0 q hq)

theorem semItem_lockstep {S S' : ScanI} (hf : S'.fmt = S.fmt) {a0 : Nat} (k : Nat) (it : Item) (c c1 : Nat) (w1 : Caps)
    (hp : plain it = true) (hq : AgreeExcept S S' a0 (fpItem S it c)) (h : semItem S k it c = some (c1, w1)) :
    semItem S' k it c = none ∨ ∃ w1', semItem S' k it c = some (c1, w1') := by
  cases it with
  | byte _ | str _ =>
    simp only [semItem, Option.map_eq_some_iff] at h
    obtain ⟨c2, hm, he⟩ := h
    simp only [Prod.mk.injEq] at he; obtain ⟨rfl, rfl⟩ := he
    rcases matchBytes_lockstep S S' _ c c2 hm with h' | h'
    · exact Or.inl (by simp [semItem, h'])
    · exact Or.inr ⟨[], by simp [semItem, h']⟩
  | jump j =>
    have := target_same hf j c (AgreeExcept.jump (a0 := a0) hq)
    exact Or.inr ⟨w1, by simp only [semItem] at h ⊢; rw [this]; exact h⟩
  | readI w | readU w =>
    have h1 : S'.read w c = S.read w c := hq (.read w c) (by simp [fpItem]) (by simp)
    exact Or.inr ⟨w1, by simp only [semItem] at h ⊢; rw [h1]; exact h⟩
  | range _ _ | group _ _ _ | alt _ => cases hp
  -- the remaining items do not look at the image
  | _ => exact Or.inr ⟨w1, h⟩

theorem consItem_perturbed {S S' : ScanI} {a0 v : Nat} (hne : S'.read 1 a0 ≠ some v) (k : Nat) (it : Item) (c : Nat)
    (hm : (a0, v) ∈ consItem S it c) (h : AgreeExcept S S' a0 (fpItem S it c)) : semItem S' k it c = none := by
  cases it with
  | byte _ | str _ => simp only [consItem] at hm; simp only [fpItem] at h; simp [semItem, matchBytes_perturbed hne _ c hm h]
  | _ => simp [consItem] at hm

theorem consItem_length (S : ScanI) (k : Nat) (it : Item) (c c1 : Nat) (w1 : Caps) (hp : plain it = true)
    (h : semItem S k it c = some (c1, w1)) : (consItem S it c).length = litCountItem it := by
  cases it with
  | byte _ | str _ =>
    simp only [semItem, Option.map_eq_some_iff] at h
    obtain ⟨c2, hmb, _⟩ := h
    simpa [consItem, litCountItem] using consMatch_length S _ c c2 hmb
  | range _ _ | group _ _ _ | alt _ => cases hp
  | _ => rfl

theorem consItem_fp (S : ScanI) (it : Item) (c a v : Nat) (hm : (a, v) ∈ consItem S it c) : Query.lit a ∈ fpItem S it c := by
  cases it with
  | byte _ | str _ => exact consMatch_fp S _ c a v (by simpa [consItem] using hm)
  | _ => simp [consItem] at hm

theorem addCaps_none (w : Caps) : addCaps w none = none := rfl

theorem addCaps_eq_some {w1 : Caps} {res : Option (Nat × Caps)} {x : Nat × Caps} (h : addCaps w1 res = some x) :
    ∃ y, res = some y := by
  cases res with
  | none => simp [addCaps] at h
  | some y => exact ⟨y, rfl⟩

theorem consI_fp (S : ScanI) : ∀ items : List Item, ∀ (k c : Nat) (κ : Kont) (φ : Nat → List Query) (a v : Nat),
    (a, v) ∈ consI S k items c → Query.lit a ∈ fpI S k items c κ φ := by
  apply seqInd (P := fun items => ∀ (k c : Nat) (κ : Kont) (φ : Nat → List Query) (a v : Nat),
      (a, v) ∈ consI S k items c → Query.lit a ∈ fpI S k items c κ φ) (Q := fun _ => True)
  · intro k c κ φ a v hm; simp [consI] at hm
  · intro it r hp ih k c κ φ a v hm
    rw [consI_plain S k r c hp] at hm
    rw [fpI_plain S k r c κ φ hp]
    rcases List.mem_append.1 hm with h1 | h2
    · exact List.mem_append_left _ (consItem_fp S it c a v h1)
    · refine List.mem_append_right _ ?_
      cases hi : semItem S k it c with
      | none => rw [hi] at h2; cases h2
      | some x =>
        obtain ⟨c1, w1⟩ := x
        rw [hi] at h2
        exact ih _ c1 κ φ a v h2
  · intro a' b r _ k c κ φ a v hm; simp [consI_range] at hm
  · intro j gap body r ihb ih k c κ φ a v hm
    rw [consI_group] at hm
    rw [fpI]
    refine List.mem_append_right _ ?_
    cases ht : j.target S c with
    | none => rw [ht] at hm; cases hm
    | some t =>
      rw [ht] at hm
      simp only at hm ⊢
      rcases List.mem_append.1 hm with h1 | h2
      · exact List.mem_append_left _ (ihb k t Kont.done _ a v h1)
      · refine List.mem_append_right _ ?_
        cases hb : semI S k body t Kont.done with
        | none => rw [hb] at h2; cases h2
        | some x =>
          rw [hb] at h2
          exact ih _ _ κ φ a v h2
  · intro bodies r _ _ k c κ φ a v hm; simp [consI_alt] at hm
  · trivial
  · intros; trivial

theorem consI_length (S : ScanI) : ∀ items : List Item, ∀ (k c : Nat) (κ : Kont) (x : Nat × Caps),
    semI S k items c κ = some x → straight items = true → (consI S k items c).length = litCount items := by
  apply seqInd (P := fun items => ∀ (k c : Nat) (κ : Kont) (x : Nat × Caps), semI S k items c κ = some x →
      straight items = true → (consI S k items c).length = litCount items) (Q := fun _ => True)
  · intro k c κ x _ _; rw [consI, litCount]; rfl
  · intro it r hp ih k c κ x h hs
    rw [consI_plain S k r c hp, litCount]
    rw [straight_plain r hp] at hs
    rw [semI_plain S k r c κ hp] at h
    cases hi : semItem S k it c with
    | none => rw [hi] at h; cases h
    | some y =>
      obtain ⟨c1, w1⟩ := y
      rw [hi] at h
      obtain ⟨z, hz⟩ := addCaps_eq_some h
      rw [List.length_append, consItem_length S k it c c1 w1 hp hi, ih _ c1 κ z hz hs]
  · intro a b r _ k c κ x _ hs; rw [straight, straightItem] at hs; cases hs
  · intro j gap body r ihb ih k c κ x h hs
    rw [consI_group, litCount, litCountItem]
    rw [straight, straightItem, Bool.and_eq_true] at hs
    rw [semI] at h
    cases ht : j.target S c with
    | none => rw [ht] at h; cases h
    | some t =>
      rw [ht] at h
      simp only at h ⊢
      cases hb : semI S k body t Kont.done with
      | none => rw [hb] at h; cases h
      | some y =>
        obtain ⟨cb, wb⟩ := y
        rw [hb] at h
        obtain ⟨z, hz⟩ := addCaps_eq_some h
        rw [List.length_append, ihb k t Kont.done _ hb hs.1, ih _ _ κ z hz hs.2]
  · intro bodies r _ _ k c κ x _ hs; rw [straight, straightItem] at hs; cases hs
  · trivial
  · intros; trivial

/-- `S'` runs in lock step with `S`: at each item in front of the comparison `(a0, v)` it fails or stands at the same cursor
(`semItem_lockstep`; a jump leads to the same place, its operand being answered alike), so it arrives at that comparison and
fails there (`consItem_perturbed`).  Hence no hypothesis that `S` accepts, and none about the continuations -/
theorem consI_perturbed {S S' : ScanI} (hf : S'.fmt = S.fmt) {a0 v : Nat} (hne : S'.read 1 a0 ≠ some v) :
    ∀ items : List Item, ∀ (k c : Nat) (κ κ' : Kont) (φ : Nat → List Query),
    (a0, v) ∈ consI S k items c → AgreeExcept S S' a0 (fpI S k items c κ φ) → semI S' k items c κ' = none := by
  apply seqInd (P := fun items => ∀ (k c : Nat) (κ κ' : Kont) (φ : Nat → List Query),
      (a0, v) ∈ consI S k items c → AgreeExcept S S' a0 (fpI S k items c κ φ) → semI S' k items c κ' = none)
    (Q := fun _ => True)
  · intro k c κ κ' φ hm; simp [consI] at hm
  · intro it r hp ih k c κ κ' φ hm h
    rw [consI_plain S k r c hp] at hm
    rw [fpI_plain S k r c κ φ hp] at h
    rw [semI_plain S' k r c κ' hp]
    rcases List.mem_append.1 hm with h1 | h2
    · rw [consItem_perturbed hne k it c h1 h.left]; rfl
    · cases hi : semItem S k it c with
      | none => rw [hi] at h2; cases h2
      | some x =>
        obtain ⟨c1, w1⟩ := x
        rw [hi] at h2
        have hr := h.right
        rw [hi] at hr
        rcases semItem_lockstep hf k it c c1 w1 hp h.left hi with h' | ⟨w1', h'⟩
        · rw [h']; rfl
        · rw [h']
          simp only [bindK]
          rw [ih _ c1 κ κ' φ h2 hr]; rfl
  · intro a' b r _ k c κ κ' φ hm; simp [consI_range] at hm
  · intro j gap body r ihb ih k c κ κ' φ hm h
    rw [consI_group] at hm
    rw [fpI] at h
    rw [semI, target_same hf j c (AgreeExcept.jump h.left), width_same hf]
    cases ht : j.target S c with
    | none => rfl
    | some t =>
      rw [ht] at hm
      have hr := h.right
      rw [ht] at hr
      simp only at hm hr ⊢
      rcases List.mem_append.1 hm with h1 | h2
      · rw [ihb k t Kont.done Kont.done _ h1 hr.left]
      · cases hb : semI S k body t Kont.done with
        | none => rw [hb] at h2; cases h2
        | some x =>
          rw [hb] at h2
          have hrr := hr.right
          rw [hb] at hrr
          -- whatever the body does under `S'`, the rest starts at `c + width`, as under `S`
          cases hb' : semI S' k body t Kont.done with
          | none => rfl
          | some y =>
            obtain ⟨cb', wb'⟩ := y
            simp only
            rw [ih _ _ κ κ' φ h2 hrr]; rfl
  · intro bodies r _ _ k c κ κ' φ hm; simp [consI_alt] at hm
  · trivial
  · intros; trivial

theorem Query.same_refl (S : ScanI) (q : Query) : q.same S S := by cases q <;> rfl

instance (S S' : ScanI) (q : Query) : Decidable (q.same S S') := by
  cases q <;> simp only [Query.same] <;> infer_instance

end Pelite.PatSem
