import PeliteModel.Lemmas.PatternSemImplRun
/-!
Lemmas for C11 (semantic half): `comp_runsK_both` for whole patterns — `Scanner::exec` on the code of a pattern, for any
cut (`run_cut`); cut where the parser trims, it computes `denoteImpl`.
-/
namespace Pelite.PatSem
open Pelite.Pattern Pelite.Exec

theorem cut_trimEnd (F : List Atom) : Cut F (trimEnd F).length where
  tail := by
    intro i a hle ha
    rw [trim_split F, List.getElem?_append_right hle] at ha
    exact trimmedTail_redundant F a (List.mem_of_getElem? ha)
  last := fun _ => trimEnd_last F

theorem take_trimEnd (F : List Atom) : F.take (trimEnd F).length = trimEnd F := by
  have h := List.take_left' (l₁ := trimEnd F) (l₂ := trimmedTail F) rfl
  rwa [← trim_split F] at h

theorem compileRaw_at (p : Pat) : At (compileRaw p) 1 (comp 1 none p) := by
  intro i a ha
  show (Atom.save 0 :: comp 1 none p)[1 + i]? = some a
  rw [Nat.add_comm, List.getElem?_cons_succ]; exact ha

theorem compileRaw_length (p : Pat) : (compileRaw p).length = 1 + (comp 1 none p).length :=
  (List.length_cons).trans (Nat.add_comm _ _)

/-- `n` = where the parser trims: T2' (`run_compile_impl`); `n` behind the code: T2 before trimming -/
theorem run_cut {S : ScanI} (hS : S.WF) (hC : Coherent S) (p : Pat) (hwf : WF p = true) {n : Nat}
    (hcut : Cut (compileRaw p) n) {e : Bool} (he : e = true ↔ n ≤ (compileRaw p).length) (c : Nat) (hc : c < 4294967296)
    (save0 : Array Nat) :
    let D := (semI S 1 (dropTrailing e p) c Kont.done).map fun (c', w) => (c', w ++ [(0, c)])
    ∃ save, run S ((compileRaw p).take n) c save0 = .ok (D.isSome, save) ∧ save.size = save0.size ∧
      ∀ c' w, D = some (c', w) → ∀ s v, (s, v) ∈ w → s < save0.size → save[s]? = some v := by
  simp only [WF, Bool.and_eq_true, decide_eq_true_eq] at hwf
  obtain ⟨⟨hwf1, _⟩, _⟩ := hwf
  -- the code of `p` behind `Save(0)`, in a frame that ends with the code
  have hrun := (comp_runsK_both hS hcut (BytesOK.cons (by intro b hb; cases hb) (comp_bytesOK p 1 0 none hwf1)) hC).1 p 1 0 none 0 1
    (compileRaw p).length c (saveSet save0 0 c) (retAt (compileRaw p).length) e e Kont.done hwf1 (compileRaw_at p)
    (compileRaw_length p) rfl hc he id (.inr fun _ _ => rfl)
    (fun c1 sv1 hc1 => RunsK.done (IsTerm.end_ (List.length_take_le' _ _)) hc1)
  have h0 : execT S ((compileRaw p).take n) ⟨0, c, save0⟩ 0xff 0 =
      execT S ((compileRaw p).take n) ⟨1, c, saveSet save0 0 c⟩ 0xff 0 :=
    execT_step_some hS (st := ⟨0, c, save0⟩) (a := .save 0)
      ((List.getElem?_take_of_lt (hcut.lt_of_solid (i := 0) rfl rfl)).trans rfl) rfl rfl
  have hex : exec S ((compileRaw p).take n) (fuelFor ((compileRaw p).take n)) ⟨0, c, save0⟩ 0xff 0 =
      .ok (execT S ((compileRaw p).take n) ⟨0, c, save0⟩ 0xff 0) :=
    exec_eq_execT hS (by simp [fuelFor])
  simp only [run, hex, h0]
  change Returns n e 1 (saveSet save0 0 c) _ (semI S 1 (dropTrailing e p) c Kont.done) _ at hrun
  generalize execT S ((compileRaw p).take n) ⟨1, c, saveSet save0 0 c⟩ 0xff 0 = o at hrun ⊢
  obtain ⟨b, st⟩ := o
  cases hs : semI S 1 (dropTrailing e p) c Kont.done with
  | none =>
    obtain ⟨st', he, hok⟩ := hs ▸ hrun
    cases he
    refine ⟨st.save, rfl, ?_, ?_⟩
    · rw [hok.1]; simp [saveSet]
    · intro c' w h; simp at h
  | some x =>
    -- whether the run came to the end of the code or to the cut: `true`, and the save array of the documented end
    obtain ⟨sv', he, hok, hw, _⟩ := hs ▸ hrun
    cases (he.fst rfl : b = true)
    obtain rfl : st.save = sv' := he.save
    have hsz : st.save.size = save0.size := by rw [hok.1]; simp [saveSet]
    refine ⟨st.save, rfl, hsz, ?_⟩
    intro c'' w'' h s v hm hs0
    cases Option.some.inj h
    rcases List.mem_append.1 hm with h1 | h1
    · exact hw s v h1 (hsz ▸ hs0)
    · cases List.mem_singleton.1 h1
      rw [hok.2 0 (by omega)]
      simp [saveSet, hs0]

theorem run_compile_impl {S : ScanI} (hS : S.WF) (hC : Coherent S) (p : Pat) (hwf : WF p = true)
    (c : Nat) (hc : c < 4294967296) (save0 : Array Nat) :
    ∃ save, run S (compile p) c save0 = .ok ((denoteImpl S p c).isSome, save) ∧ save.size = save0.size ∧
      ∀ c' w, denoteImpl S p c = some (c', w) → ∀ s v, (s, v) ∈ w → s < save0.size → save[s]? = some v := by
  rw [compile, ← take_trimEnd]
  exact run_cut hS hC p hwf (cut_trimEnd _) (iff_of_true rfl (trimEnd_length_le _)) c hc save0

end Pelite.PatSem
