import PeliteModel.Lemmas.ResEncode
import PeliteModel.Lemmas.ResGroups
/-!
C12: an `.ico` / `.cur` file turned into resources by the specification's `icoToResources` is reproduced byte for byte
by `GroupResource::write`.
-/
namespace Pelite.Resources
open Pelite

/-- the file can be turned into resources: icon or cursor, complete 8-byte entry headers, sizes and
offsets that fit their fields, ids that fit `u16` -/
structure IcoOK (kind : Nat) (imgs : List IcoImage) : Prop where
  kind : kind = 1 ∨ kind = 2
  hdr : ∀ im ∈ imgs, im.hdr.length = 8
  len : ∀ im ∈ imgs, im.data.length < 4294967296
  count : imgs.length < 65535
  total : 6 + 16 * imgs.length + (imgs.map (·.data.length)).sum < 4294967296

theorem IcoOK.tail {kind : Nat} {im : IcoImage} {rest : List IcoImage} (h : IcoOK kind (im :: rest)) : IcoOK kind rest :=
  ⟨h.kind, fun x hx => h.hdr x (by simp [hx]), fun x hx => h.len x (by simp [hx]),
   by have := h.count; simp at this; omega,
   by have := h.total; simp only [List.length_cons, List.map_cons, List.sum_cons] at this; omega⟩

theorem groupEntries_length : ∀ (imgs : List IcoImage) (id : Nat), (∀ im ∈ imgs, im.hdr.length = 8) →
    (groupEntries imgs id).length = 14 * imgs.length
  | [], _, _ => rfl
  | im :: rest, id, h => by
    simp only [groupEntries, List.length_append, le32b_length, le16b_length, List.length_cons,
      groupEntries_length rest (id + 1) (fun x hx => h x (by simp [hx])), h im (by simp)]
    omega

/-- the entries `GroupResource::entries` should find -/
def expEntries : List IcoImage → Nat → Nat → List GroupEntry
  | [], _, _ => []
  | im :: rest, start, id => ⟨start, im.data.length, id⟩ :: expEntries rest (start + 14) (id + 1)

theorem expEntries_length : ∀ (imgs : List IcoImage) (start id : Nat), (expEntries imgs start id).length = imgs.length
  | [], _, _ => rfl
  | im :: rest, start, id => by simp [expEntries, expEntries_length rest]

theorem groupEntriesFrom_window (r : Resources) : ∀ (imgs : List IcoImage) (start id : Nat),
    Window r.sec start (groupEntries imgs id) → (∀ im ∈ imgs, im.hdr.length = 8) →
    (∀ im ∈ imgs, im.data.length < 4294967296) → id + imgs.length ≤ 65536 →
    groupEntriesFrom r start imgs.length = expEntries imgs start id
  | [], _, _, _, _, _, _ => rfl
  | im :: rest, start, id, hw, hh, hl, hid => by
    have h8 := hh im (by simp)
    simp only [groupEntries, Window.append, List.length_append, h8, le32b_length, le16b_length, and_assoc] at hw
    obtain ⟨-, w1, w2, w3⟩ := hw
    obtain ⟨lo, hi⟩ := w1.le32_halves (hl im (by simp))
    have hidv := w2.le16 (v := id) (by simp at hid; omega)
    have ih := groupEntriesFrom_window r rest (start + 14) (id + 1) w3
      (fun x hx => hh x (by simp [hx])) (fun x hx => hl x (by simp [hx])) (by simp at hid; omega)
    simp only [List.length_cons, groupEntriesFrom, expEntries]
    rw [ih]
    congr 1
    unfold groupEntryAt
    rw [show start + 10 = start + 8 + 2 by omega, hi, lo, show start + 12 = start + (8 + 4) from rfl, hidv]
    have := hl im (by simp)
    congr 1
    omega

theorem writeEntries_ico (r : Resources) : ∀ (imgs : List IcoImage) (start id off : Nat),
    Window r.sec start (groupEntries imgs id) → (∀ im ∈ imgs, im.hdr.length = 8) →
    off + (imgs.map (·.data.length)).sum < 4294967296 →
    writeEntries r (expEntries imgs start id) off = icoEntries imgs off
  | [], _, _, _, _, _, _ => rfl
  | im :: rest, start, id, off, hw, hh, hsum => by
    have h8 := hh im (by simp)
    simp only [List.map_cons, List.sum_cons] at hsum
    simp only [groupEntries, Window.append, List.length_append, h8, le32b_length, le16b_length] at hw
    obtain ⟨⟨w12, -⟩, w3⟩ := hw
    -- the first 12 bytes of the GRPICONDIRENTRY
    have e12 : bytesAt r.sec start 12 = im.hdr ++ le32b im.data.length := by
      have := Window.append.2 ⟨w12.1, h8 ▸ w12.2⟩
      unfold Window at this
      rwa [List.length_append, h8, le32b_length] at this
    have ih := writeEntries_ico r rest (start + 14) (id + 1) (off + im.data.length) w3
      (fun x hx => hh x (by simp [hx])) (by omega)
    simp only [expEntries, writeEntries, icoEntries]
    rw [e12, le32Bytes_eq, show wadd32 off im.data.length = off + im.data.length by unfold wadd32; omega, ih]

theorem images_ico (r : Resources) (g : Group) : ∀ (imgs : List IcoImage) (start id : Nat),
    (∀ i (h : i < imgs.length), ∃ ref, g.image r (id + i) = .ok (.ok ref) ∧ bytesAt r.sec ref.off ref.len = imgs[i].data) →
    ((expEntries imgs start id).map (imageOf r g)).flatten = icoData imgs
  | [], _, _, _ => rfl
  | im :: rest, start, id, h => by
    obtain ⟨ref, h1, h2⟩ := h 0 (by simp)
    simp only [Nat.add_zero, List.getElem_cons_zero] at h1 h2
    have ih := images_ico r g rest (start + 14) (id + 1) (fun i hi => by
      obtain ⟨ref', g1, g2⟩ := h (i + 1) (by simp; omega)
      refine ⟨ref', ?_, ?_⟩
      · rw [show id + 1 + i = id + (i + 1) by omega]; exact g1
      · simpa using g2)
    simp only [expEntries, List.map_cons, List.flatten_cons, icoData]
    rw [ih]
    congr 1
    unfold imageOf
    dsimp only
    rw [h1]
    exact h2

theorem parseGroup_blob {r : Resources} {kind : Nat} {imgs : List IcoImage} (hok : IcoOK kind imgs) {off : Nat}
    (hw : Window r.sec off (groupBlob kind imgs)) :
    ∃ es, parseGroup (groupBlob kind imgs) = .ok ⟨kind, es⟩ ∧ es.length = imgs.length := by
  have hblen : (groupBlob kind imgs).length = 6 + 14 * imgs.length := by
    simp only [groupBlob, List.length_append, le16b_length, groupEntries_length imgs 1 hok.hdr]
  have hp : parseGroup (groupBlob kind imgs) = parseGroup (bytesAt r.sec off (groupBlob kind imgs).length) := by rw [hw]
  simp only [groupBlob, Window.append, List.length_append, le16b_length, and_assoc] at hw
  obtain ⟨w0, w1, w2, -⟩ := hw
  have f0 := w0.le16 (v := 0) (by omega)
  have f1 := w1.le16 (v := kind) (by have := hok.kind; omega)
  have f2 := w2.le16 (v := imgs.length) (by have := hok.count; omega)
  rw [hp, parseGroup_bytesAt, hblen, if_neg (by omega), f0, f1, show off + 4 = off + (2 + 2) from rfl, f2,
    if_neg (by have := hok.kind; omega), if_neg (by omega)]
  exact ⟨_, rfl, by simp only [List.length_map, groupEntriesFrom_length]⟩

/-! ### the resource tree of a file -/

theorem imageEntries_lookup : ∀ (imgs : List IcoImage) (s i : Nat) (h : i < imgs.length),
    (imageEntries imgs s).lookup (.id (s + i)) =
      some (.dir 0 (.cons (.id 1033) (.data imgs[i].data 0) .nil))
  | [], _, _, h => by simp at h
  | im :: rest, s, 0, _ => by
    simp only [imageEntries, Entries.lookup, nameMatch, Nat.add_zero, decide_true, if_true, List.getElem_cons_zero]
  | im :: rest, s, i + 1, h => by
    have hne : ¬ (s = s + (i + 1)) := by omega
    have := imageEntries_lookup rest (s + 1) i (by simp at h; omega)
    simp only [imageEntries, Entries.lookup, nameMatch, hne, decide_false, Bool.false_eq_true, if_false,
      List.getElem_cons_succ]
    rw [show s + (i + 1) = s + 1 + i by omega, this]

/-- type id of the images (`icoType`) and of the group (`icoGroupType`) for a file of the given kind -/
def icoType (kind : Nat) : Nat := if kind = 1 then RT_ICON else RT_CURSOR
def icoGroupType (kind : Nat) : Nat := if kind = 1 then RT_GROUP_ICON else RT_GROUP_CURSOR

theorem icoToTree_eq (kind : Nat) (imgs : List IcoImage) :
    icoToTree kind imgs =
      .dir 0 (.cons (.id (icoType kind)) (.dir 0 (imageEntries imgs 1))
        (.cons (.id (icoGroupType kind))
          (.dir 0 (.cons (.id 1) (.dir 0 (.cons (.id 1033) (.data (groupBlob kind imgs) 0) .nil)) .nil)) .nil)) := rfl

theorem image_ico {r : Resources} (hb : Aligned r) {kind : Nat} {imgs : List IcoImage} (hk : kind = 1 ∨ kind = 2)
    (ht : IsTree r (icoToTree kind imgs)) {g : Group} (hg : g.ty = kind) (i : Nat) (hi : i < imgs.length) :
    ∃ ref, g.image r (1 + i) = .ok (.ok ref) ∧ bytesAt r.sec ref.off ref.len = imgs[i].data := by
  have hty : g.typeId = .ok (icoType kind) := typeId_of_kind (G := ⟨kind, []⟩) hg hk
  have key := findResource_rep hb ht (.id (icoType kind)) (.id (1 + i))
  have hspec : (icoToTree kind imgs).findResource (.id (icoType kind)) (.id (1 + i)) = .ok (.data imgs[i].data 0) := by
    rw [icoToTree_eq]
    simp only [Node.findResource, Node.findResources, Node.getDir, Node.get, Entries.lookup, nameMatch, decide_true, if_true]
    show ((Except.ok (Node.dir 0 (imageEntries imgs 1)) : FRes Node).bind _).bind _ = _
    simp only [Except.bind, Node.asDir]
    rw [imageEntries_lookup imgs 1 i hi]
    rfl
  rw [hspec] at key
  obtain ⟨ref, h1, c, cp, h2, _, _, h4⟩ := key
  cases h2
  exact ⟨ref, by rw [image_eq_findResource r g _ _ hty]; exact h1, h4⟩

theorem groups_icoToTree {kind : Nat} (hk : kind = 1 ∨ kind = 2) (imgs : List IcoImage) :
    (icoToTree kind imgs).groups (icoGroupType kind) = [(.id 1, .ok (groupBlob kind imgs))] := by
  rcases hk with rfl | rfl <;> rfl

theorem groups_ico {r : Resources} (hb : Aligned r) {kind : Nat} {imgs : List IcoImage} (hok : IcoOK kind imgs)
    (ht : IsTree r (icoToTree kind imgs)) (hc : Canon r 0 (icoToTree kind imgs)) :
    ∃ g, groups r (icoGroupType kind) = .ok [.ok (.id 1, g)] ∧ GroupOK r g ∧ g.ty = kind ∧ g.count = imgs.length ∧
      Window r.sec g.off (groupBlob kind imgs) := by
  obtain ⟨items, h1, h2, h3⟩ := groups_canon hb ht hc (icoGroupType kind)
  rw [groups_icoToTree hok.kind] at h2
  obtain ⟨it, items, rfl, a, h2⟩ := h2.cons_inv
  cases h2.nil_inv
  have a' := a.aligned fun h => h3 (h ▸ List.mem_singleton.2 rfl)
  obtain ⟨off, _, hw, _⟩ := a
  obtain ⟨es, hp, hl⟩ := parseGroup_blob hok hw
  rw [hp] at a'
  obtain ⟨g, rfl, hg, hwin⟩ := a'
  exact ⟨g, h1, hg.1, hg.2.1, hg.2.2.1.trans hl, hwin⟩

theorem write_ico {r : Resources} (hb : Aligned r) {kind : Nat} {imgs : List IcoImage} (hok : IcoOK kind imgs)
    (ht : IsTree r (icoToTree kind imgs)) (hc : Canon r 0 (icoToTree kind imgs)) :
    ∃ g, groups r (icoGroupType kind) = .ok [.ok (.id 1, g)] ∧ g.write r = .ok (icoFile kind imgs) := by
  obtain ⟨g, hgroups, hgok, hty, hcount, hwin⟩ := groups_ico hb hok ht hc
  refine ⟨g, hgroups, ?_⟩
  rw [write_eq hb hgok]
  -- the header and the entry array inside the blob
  have hwin' : Window r.sec g.off ((le16b 0 ++ le16b kind ++ le16b imgs.length) ++ groupEntries imgs 1) := hwin
  have hH : bytesAt r.sec g.off 6 = le16b 0 ++ le16b kind ++ le16b imgs.length := (Window.append.1 hwin').1
  have hE : Window r.sec (g.off + 6) (groupEntries imgs 1) := (Window.append.1 hwin').2
  have hentries : groupEntriesFrom r (g.off + 6) g.count = expEntries imgs (g.off + 6) 1 := by
    rw [hcount]
    exact groupEntriesFrom_window r imgs (g.off + 6) 1 hE hok.hdr hok.len (by have := hok.count; omega)
  rw [hentries, expEntries_length]
  have hW : writeEntries r (expEntries imgs (g.off + 6) 1) (6 + imgs.length * 16) = icoEntries imgs (6 + 16 * imgs.length) := by
    rw [show 6 + imgs.length * 16 = 6 + 16 * imgs.length by omega]
    exact writeEntries_ico r imgs (g.off + 6) 1 _ hE hok.hdr hok.total
  have hI : ((expEntries imgs (g.off + 6) 1).map (imageOf r g)).flatten = icoData imgs :=
    images_ico r g imgs (g.off + 6) 1 (fun i hi => image_ico hb hok.kind ht hty i hi)
  rw [hH, hW, hI]
  rfl

theorem ico_round_trip {kind : Nat} {imgs : List IcoImage} (hok : IcoOK kind imgs) (henc : Encodable 0 (icoToTree kind imgs)) :
    ∃ g, groups (icoToResources kind imgs) (icoGroupType kind) = .ok [.ok (.id 1, g)] ∧
      g.write (icoToResources kind imgs) = .ok (icoFile kind imgs) :=
  write_ico (aligned_resourcesOf 0 _) hok (isTree_resourcesOf henc) (canon_resourcesOf henc)

end Pelite.Resources
