import PeliteModel.Lemmas.ResGroup
/-!
C12: `GroupResource::new` against `parseGroup` of the specification (any bytes); `icons()` / `cursors()` on a section
that represents ANY tree against `Node.groups`, through any `RepLike` relation (on a canonically laid out section no
item is `Misaligned`: `groups_canon`); `GroupResource::image` against `find_resource`.
-/
namespace Pelite.Resources
open Pelite

theorem groupEntriesFrom_map (r : Resources) : ∀ (n start : Nat),
    (groupEntriesFrom r start n).map (fun e => (e.bytesInRes, e.nId)) =
      (List.range n).map fun i =>
        (le16 r.sec (start + 14 * i + 10) * 0x10000 + le16 r.sec (start + 14 * i + 8), le16 r.sec (start + 14 * i + 12))
  | 0, _ => rfl
  | n + 1, start => by
    rw [List.range_succ_eq_map, List.map_cons, List.map_map]
    show (_, _) :: (groupEntriesFrom r (start + 14) n).map _ = _
    rw [groupEntriesFrom_map r n (start + 14)]
    refine List.cons_eq_cons.2 ⟨rfl, List.map_congr_left fun i _ => ?_⟩
    show (_, _) = (_, _)
    rw [show start + 14 + 14 * i = start + 14 * (i + 1) by omega]

theorem parseGroup_bytesAt (r : Resources) (off len : Nat) :
    parseGroup (bytesAt r.sec off len) =
      if len < 6 then .error .bounds
      else if le16 r.sec off ≠ 0 ∨ ¬ (le16 r.sec (off + 2) = 1 ∨ le16 r.sec (off + 2) = 2) then .error .badMagic
      else if len ≠ 6 + 14 * le16 r.sec (off + 4) then .error .bounds
      else .ok ⟨le16 r.sec (off + 2),
        (groupEntriesFrom r (off + 6) (le16 r.sec (off + 4))).map fun e => (e.bytesInRes, e.nId)⟩ := by
  unfold parseGroup
  rw [bytesAt_length]
  refine ite_congr rfl (fun _ => rfl) fun c2 => ?_
  rw [l16_bytesAt _ _ _ 0 (by omega), l16_bytesAt _ _ _ 2 (by omega), l16_bytesAt _ _ _ 4 (by omega), Nat.add_zero]
  refine ite_congr rfl (fun _ => rfl) fun _ => ite_congr rfl (fun _ => rfl) fun c4 => ?_
  rw [groupEntriesFrom_map]
  refine congrArg (fun l => Except.ok (GroupSpec.mk _ l)) (List.map_congr_left fun i hi => ?_)
  have hi := List.mem_range.1 hi
  rw [l16_bytesAt _ _ _ (6 + 14 * i + 10) (by omega), l16_bytesAt _ _ _ (6 + 14 * i + 8) (by omega),
    l16_bytesAt _ _ _ (6 + 14 * i + 12) (by omega)]
  simp only [Nat.add_assoc]

/-! ### the relation between what `icons()` / `cursors()` yield and the specification -/

/-- the group object stands for the parsed GRPICONDIR `G` -/
def GroupRep (r : Resources) (g : Group) (G : GroupSpec) : Prop :=
  GroupOK r g ∧ g.ty = G.kind ∧ g.count = G.entries.length ∧
  (groupEntriesFrom r (g.off + 6) g.count).map (fun e => (e.bytesInRes, e.nId)) = G.entries

/-- One item of `icons()` / `cursors()` against one entry of `Node.groups`.  When the specification has
no group data the item is that error.  Otherwise the data lie somewhere in the section (`off`); the
item is `Misaligned` when that place is at an odd address (a property of the layout, not of the tree),
else the format error of `parseGroup`, else the entry's name with a group object that stands for the
parsed GRPICONDIR. -/
def ItemRel (r : Resources) (it : FRes (Name × Group)) (s : RName × FRes (List UInt8)) : Prop :=
  match s.2 with
  | .error e => it = .error e
  | .ok blob =>
    ∃ off, off + blob.length ≤ r.sec.size ∧ bytesAt r.sec off blob.length = blob ∧
      if (r.base + off) % 2 ≠ 0 then it = .error (.pe .misaligned)
      else
        match parseGroup blob with
        | .error e => it = .error (.pe e)
        | .ok G => ∃ g, it = .ok (s.1.toName, g) ∧ g.off = off ∧ GroupRep r g G

/-- `items` and `specs` have the same length and are related item by item -/
def ItemsRel (r : Resources) : List (FRes (Name × Group)) → List (RName × FRes (List UInt8)) → Prop
  | [], [] => True
  | it :: items, s :: specs => ItemRel r it s ∧ ItemsRel r items specs
  | _, _ => False

theorem groupNew_item {r : Resources} {ref : Ref} (hbnd : ref.off + ref.len ≤ r.sec.size) (name : Name) :
    ∃ it, (liftE (groupNew r ref) fun g => okF (name, g)) = .ok it ∧
      if (r.base + ref.off) % 2 ≠ 0 then it = .error (.pe .misaligned)
      else
        match parseGroup (bytesAt r.sec ref.off ref.len) with
        | .error e => it = .error (.pe e)
        | .ok G => ∃ g, it = .ok (name, g) ∧ g.off = ref.off ∧ GroupRep r g G := by
  rw [groupNew_eq hbnd, parseGroup_bytesAt, Nat.mul_comm _ 14]
  by_cases c1 : (r.base + ref.off) % 2 ≠ 0
  · simp only [if_pos c1]; exact ⟨_, rfl, rfl⟩
  by_cases c2 : ref.len < 6
  · simp only [if_neg c1, if_pos c2]; exact ⟨_, rfl, rfl⟩
  by_cases c3 : le16 r.sec ref.off ≠ 0 ∨ ¬ (le16 r.sec (ref.off + 2) = 1 ∨ le16 r.sec (ref.off + 2) = 2)
  · simp only [if_neg c1, if_neg c2, if_pos c3]; exact ⟨_, rfl, rfl⟩
  by_cases c4 : ref.len ≠ 6 + 14 * le16 r.sec (ref.off + 4)
  · simp only [if_neg c1, if_neg c2, if_neg c3, if_pos c4]; exact ⟨_, rfl, rfl⟩
  simp only [if_neg c1, if_neg c2, if_neg c3, if_neg c4]
  -- `GroupOK`: parity, bounds, type (`c3`), two stored fields; then `GroupRep`: type, count, entries
  refine ⟨_, rfl, _, rfl, rfl, ⟨by dsimp only; omega, by dsimp only; omega, Decidable.by_contra fun h => c3 (.inr h), rfl, rfl⟩, rfl, ?_, rfl⟩
  simp only [List.length_map, groupEntriesFrom_length]

theorem parseGroup_err {b : List UInt8} {e : Err} (h : parseGroup b = .error e) : e ≠ .misaligned := by
  unfold parseGroup at h
  split at h
  · cases h; decide
  · split at h
    · cases h; decide
    · split at h <;> cases h
      decide

/-- an item can be `Misaligned` only through a data entry (related by `R`) whose bytes lie at an odd address -/
def OddData (r : Resources) (R : Entry → Node → Prop) : Prop :=
  ∃ de t ref, R (.data de) t ∧ de.bytes r = .ok ref ∧ (r.base + ref.off) % 2 ≠ 0

theorem groupItem_rep {r : Resources} {R : Entry → Node → Prop} (hR : RepLike r R) (hb : Aligned r) {e : DirEntry} {nm : RName}
    {en : Entry} {ch : Node} (hname : NameAt r e.name nm) (hentry : e.entry r = .ok en) (hrep : R en ch) :
    ∃ it, groupItem r e = .ok it ∧ ItemRel r it (nm, ch.groupData) ∧ (it = .error (.pe .misaligned) → OddData r R) := by
  have key : FRelG (fun de t => R (.data de) t) (bindF (asDir en) fun d => d.firstData r) (ch.asDir.bind Node.firstData) :=
    (asDir_rep hR hrep).bind fun _ _ h1 => firstData_rep hR h1
  have hitem : groupItem r e = bindF (bindF (asDir en) fun d => d.firstData r) fun data =>
      liftE (data.bytes r) fun bytes => liftE (groupNew r bytes) fun g => okF (nm.toName, g) := by
    simp only [groupItem, getName_of_nameAt hb hname, hentry, liftE_ok, bindF_assoc]
  rw [hitem]
  unfold ItemRel Node.groupData
  cases hS : ch.asDir.bind Node.firstData with
  | error e =>
    rw [hS] at key
    rw [show _ = Out.ok (Except.error e) from key]
    refine ⟨_, rfl, rfl, fun h => ?_⟩
    -- the specification's errors are `UnDataEntry`, `NotFound`, `UnDirectory`
    cases ch with
    | data c cp => cases hS; cases h
    | dir n es =>
      cases es with
      | nil => cases hS; cases h
      | cons nm' c' rest => cases c' <;> cases hS; cases h
  | ok node =>
    rw [hS] at key
    obtain ⟨de, h1, h2⟩ := key
    rw [h1]
    cases node with
    | dir n es => exact (hR.rep h2).elim
    | data c cp =>
      obtain ⟨_, ref, hde, hbytes, hc, _⟩ := (hR.rep h2).data_inv hb
      cases hde
      have hbnd := (bytes_bound hbytes).1
      have hlen : ref.len = c.length := by rw [← hc, bytesAt_length]
      obtain ⟨it, hit, h3⟩ := groupNew_item hbnd nm.toName
      rw [hc] at h3
      refine ⟨it, by show liftE (de.bytes r) _ = _; rw [hbytes]; exact hit, ⟨ref.off, by omega, by rw [← hlen]; exact hc, h3⟩,
        fun hm => ⟨de, _, ref, h2, hbytes, fun hev => ?_⟩⟩
      rw [if_neg (by omega)] at h3
      cases hp : parseGroup c with
      | error e => rw [hp] at h3; rw [h3] at hm; cases hm; exact parseGroup_err hp rfl
      | ok G => rw [hp] at h3; obtain ⟨g, hg, _⟩ := h3; rw [hg] at hm; cases hm

theorem groupItems_rep {r : Resources} {R : Entry → Node → Prop} (hR : RepLike r R) (hb : Aligned r) {l : List DirEntry} {es : Entries}
    (h : EntriesRep r R l es) :
    ∃ items, groupItems r l = .ok items ∧ ItemsRel r items (es.toList.map fun p => (p.1, p.2.groupData)) ∧
      ((.error (.pe .misaligned)) ∈ items → OddData r R) := by
  induction h with
  | nil => exact ⟨[], rfl, trivial, fun h => by cases h⟩
  | cons hname hentry hrep _ ih =>
    obtain ⟨it, h1, h2, hm⟩ := groupItem_rep hR hb hname hentry hrep
    obtain ⟨more, h3, h4, hm'⟩ := ih
    refine ⟨it :: more, ?_, ⟨h2, h4⟩, fun h => ?_⟩
    · rw [groupItems, h1]
      dsimp only
      rw [h3]
    · rcases List.mem_cons.1 h with h | h
      · exact hm h.symm
      · exact hm' h

theorem groups_rep {r : Resources} {R : Entry → Node → Prop} (hR : RepLike r R) (hb : Aligned r) {d0 : Dir} {t : Node}
    (hr : root r = .ok d0) (h : R (.dir d0) t) (ty : Nat) :
    ∃ items, groups r ty = .ok items ∧ ItemsRel r items (t.groups ty) ∧ ((.error (.pe .misaligned)) ∈ items → OddData r R) := by
  have hg := getDir_rep hR hb h (.id ty)
  unfold groups Node.groups
  rw [hr]
  simp only [liftE]
  cases hS : t.getDir (.id ty) with
  | error e =>
    rw [hS] at hg
    rw [show _ = Out.ok (Except.error e) from hg]
    exact ⟨[], rfl, trivial, fun h => by cases h⟩
  | ok gnode =>
    rw [hS] at hg
    obtain ⟨gd, h1, h2⟩ := hg
    rw [h1]
    cases gnode with
    | data c cp => exact (hR.rep h2).elim
    | dir n es =>
      obtain ⟨l, hl, hrep⟩ := hR.entries h2
      dsimp only
      rw [hl]
      exact groupItems_rep hR hb hrep

theorem groups_canon {r : Resources} (hb : Aligned r) {t : Node} (ht : IsTree r t) (hc : Canon r 0 t) (ty : Nat) :
    ∃ items, groups r ty = .ok items ∧ ItemsRel r items (t.groups ty) ∧ (.error (.pe .misaligned)) ∉ items := by
  obtain ⟨d0, hr, hrep⟩ := root_rep hb ht
  have h0 : d0.off = 0 := by rw [(dirTryFrom_ok hb hr).2]
  obtain ⟨items, h1, h2, h3⟩ := groups_rep (repLike_repC hb) hb hr ⟨hrep, by rw [Entry.off, h0]; exact hc⟩ ty
  refine ⟨items, h1, h2, fun hm => ?_⟩
  obtain ⟨de, t', ref, hde, hbytes, hodd⟩ := h3 hm
  cases t' with
  | dir n es => exact hde.1.elim
  | data c cp =>
    obtain ⟨hb1, hal⟩ := hde.bytes hb
    rw [hb1] at hbytes
    cases hbytes
    unfold Aligned at hb
    exact hodd (by show (r.base + (de.off + 16)) % 2 = 0; omega)

theorem ItemRel.aligned {r : Resources} {it : FRes (Name × Group)} {nm : RName} {blob : List UInt8}
    (h : ItemRel r it (nm, .ok blob)) (hm : it ≠ .error (.pe .misaligned)) :
    match parseGroup blob with
    | .error e => it = .error (.pe e)
    | .ok G => ∃ g, it = .ok (nm.toName, g) ∧ GroupRep r g G ∧ Window r.sec g.off blob := by
  obtain ⟨off, _, h2, h3⟩ := h
  by_cases hodd : (r.base + off) % 2 ≠ 0
  · rw [if_pos hodd] at h3; exact absurd h3 hm
  · rw [if_neg hodd] at h3
    cases hp : parseGroup blob with
    | error e => rw [hp] at h3; exact h3
    | ok G =>
      rw [hp] at h3
      obtain ⟨g, g1, g2, g3⟩ := h3
      exact ⟨g, g1, g3, g2 ▸ h2⟩

theorem ItemsRel.cons_inv {r : Resources} {items : List (FRes (Name × Group))} {s : RName × FRes (List UInt8)}
    {specs : List (RName × FRes (List UInt8))} (h : ItemsRel r items (s :: specs)) :
    ∃ it rest, items = it :: rest ∧ ItemRel r it s ∧ ItemsRel r rest specs := by
  cases items with
  | nil => exact h.elim
  | cons it rest => exact ⟨it, rest, rfl, h.1, h.2⟩

theorem ItemsRel.nil_inv {r : Resources} {items : List (FRes (Name × Group))} (h : ItemsRel r items []) : items = [] := by
  cases items with
  | nil => rfl
  | cons it rest => exact h.elim

/-! ### the lookups of a group -/

theorem typeId_of_kind {g : Group} {G : GroupSpec} (hty : g.ty = G.kind) (hk : G.kind = 1 ∨ G.kind = 2) :
    g.typeId = .ok G.imageType := by
  unfold Group.typeId GroupSpec.imageType
  rcases hk with h | h
  · rw [hty, h]; rfl
  · rw [hty, h]; rfl

theorem groupRep_kind {r : Resources} {g : Group} {G : GroupSpec} (h : GroupRep r g G) : G.kind = 1 ∨ G.kind = 2 := by
  obtain ⟨hok, hty, _, _⟩ := h
  rw [← hty]
  exact hok.2.2.1

theorem image_eq {r : Resources} {g : Group} {G : GroupSpec} (h : GroupRep r g G) (id : Nat) :
    g.image r id = findResource r (.id G.imageType) (.id id) :=
  image_eq_findResource r g id _ (typeId_of_kind h.2.1 (groupRep_kind h))

theorem image_rep {r : Resources} (hb : Aligned r) {t : Node} (ht : IsTree r t) {g : Group} {G : GroupSpec}
    (h : GroupRep r g G) (id : Nat) : FRelG (RepBytes r) (g.image r id) (t.groupImage G id) := by
  rw [image_eq h]
  exact findResource_rep hb ht _ _

end Pelite.Resources
