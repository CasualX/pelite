import PeliteModel.Lemmas.PatternGrammarRT
/-!
# White space normalisation of pattern trees

`normItems p` drops the empty `ws` items of `p` and merges adjacent ones, at every nesting level.  It is the
tree the reference reader assigns to every rendering of `p` (`readPat_render_norm`), it has the same renderings,
the same reference code (`comp`), the same slot numbering and it is well formed when `p` is.

Each fact is one `normItems.mutual_induct`: sequences ∧ alternatives.
-/
namespace Pelite.PatSem
open Pelite.Pattern

/-- put the white space `s` in front of an (already normal) sequence -/
def consWs (s : List UInt8) : List Item → List Item
  | .ws t :: r => .ws (s ++ t) :: r
  | r => if s.isEmpty then r else .ws s :: r

mutual
def normItems : List Item → List Item
  | [] => []
  | .ws s :: r => consWs s (normItems r)
  | .group j g body :: r => .group j g (normItems body) :: normItems r
  | .alt bs :: r => .alt (normAlts bs) :: normItems r
  | it :: r => it :: normItems r
def normAlts : List (List Item) → List (List Item)
  | [] => []
  | b :: bs => normItems b :: normAlts bs
end

def wsNorm (p : Pat) : Pat := normItems p

/-- `consWs s r` is `.ws s :: r` to whoever cannot tell adjacent `ws` from their concatenation and ignores an empty one -/
theorem consWs_elim {α : Type} (f : List Item → α)
    (merge : ∀ s t r, f (.ws (s ++ t) :: r) = f (.ws s :: .ws t :: r)) (drop : ∀ r, f (.ws [] :: r) = f r)
    (s : List UInt8) (r : List Item) : f (consWs s r) = f (.ws s :: r) := by
  unfold consWs
  split
  · exact merge _ _ _
  · split
    · next h => rw [List.isEmpty_iff.mp h, drop]
    · rfl

theorem render_consWs (sty : Style) (s : List UInt8) (r : List Item) :
    render sty (consWs s r) = s ++ render sty r :=
  consWs_elim (render sty) (by simp [render, renderItem]) (by simp [render, renderItem]) s r

theorem comp_consWs (s : List UInt8) (r : List Item) (k : Nat) (pend : Option Nat) :
    comp k pend (consWs s r) = comp k pend r :=
  (consWs_elim (comp k pend) (by simp only [comp, implies_true]) (by simp only [comp, implies_true]) s r).trans (by rw [comp])

theorem slots_consWs (s : List UInt8) (r : List Item) (k : Nat) :
    slotsItems k (consWs s r) = slotsItems k r :=
  consWs_elim (slotsItems k) (fun _ _ _ => rfl) (fun _ => rfl) s r

theorem offs_consWs (s : List UInt8) (r : List Item) (k : Nat) :
    offsItems k (consWs s r) = offsItems k r :=
  consWs_elim (offsItems k) (fun _ _ _ => rfl) (fun _ => rfl) s r

theorem wf_consWs (d : Nat) (s : List UInt8) (r : List Item) :
    wfItems d (consWs s r) = (s.all isWsByte && wfItems d r) :=
  consWs_elim (wfItems d) (by simp [wfItems, wfItem, Bool.and_assoc]) (by simp [wfItems, wfItem]) s r

theorem consWs_of_head {s : List UInt8} {r : List Item} (hs : s ≠ []) (hr : headIsWs r = false) :
    consWs s r = .ws s :: r := by
  unfold consWs
  split
  · simp [headIsWs, Item.isWs] at hr
  · simp [hs]

theorem wsNorm_consWs (s : List UInt8) (r : List Item) (hr : wsNormItems r = true) :
    wsNormItems (consWs s r) = true := by
  unfold consWs
  split
  · next t r' =>
    obtain ⟨h1, h2, h3⟩ := wsNorm_cons hr
    have ht : t ≠ [] := by simpa [wsNormItem] using h1
    simp [wsNormItems, wsNormItem, Item.isWs, h2 rfl, h3, ht]
  · next hne =>
    split
    · exact hr
    · next hs =>
      have hh : headIsWs r = false := by
        cases r with
        | nil => rfl
        | cons it r' => cases it <;> first | rfl | exact absurd rfl (hne _ _)
      simp [wsNormItems, wsNormItem, Item.isWs, hh, hr, hs]

/-! ## The normal form has the same renderings, slots, code; it is normal and well formed -/

theorem normAlts_eq_nil {bs : List (List Item)} : normAlts bs = [] ↔ bs = [] := by
  cases bs <;> simp [normAlts]

theorem render_norm_both (sty : Style) :
    (∀ items, render sty (normItems items) = render sty items) ∧
    (∀ bs, renderAlts sty (normAlts bs) = renderAlts sty bs) := by
  refine normItems.mutual_induct _ _ ?_ ?_ ?_ ?_ ?_ ?_ ?_
  · rw [normItems]
  · intro s r ih; rw [normItems, render_consWs, ih]; rfl
  · intro j g body r ihb ihr; rw [normItems]; simp only [render, renderItem, ihb, ihr]
  · intro bs r ihb ihr; rw [normItems]; simp only [render, renderItem, ihb, ihr]
  · intro it r h1 h2 h3 ih; rw [normItems.eq_5 it r h1 h2 h3]; simp only [render, ih]
  · rw [normAlts]
  · intro b bs ihb ihbs
    rw [normAlts, renderAlts_cons, renderAlts_cons, ihb, ihbs]; simp only [normAlts_eq_nil]

theorem renderAlts_norm (sty : Style) : ∀ bs : List (List Item), renderAlts sty (normAlts bs) = renderAlts sty bs :=
  (render_norm_both sty).2

theorem slots_norm_both :
    (∀ items k, slotsItems k (normItems items) = slotsItems k items) ∧
    (∀ bs k, slotsAlts k (normAlts bs) = slotsAlts k bs) := by
  refine normItems.mutual_induct _ _ ?_ ?_ ?_ ?_ ?_ ?_ ?_
  · rw [normItems]; intro; rfl
  · intro s r ih k; rw [normItems, slots_consWs, ih]; rfl
  · intro j g body r ihb ihr k; rw [normItems]; simp only [slotsItems, slotsItem, ihb, ihr]
  · intro bs r ihb ihr k; rw [normItems]; simp only [slotsItems, slotsItem, ihb, ihr]
  · intro it r h1 h2 h3 ih k; rw [normItems.eq_5 it r h1 h2 h3]; simp only [slotsItems, ih]
  · rw [normAlts]; intro; rfl
  · intro b bs ihb ihbs k; rw [normAlts]; simp only [slotsAlts, ihb, ihbs]

theorem slots_norm (items : List Item) (k : Nat) : slotsItems k (normItems items) = slotsItems k items :=
  slots_norm_both.1 items k
theorem slotsAlts_norm (bs : List (List Item)) (k : Nat) : slotsAlts k (normAlts bs) = slotsAlts k bs :=
  slots_norm_both.2 bs k

theorem comp_cons_congr (it : Item) {r r' : List Item} (h : ∀ k pend, comp k pend r = comp k pend r')
    (k : Nat) (pend : Option Nat) : comp k pend (it :: r) = comp k pend (it :: r') := by
  cases it <;> cases pend <;> simp only [comp, h]

theorem comp_norm_both :
    (∀ items k pend, comp k pend (normItems items) = comp k pend items) ∧
    (∀ bs k, compAlts k (normAlts bs) = compAlts k bs) := by
  refine normItems.mutual_induct _ _ ?_ ?_ ?_ ?_ ?_ ?_ ?_
  · rw [normItems]; intros; rfl
  · intro s r ih k pend; rw [normItems, comp_consWs, ih, comp]
  · intro j g body r ihb ihr k pend; rw [normItems]; simp only [comp, ihb, ihr, slots_norm]
  · intro bs r ihb ihr k pend; rw [normItems]; simp only [comp, ihb, ihr, slotsAlts_norm]
  · intro it r h1 h2 h3 ih; rw [normItems.eq_5 it r h1 h2 h3]; exact comp_cons_congr it ih
  · rw [normAlts]; intro; rfl
  · intro b bs ihb ihbs k
    rw [normAlts, compAlts_cons, compAlts_cons, ihb, ihbs]; simp only [normAlts_eq_nil]

theorem comp_norm (items : List Item) (k : Nat) (pend : Option Nat) :
    comp k pend (normItems items) = comp k pend items := comp_norm_both.1 items k pend
theorem compAlts_norm (bs : List (List Item)) (k : Nat) : compAlts k (normAlts bs) = compAlts k bs :=
  comp_norm_both.2 bs k

theorem isEmpty_normAlts (bs : List (List Item)) : (normAlts bs).isEmpty = bs.isEmpty := by
  cases bs <;> simp [normAlts]

theorem wf_norm_both :
    (∀ items d, wfItems d (normItems items) = wfItems d items) ∧
    (∀ bs d, wfAlts d (normAlts bs) = wfAlts d bs) := by
  refine normItems.mutual_induct _ _ ?_ ?_ ?_ ?_ ?_ ?_ ?_
  · rw [normItems]; intro; rfl
  · intro s r ih d; rw [normItems, wf_consWs, ih]; rfl
  · intro j g body r ihb ihr d; rw [normItems]; simp only [wfItems, wfItem, ihb, ihr]
  · intro bs r ihb ihr d; rw [normItems]; simp only [wfItems, wfItem, ihb, ihr, isEmpty_normAlts]
  · intro it r h1 h2 h3 ih d; rw [normItems.eq_5 it r h1 h2 h3]; simp only [wfItems, ih]
  · rw [normAlts]; intro; rfl
  · intro b bs ihb ihbs d; rw [normAlts]; simp only [wfAlts, ihb, ihbs]

theorem wf_norm (items : List Item) (d : Nat) (h : wfItems d items = true) : wfItems d (normItems items) = true :=
  (wf_norm_both.1 items d).trans h
theorem wfAlts_norm : ∀ (bs : List (List Item)) (d : Nat), wfAlts d bs = true → wfAlts d (normAlts bs) = true :=
  fun bs d h => (wf_norm_both.2 bs d).trans h

theorem offs_norm_both :
    (∀ items k, offsItems k (normItems items) = offsItems k items) ∧
    (∀ bs k, offsAlts k (normAlts bs) = offsAlts k bs) := by
  refine normItems.mutual_induct _ _ ?_ ?_ ?_ ?_ ?_ ?_ ?_
  · rw [normItems]; intro; rfl
  · intro s r ih k; rw [normItems, offs_consWs, ih]; rfl
  · intro j g body r ihb ihr k; rw [normItems]; simp only [offsItems, offsItem, slotsItem, ihb, ihr, slots_norm]
  · intro bs r ihb ihr k; rw [normItems]; simp only [offsItems, offsItem, slotsItem, ihb, ihr, slotsAlts_norm]
  · intro it r h1 h2 h3 ih k; rw [normItems.eq_5 it r h1 h2 h3]; simp only [offsItems, ih]
  · rw [normAlts]; intro; rfl
  · intro b bs ihb ihbs k
    rw [normAlts, offsAlts_cons, offsAlts_cons, ihb, ihbs, compAlts_norm, code, code, comp_norm]
    simp only [normAlts_eq_nil]

theorem offsAlts_norm : ∀ (bs : List (List Item)) (k : Nat), offsAlts k (normAlts bs) = offsAlts k bs :=
  offs_norm_both.2

theorem normal_norm_both :
    (∀ items, wsNormItems (normItems items) = true) ∧ (∀ bs, wsNormAlts (normAlts bs) = true) := by
  refine normItems.mutual_induct _ _ ?_ ?_ ?_ ?_ ?_ ?_ ?_
  · rw [normItems]; rfl
  · intro s r ih; rw [normItems]; exact wsNorm_consWs s _ ih
  · intro j g body r ihb ihr; rw [normItems]; simp [wsNormItems, wsNormItem, Item.isWs, ihb, ihr]
  · intro bs r ihb ihr; rw [normItems]; simp [wsNormItems, wsNormItem, Item.isWs, ihb, ihr]
  · intro it r h1 h2 h3 ih
    rw [normItems.eq_5 it r h1 h2 h3]
    cases it <;> first
      | exact (h1 _ rfl).elim | exact (h2 _ _ _ rfl).elim | exact (h3 _ rfl).elim
      | simp [wsNormItems, wsNormItem, Item.isWs, ih]
  · rw [normAlts]; rfl
  · intro b bs ihb ihbs; rw [normAlts]; simp [wsNormAlts, ihb, ihbs]

theorem normalAlts_norm : ∀ bs : List (List Item), wsNormAlts (normAlts bs) = true :=
  normal_norm_both.2

theorem norm_of_normal_both :
    (∀ items, wsNormItems items = true → normItems items = items) ∧
    (∀ bs, wsNormAlts bs = true → normAlts bs = bs) := by
  refine normItems.mutual_induct _ _ ?_ ?_ ?_ ?_ ?_ ?_ ?_
  · intro; rw [normItems]
  · intro s r ih h
    obtain ⟨h1, h2, h3⟩ := wsNorm_cons h
    rw [normItems, ih h3, consWs_of_head (by simpa [wsNormItem] using h1) (h2 rfl)]
  · intro j g body r ihb ihr h
    obtain ⟨h1, _, h3⟩ := wsNorm_cons h
    rw [normItems, ihb (by simpa [wsNormItem] using h1), ihr h3]
  · intro bs r ihb ihr h
    obtain ⟨h1, _, h3⟩ := wsNorm_cons h
    rw [normItems, ihb (by simpa [wsNormItem] using h1), ihr h3]
  · intro it r h1 h2 h3 ih h; rw [normItems.eq_5 it r h1 h2 h3, ih (wsNorm_cons h).2.2]
  · intro; rw [normAlts]
  · intro b bs ihb ihbs h
    simp only [wsNormAlts, Bool.and_eq_true] at h
    rw [normAlts, ihb h.1, ihbs h.2]

theorem normAlts_of_normal : ∀ bs : List (List Item), wsNormAlts bs = true → normAlts bs = bs :=
  norm_of_normal_both.2

/-! ## Summary for whole patterns -/

theorem render_wsNorm (sty : Style) (p : Pat) : render sty (wsNorm p) = render sty p := (render_norm_both sty).1 p

theorem compile_wsNorm (p : Pat) : compile (wsNorm p) = compile p := by
  simp only [compile, compileRaw, code, wsNorm, comp_norm]

theorem WF_wsNorm (p : Pat) (h : WF p = true) : WF (wsNorm p) = true := by
  simp only [WF, wsNorm, wf_norm_both.1, slots_norm, offs_norm_both.1] at h ⊢
  exact h

theorem wsNormal_wsNorm (p : Pat) : wsNormal (wsNorm p) = true := normal_norm_both.1 p

theorem wsNorm_of_wsNormal (p : Pat) (h : wsNormal p = true) : wsNorm p = p := norm_of_normal_both.1 p h

theorem readPat_render_norm (sty : Style) (p : Pat) (d : Nat) (hwf : wfItems d p = true) :
    readPat (render sty p) = some (wsNorm p) := by
  rw [← render_wsNorm]
  exact readPat_render sty _ d (wf_norm p d hwf) (wsNormal_wsNorm p)

end Pelite.PatSem
