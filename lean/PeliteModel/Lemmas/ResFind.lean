import PeliteModel.Lemmas.ResRep
import PeliteModel.Lemmas.ResName
/-!
C12: the find API — the algebra of `?`, "first match in stored order", totality on arbitrary bytes (`ValP`), and the
lookups on a section that represents a tree against the lookups on the tree (`FRelG`, one `_rep` lemma per operation).
-/
namespace Pelite.Resources
open Pelite

/-! ### the algebra of `?` -/

theorem bindF_okF {α : Type} (x : Out (FRes α)) : bindF x okF = x := by
  cases x with
  | ok v => cases v <;> rfl
  | _ => rfl

theorem bindF_assoc {α β γ : Type} (x : Out (FRes α)) (f : α → Out (FRes β)) (g : β → Out (FRes γ)) :
    bindF (bindF x f) g = bindF x fun a => bindF (f a) g := by
  cases x with
  | ok v => cases v <;> rfl
  | _ => rfl

theorem bindF_liftE {α β γ : Type} (x : Out α) (f : α → Out (FRes β)) (g : β → Out (FRes γ)) :
    bindF (liftE x f) g = liftE x fun a => bindF (f a) g := by
  cases x <;> rfl

theorem liftE_ok {α β : Type} (a : α) (f : α → Out (FRes β)) : liftE (.ok a) f = f a := rfl

theorem liftE_congr {α β : Type} (x : Out α) {f g : α → Out (FRes β)} (h : ∀ a, f a = g a) : liftE x f = liftE x g :=
  congrArg (liftE x) (funext h)

theorem bindF_eq_ok {α β : Type} {x : Out (FRes α)} {f : α → Out (FRes β)} {res : FRes β} :
    bindF x f = .ok res ↔ (∃ a, x = .ok (.ok a) ∧ f a = .ok res) ∨ ∃ e, x = .ok (.error e) ∧ res = .error e := by
  cases x with
  | ok v => cases v <;> simp [bindF, eq_comm]
  | _ => simp [bindF]

theorem bindF_eq_okok {α β : Type} {x : Out (FRes α)} {f : α → Out (FRes β)} {b : β} :
    bindF x f = .ok (.ok b) ↔ ∃ a, x = .ok (.ok a) ∧ f a = .ok (.ok b) := by
  simp [bindF_eq_ok]

theorem bindF_eq_okerr {α β : Type} {x : Out (FRes α)} {f : α → Out (FRes β)} {e : FindError} :
    bindF x f = .ok (.error e) ↔ x = .ok (.error e) ∨ ∃ a, x = .ok (.ok a) ∧ f a = .ok (.error e) := by
  simp [bindF_eq_ok, or_comm]

theorem liftE_eq_ok {α β : Type} {x : Out α} {f : α → Out (FRes β)} {res : FRes β} :
    liftE x f = .ok res ↔ (∃ a, x = .ok a ∧ f a = .ok res) ∨ ∃ e, x = .err e ∧ res = .error (.pe e) := by
  cases x <;> simp [liftE, eq_comm]

/-! ### safety: the find API always produces a Rust value -/

def EntryOK (r : Resources) : Entry → Prop
  | .dir d => DirOK r d
  | .data _ => True

theorem entry_entryOK {r : Resources} (hb : Aligned r) {e : DirEntry} {en : Entry} (h : e.entry r = .ok en) : EntryOK r en := by
  cases en with
  | dir d => exact (entry_dir_ok hb h).1
  | data de => trivial

theorem isVal_liftE {α β : Type} {x : Out α} {f : α → Out (FRes β)} (hx : Safe x) (hf : ∀ a, x = .ok a → IsVal (f a)) :
    IsVal (liftE x f) := by
  rcases hx.ok_or_err with ⟨a, rfl⟩ | ⟨e, rfl⟩
  · exact hf a rfl
  · trivial

theorem isVal_bindF {α β : Type} {x : Out (FRes α)} {f : α → Out (FRes β)} (hx : IsVal x)
    (hf : ∀ a, x = .ok (.ok a) → IsVal (f a)) : IsVal (bindF x f) := by
  obtain ⟨v, rfl⟩ := hx.ok
  cases v with
  | ok a => exact hf a rfl
  | error e => trivial

/-- totality of a lookup whose `Ok` value carries the invariant `P` the next call relies on -/
def ValP {α : Type} (P : α → Prop) (x : Out (FRes α)) : Prop := IsVal x ∧ ∀ a, x = .ok (.ok a) → P a

theorem ValP.okF {α : Type} {P : α → Prop} {a : α} (h : P a) : ValP P (okF a) :=
  ⟨trivial, fun _ h' => by cases h'; exact h⟩

theorem ValP.failF {α : Type} {P : α → Prop} {e : FindError} : ValP P (failF e) := ⟨trivial, fun _ h => by cases h⟩

theorem ValP.bindF {α β : Type} {P : α → Prop} {Q : β → Prop} {x : Out (FRes α)} {f : α → Out (FRes β)}
    (hx : ValP P x) (hf : ∀ a, P a → ValP Q (f a)) : ValP Q (bindF x f) := by
  obtain ⟨v, rfl⟩ := hx.1.ok
  cases v with
  | ok a => exact hf a (hx.2 a rfl)
  | error e => exact .failF

theorem ValP.liftE {α β : Type} {Q : β → Prop} {x : Out α} {f : α → Out (FRes β)}
    (hx : Safe x) (hf : ∀ a, x = .ok a → ValP Q (f a)) : ValP Q (liftE x f) := by
  rcases hx.ok_or_err with ⟨a, rfl⟩ | ⟨e, rfl⟩
  · exact hf a rfl
  · exact .failF

/-! ### "the first entry whose name matches" (for arbitrary section bytes) -/

/-- the comparison `de.name() == Ok(q)` of the lookups -/
def entryMatches (r : Resources) (q : Name) (e : DirEntry) : Prop := ∃ nm, e.getName r = .ok nm ∧ nm.eq q = true

/-- `de.name() == Ok(q)` as a boolean -/
def nameIs (r : Resources) (q : Name) (e : DirEntry) : Bool :=
  match e.getName r with
  | .ok nm => nm.eq q
  | _ => false

theorem nameIs_iff (r : Resources) (q : Name) (e : DirEntry) : nameIs r q e = true ↔ entryMatches r q e := by
  unfold nameIs entryMatches
  cases h : e.getName r with
  | ok nm => simp
  | _ => simp

theorem firstMatch_eq_find {r : Resources} (hb : Aligned r) (q : Name) : ∀ es : List DirEntry,
    firstMatch r q es = .ok (es.find? (nameIs r q))
  | [] => rfl
  | e :: rest => by
    have hs := safe_getName hb e
    rw [List.find?_cons]
    unfold firstMatch
    rw [firstMatch_eq_find hb q rest]
    unfold nameIs
    revert hs
    cases e.getName r with
    | ok nm => intro _; cases h : nm.eq q <;> simp [h]
    | err _ => intro _; rfl
    | _ => exact False.elim

theorem find_nameIs_some {r : Resources} {q : Name} {es : List DirEntry} {e : DirEntry} :
    es.find? (nameIs r q) = some e ↔
      ∃ pre post, es = pre ++ e :: post ∧ entryMatches r q e ∧ ∀ x ∈ pre, ¬ entryMatches r q x := by
  simp only [List.find?_eq_some_iff_append, Bool.not_eq_eq_eq_not, Bool.not_true, ← Bool.not_eq_true, nameIs_iff]
  exact ⟨fun ⟨h, pre, post, h1, h2⟩ => ⟨pre, post, h1, h, h2⟩, fun ⟨pre, post, h1, h, h2⟩ => ⟨h, pre, post, h1, h2⟩⟩

theorem find_nameIs_none {r : Resources} {q : Name} {es : List DirEntry} :
    es.find? (nameIs r q) = none ↔ ∀ x ∈ es, ¬ entryMatches r q x := by
  simp only [List.find?_eq_none, nameIs_iff]

/-! ### one level, in closed form (4-aligned section, directory handed out by the code) -/

def resolve (r : Resources) : Option DirEntry → Out (FRes Entry)
  | some e => liftE (e.entry r) okF
  | none => failF .notFound

theorem resolve_eq_okok {r : Resources} {o : Option DirEntry} {en : Entry} :
    resolve r o = .ok (.ok en) ↔ ∃ e, o = some e ∧ e.entry r = .ok en := by
  cases o <;> simp [resolve, failF, okF, liftE_eq_ok]

theorem resolve_eq_okerr {r : Resources} {o : Option DirEntry} {fe : FindError} :
    resolve r o = .ok (.error fe) ↔ (fe = .notFound ∧ o = none) ∨ ∃ e err, o = some e ∧ e.entry r = .err err ∧ fe = .pe err := by
  cases o with
  | none => simp [resolve, failF, eq_comm]
  | some e => simp [resolve, okF, liftE_eq_ok]

theorem lookup_of_entries {r : Resources} (hb : Aligned r) {d : Dir} {l : List DirEntry} (h : d.entries r = .ok l) (q : Name) :
    lookup r d q = resolve r (l.find? (nameIs r q)) := by
  unfold lookup
  rw [h]
  dsimp only
  rw [firstMatch_eq_find hb]
  cases l.find? (nameIs r q) <;> rfl

theorem first_of_entries {r : Resources} {d : Dir} {l : List DirEntry} (h : d.entries r = .ok l) :
    d.first r = resolve r l.head? := by
  unfold Dir.first
  rw [h]
  cases l <;> rfl

theorem valP_resolve {r : Resources} (hb : Aligned r) : ∀ o : Option DirEntry, ValP (EntryOK r) (resolve r o)
  | none => .failF
  | some e => .liftE (safe_entry hb e) fun _ h => .okF (entry_entryOK hb h)

theorem valP_lookup {r : Resources} (hb : Aligned r) {d : Dir} (hd : DirOK r d) (q : Name) :
    ValP (EntryOK r) (lookup r d q) := by
  rw [lookup_of_entries hb (entries_eq hb hd)]; exact valP_resolve hb _

theorem valP_first {r : Resources} (hb : Aligned r) {d : Dir} (hd : DirOK r d) : ValP (EntryOK r) (d.first r) := by
  rw [first_of_entries (entries_eq hb hd)]; exact valP_resolve hb _

theorem isVal_asData (en : Entry) : IsVal (asData en) := by cases en <;> trivial
theorem isVal_asDir (en : Entry) : IsVal (asDir en) := by cases en <;> trivial

theorem valP_asDir {r : Resources} : ∀ en : Entry, EntryOK r en → ValP (DirOK r) (asDir en)
  | .dir _, h => .okF h
  | .data _, _ => .failF

theorem valP_getDir {r : Resources} (hb : Aligned r) {d : Dir} (hd : DirOK r d) (q : Name) :
    ValP (DirOK r) (d.getDir r q) := (valP_lookup hb hd q).bindF valP_asDir

theorem isVal_get {r : Resources} (hb : Aligned r) {d : Dir} (hd : DirOK r d) (q : Name) : IsVal (d.get r q) :=
  (valP_lookup hb hd q).1

theorem isVal_getData {r : Resources} (hb : Aligned r) {d : Dir} (hd : DirOK r d) (q : Name) : IsVal (d.getData r q) :=
  isVal_bindF (valP_lookup hb hd q).1 (fun a _ => isVal_asData a)

theorem isVal_firstData {r : Resources} (hb : Aligned r) {d : Dir} (hd : DirOK r d) : IsVal (d.firstData r) :=
  isVal_bindF (valP_first hb hd).1 (fun a _ => isVal_asData a)

theorem valP_firstDir {r : Resources} (hb : Aligned r) {d : Dir} (hd : DirOK r d) :
    ValP (DirOK r) (d.firstDir r) := (valP_first hb hd).bindF valP_asDir

theorem findParts_cons (r : Resources) (part : List Nat) (rest : List (List Nat)) (en : Entry) :
    findParts r (part :: rest) en =
      match utf8Chars part with
      | none => failF .bad8Path
      | some _ =>
        match en with
        | .dir d => bindF (lookup r d (.str part)) (findParts r rest)
        | .data _ => failF .unDataEntry := by
  unfold findParts
  cases utf8Chars part with
  | none => rfl
  | some cs =>
    cases en with
    | data de => rfl
    | dir d =>
      dsimp only
      unfold lookup
      cases d.entries r with
      | ok es =>
        dsimp only
        cases firstMatch r (.str part) es with
        | ok o =>
          cases o with
          | none => rfl
          | some child => dsimp only; rw [bindF_liftE]; rfl
        | _ => rfl
      | _ => rfl

theorem valP_findResources {r : Resources} (hb : Aligned r) (ty name : Name) :
    ValP (DirOK r) (findResources r ty name) :=
  .liftE (safe_root hb) fun _ h0 => (valP_getDir hb (root_ok hb h0) ty).bindF fun _ ht => valP_getDir hb ht name

theorem isVal_bytesF (r : Resources) (de : DataEntry) : IsVal (liftE (de.bytes r) (okF (α := Ref))) :=
  isVal_liftE (safe_bytes r de) (fun _ _ => trivial)

theorem isVal_findResource {r : Resources} (hb : Aligned r) (ty name : Name) : IsVal (findResource r ty name) :=
  have h := valP_findResources hb ty name
  isVal_bindF h.1 fun n hn => isVal_bindF (isVal_firstData hb (h.2 n hn)) fun de _ => isVal_bytesF r de

theorem isVal_findResourceEx {r : Resources} (hb : Aligned r) (ty name lang : Name) : IsVal (findResourceEx r ty name lang) :=
  have h := valP_findResources hb ty name
  isVal_bindF h.1 fun n hn => isVal_bindF (isVal_getData hb (h.2 n hn) lang) fun de _ => isVal_bytesF r de

theorem isVal_versionBytes {r : Resources} (hb : Aligned r) : IsVal (versionBytes r) := isVal_findResource hb _ _

theorem isVal_versionInfo {r : Resources} (hb : Aligned r) : IsVal (versionInfo r) := by
  refine isVal_bindF (isVal_versionBytes hb) (fun b _ => ?_)
  split <;> trivial

theorem isVal_manifest {r : Resources} (hb : Aligned r) : IsVal (manifest r) := by
  refine isVal_liftE (safe_root hb) fun d hd => ?_
  have h1 := valP_getDir hb (root_ok hb hd) (.id RT_MANIFEST)
  refine isVal_bindF h1.1 fun m hm => ?_
  have h2 := valP_firstDir hb (h1.2 m hm)
  refine isVal_bindF h2.1 fun l hl => isVal_bindF (isVal_firstData hb (h2.2 l hl)) fun de _ => ?_
  refine isVal_liftE (safe_bytes r de) (fun b _ => ?_)
  cases utf8Chars ((bytesAt r.sec b.off b.len).map UInt8.toNat) <;> trivial

/-! ### lookups on a section that represents a tree -/

/-- the code's `Result` corresponds to the specification's: same error, or related values -/
def FRelG {α β : Type} (R : α → β → Prop) (o : Out (FRes α)) (s : FRes β) : Prop :=
  match s with
  | .ok b => ∃ a, o = .ok (.ok a) ∧ R a b
  | .error e => o = .ok (.error e)

theorem FRelG.bind {α β α' β' : Type} {R : α → β → Prop} {R' : α' → β' → Prop} {o : Out (FRes α)} {s : FRes β}
    {f : α → Out (FRes α')} {g : β → FRes β'} (h : FRelG R o s) (hf : ∀ a b, R a b → FRelG R' (f a) (g b)) :
    FRelG R' (bindF o f) (s.bind g) := by
  cases s with
  | ok b =>
    obtain ⟨a, h1, h2⟩ := h
    rw [h1]
    exact hf a b h2
  | error e =>
    rw [show o = .ok (.error e) from h]
    rfl

/-- the same when the specification has nothing more to do -/
theorem FRelG.bind_ok {α β α' : Type} {R : α → β → Prop} {R' : α' → β → Prop} {o : Out (FRes α)} {s : FRes β}
    {f : α → Out (FRes α')} (h : FRelG R o s) (hf : ∀ a b, R a b → FRelG R' (f a) (Except.ok b)) :
    FRelG R' (bindF o f) s := by
  have := h.bind (g := Except.ok) hf
  rwa [show s.bind Except.ok = s by cases s <;> rfl] at this

theorem FRelG.liftE {α α' β' : Type} {R' : α' → β' → Prop} {x : Out α} {a : α} {f : α → Out (FRes α')} {s : FRes β'}
    (hx : x = .ok a) (h : FRelG R' (f a) s) : FRelG R' (liftE x f) s := by
  rw [hx]; exact h

theorem NameAt.nameIs {r : Resources} (hb : Aligned r) {e : DirEntry} {nm : RName} (h : NameAt r e.name nm) (q : Name) :
    nameIs r q e = nameMatch nm q := by
  unfold Resources.nameIs
  rw [getName_of_nameAt hb h]
  exact eq_eq_nameMatch nm q (nameAt_inRange h)

section
variable {r : Resources} {R : Entry → Node → Prop}

theorem find_rep_entries (hb : Aligned r) (q : Name) {n : Nat} {l : List DirEntry} {es : Entries}
    (h : EntriesRep r R l es) : FRelG R (resolve r (l.find? (nameIs r q))) ((Node.dir n es).get q) := by
  induction h with
  | nil => rfl
  | @cons e l nm ch rest en hname hentry hrep _ ih =>
    show FRelG _ _ (match (if nameMatch nm q then some ch else rest.lookup q) with | some c => .ok c | none => .error .notFound)
    rw [List.find?_cons, hname.nameIs hb]
    cases nameMatch nm q with
    | true => exact ⟨en, by show liftE (e.entry r) okF = _; rw [hentry]; rfl, hrep⟩
    | false => exact ih

theorem lookup_rep (hR : RepLike r R) (hb : Aligned r) {d : Dir} {t : Node} (h : R (.dir d) t) (q : Name) :
    FRelG R (lookup r d q) (t.get q) := by
  cases t with
  | data c cp => exact (hR.rep h).elim
  | dir n es =>
    obtain ⟨l, hl, hrep⟩ := hR.entries h
    rw [lookup_of_entries hb hl]
    exact find_rep_entries hb q hrep

theorem first_rep (hR : RepLike r R) {d : Dir} {t : Node} (h : R (.dir d) t) : FRelG R (d.first r) t.first := by
  cases t with
  | data c cp => exact (hR.rep h).elim
  | dir n es =>
    obtain ⟨l, hl, hrep⟩ := hR.entries h
    rw [first_of_entries hl]
    cases hrep with
    | nil => rfl
    | cons _ hentry hrep _ => exact ⟨_, by show liftE (DirEntry.entry r _) okF = _; rw [hentry]; rfl, hrep⟩

theorem asDir_rep (hR : RepLike r R) {en : Entry} {t : Node} (h : R en t) :
    FRelG (fun d t => R (.dir d) t) (asDir en) t.asDir := by
  have h' := hR.rep h
  cases en with
  | dir d => cases t with
    | dir n es => exact ⟨d, rfl, h⟩
    | data c cp => exact h'.elim
  | data de => cases t with
    | dir n es => exact h'.elim
    | data c cp => rfl

theorem asData_rep (hR : RepLike r R) {en : Entry} {t : Node} (h : R en t) :
    FRelG (fun de t => R (.data de) t) (asData en) t.asData := by
  have h' := hR.rep h
  cases en with
  | dir d => cases t with
    | dir n es => rfl
    | data c cp => exact h'.elim
  | data de => cases t with
    | dir n es => exact h'.elim
    | data c cp => exact ⟨de, rfl, h⟩

theorem getDir_rep (hR : RepLike r R) (hb : Aligned r) {d : Dir} {t : Node} (h : R (.dir d) t) (q : Name) :
    FRelG (fun d t => R (.dir d) t) (d.getDir r q) (t.getDir q) := (lookup_rep hR hb h q).bind fun _ _ => asDir_rep hR
theorem getData_rep (hR : RepLike r R) (hb : Aligned r) {d : Dir} {t : Node} (h : R (.dir d) t) (q : Name) :
    FRelG (fun de t => R (.data de) t) (d.getData r q) (t.getData q) := (lookup_rep hR hb h q).bind fun _ _ => asData_rep hR
theorem firstDir_rep (hR : RepLike r R) {d : Dir} {t : Node} (h : R (.dir d) t) :
    FRelG (fun d t => R (.dir d) t) (d.firstDir r) t.firstDir := (first_rep hR h).bind fun _ _ => asDir_rep hR
theorem firstData_rep (hR : RepLike r R) {d : Dir} {t : Node} (h : R (.dir d) t) :
    FRelG (fun de t => R (.data de) t) (d.firstData r) t.firstData := (first_rep hR h).bind fun _ _ => asData_rep hR

end

theorem findParts_rep {r : Resources} (hb : Aligned r) : ∀ (parts : List (List Nat)) (en : Entry) (t : Node), Rep r en t →
    FRelG (Rep r) (findParts r parts en) (t.walk parts)
  | [], en, t, h => ⟨en, rfl, h⟩
  | part :: rest, en, t, h => by
    rw [findParts_cons]
    unfold Node.walk
    cases utf8Chars part with
    | none => rfl
    | some cs =>
      cases en with
      | data de => cases t with
        | dir n es => exact h.elim
        | data c cp => rfl
      | dir d => cases t with
        | data c cp => exact h.elim
        | dir n es =>
          -- both sides: look the component up in the directory, then walk on from the child
          dsimp only
          have := (lookup_rep (repLike_rep hb) hb (d := d) (t := .dir n es) h (.str part)).bind (findParts_rep hb rest)
          simp only [Node.get] at this
          cases hl : es.lookup (.str part) <;> rw [hl] at this <;> exact this

theorem find_rep {r : Resources} (hb : Aligned r) {t : Node} (h : IsTree r t) (p : List Nat) :
    FRelG (Rep r) (find r p) (t.find p) := by
  unfold find Node.find
  cases pathSplit p with
  | none => rfl
  | some sp =>
    dsimp only
    split
    · rfl
    · obtain ⟨d, hr, hrep⟩ := root_rep hb h
      exact FRelG.liftE hr (findParts_rep hb _ _ _ hrep)

theorem bytes_rep {r : Resources} (hb : Aligned r) {de : DataEntry} {t : Node} (h : RepData r de t) :
    FRelG (RepBytes r) (liftE (de.bytes r) okF) (Except.ok t) := by
  cases t with
  | dir n es => exact h.elim
  | data c cp =>
    obtain ⟨ref, h1, -, h2⟩ := RepData.bytes hb h
    rw [h1]
    exact ⟨ref, rfl, h2⟩

theorem findResources_rep {r : Resources} (hb : Aligned r) {t : Node} (h : IsTree r t) (ty name : Name) :
    FRelG (RepDir r) (findResources r ty name) (t.findResources ty name) := by
  obtain ⟨d, hr, hrep⟩ := root_rep hb h
  exact FRelG.liftE hr ((getDir_rep (repLike_rep hb) hb hrep ty).bind (fun _ _ h' => getDir_rep (repLike_rep hb) hb h' name))

theorem findResource_rep {r : Resources} (hb : Aligned r) {t : Node} (h : IsTree r t) (ty name : Name) :
    FRelG (RepBytes r) (findResource r ty name) (t.findResource ty name) :=
  (findResources_rep hb h ty name).bind (fun _ _ h1 => (firstData_rep (repLike_rep hb) h1).bind_ok (fun _ _ h2 => bytes_rep hb h2))

theorem findResourceEx_rep {r : Resources} (hb : Aligned r) {t : Node} (h : IsTree r t) (ty name lang : Name) :
    FRelG (RepBytes r) (findResourceEx r ty name lang) (t.findResourceEx ty name lang) :=
  (findResources_rep hb h ty name).bind (fun _ _ h1 => (getData_rep (repLike_rep hb) hb h1 lang).bind_ok (fun _ _ h2 => bytes_rep hb h2))

theorem checkUtf8_rep {r : Resources} (hb : Aligned r) {de : DataEntry} {t : Node} (h : RepData r de t) :
    FRelG (RepBytes r)
      (liftE (de.bytes r) fun b =>
        match utf8Chars ((bytesAt r.sec b.off b.len).map UInt8.toNat) with
        | some _ => okF b
        | none => failF (.pe .encoding))
      t.checkUtf8 := by
  cases t with
  | dir n es => exact h.elim
  | data c cp =>
    obtain ⟨ref, h1, hc, h2⟩ := RepData.bytes hb h
    rw [h1]
    simp only [liftE, hc]
    cases hu : utf8Chars (c.map UInt8.toNat) with
    | none =>
      simp only [Node.checkUtf8, hu]
      rfl
    | some cs =>
      simp only [Node.checkUtf8, hu, Option.isSome_some, if_true]
      exact ⟨ref, rfl, h2⟩

theorem manifest_rep {r : Resources} (hb : Aligned r) {t : Node} (h : IsTree r t) :
    FRelG (RepBytes r) (manifest r) t.manifest := by
  unfold manifest Node.manifest Node.firstData
  obtain ⟨d, hr, hrep⟩ := root_rep hb h
  refine FRelG.liftE hr ?_
  exact (getDir_rep (repLike_rep hb) hb hrep (.id 24)).bind (fun _ _ h1 => (firstDir_rep (repLike_rep hb) h1).bind (fun _ _ h2 =>
    (firstData_rep (repLike_rep hb) h2).bind (fun _ _ h3 => checkUtf8_rep hb h3)))

end Pelite.Resources
