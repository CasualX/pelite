import PeliteModel.Lemmas.Resources
import PeliteModel.Lemmas.Typed
/-!
C12: what `Pe::resources` hands to `Resources::new` — a section inside the image buffer at a 4-aligned address.
-/
namespace Pelite.Resources
open Pelite Pelite.Pe

theorem ofView_ok {v : View} {r : Resources} {secOff : Nat} (h : ofView v = .ok (r, secOff)) :
    Aligned r ∧ secOff + r.sec.size ≤ v.img.bytes.size ∧ r.base = v.img.base + secOff ∧
    ∃ va size, v.dataDir 2 = some (va, size) ∧ r.dirVA = va ∧ r.sec.size ≤ size ∧
      r.sec = v.b.extract secOff (secOff + r.sec.size) := by
  unfold ofView at h
  cases hd : v.dataDir 2 with
  | none => rw [hd] at h; cases h
  | some p =>
    obtain ⟨va, size⟩ := p
    rw [hd] at h
    dsimp only at h
    cases hs : v.slice va 0 4 with
    | ok ref =>
      rw [hs] at h
      simp only [Out.ok.injEq, Prod.mk.injEq] at h
      obtain ⟨rfl, rfl⟩ := h
      -- `slice(va, 0, 4)` is the RVA read of the view: inside the buffer, at a 4-aligned address
      obtain ⟨⟨h2, h1⟩, -, ha⟩ := v.at_sound (.rva va) 0 4 ref hs
      rw [ha] at h1
      have hsz : (v.b.extract ref.off (ref.off + min size ref.len)).size = min size ref.len := by
        simp only [Array.size_extract]
        have : v.b.size = v.img.bytes.size := rfl
        omega
      refine ⟨h1, ?_, rfl, va, size, rfl, rfl, ?_, ?_⟩
      · show ref.off + (v.b.extract ref.off (ref.off + min size ref.len)).size ≤ v.img.bytes.size
        rw [hsz]; omega
      · show (v.b.extract ref.off (ref.off + min size ref.len)).size ≤ size
        rw [hsz]; omega
      · show v.b.extract ref.off (ref.off + min size ref.len) = v.b.extract ref.off (ref.off + (v.b.extract ref.off (ref.off + min size ref.len)).size)
        rw [hsz]
    | _ => rw [hs] at h; cases h

/-- the form in which `Pe::resources` is evaluated on a hand-built image (`extract_eq_window`, Prim/Basic) -/
theorem ofView_window (v : View) : ofView v =
    match v.dataDir 2 with
    | none => .err .null
    | some (va, size) =>
      match v.slice va 0 4 with
      | .ok ref => .ok (⟨⟨(v.b.toList.drop ref.off).take (min size ref.len)⟩, va, v.img.base + ref.off⟩, ref.off)
      | .err e => .err e
      | .panic s => .panic s
      | .ub s => .ub s
      | .diverge => .diverge := by
  unfold ofView
  split
  · next h => rw [h]
  · next va size h =>
    rw [h]
    dsimp only
    split <;> rename_i h2 <;> rw [h2] <;> simp only [extract_eq_window, Nat.add_sub_cancel_left]

theorem ofView_okOrErr (v : View) : OkOrErr (ofView v) := by
  unfold ofView
  split
  · exact okOrErr_err _
  · exact (slice_okOrErr v _ 0 4 (by decide)).elim (fun _ => okOrErr_ok _) (fun _ => okOrErr_err _)

end Pelite.Resources
