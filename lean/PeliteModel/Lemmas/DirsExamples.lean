import PeliteModel.Lemmas.Dirs
/-!
Concrete images for the non-vacuity examples of C15 (`Thm/C15.lean`): every hypothesis of a C15 theorem is
shown satisfiable on one of them, and the model's answers on them are the ones the real library gives
(the generator `gen_dirs.gen_dirs_examples` reads the byte arrays out of THIS file and replays them, and two of the
variants the examples derive from them — `demoBytes` with byte 180 set to 9, `demoBytes64` with bytes 536 / 537 set —
through the model driver and the Rust harness on every check; the other `set!` variants of the examples are model-only).

* `demoBytes`     — 616-byte PE32 image without sections, all five directories (mapped view `demoView`, file
  view `demoFile` for the certificate table): exception table at 320 (records [100,116) with unwind info at 312,
  [116,116), [132,148)), CodeView RSDS record at 356 ("a.pdb"), POGO data at 388 (".text", ".rdata$zz"), debug
  directory at 428 (2 entries), TLS template / slot / callbacks at 484 / 488 / 492, TLS directory at 504, load
  config at 528, certificate at 600;
* `demoBytes64`   — 664-byte PE32+ image without sections (`demoView64`, mapped, ImageBase 0x140000000):
  exception table at 336 (records [100,116), [120,130), unwind info at 328), CodeView RSDS record at 360
  ("b.pdb"), CodeView NB10 record at 392 ("c.pdb"), debug directory at 416 (2 entries), TLS template / slot /
  8-byte callbacks at 472 / 480 / 488, IMAGE_TLS_DIRECTORY64 at 512, IMAGE_LOAD_CONFIG_DIRECTORY64 at 552;
* `demoFileBytes` — 480-byte PE32 FILE with one section (.rdata: RVA 0x1000, raw data at file offset 352,
  0x80 bytes): NB10 record at file offset 352 = RVA 0x1000 ("d.pdb"), debug directory at 376 = RVA 0x1018
  (one entry: AddressOfRawData 0x1000, PointerToRawData 352), TLS callbacks at 408 = RVA 0x1038, TLS
  directory at 416 = RVA 0x1040.  In the file view (`demoFile32`) every RVA / VA goes through the section
  table; the same bytes taken as a mapped view (`demoFileAsView`) have nothing at RVA 0x1000.
-/
namespace Pelite.Dirs
open Pelite Pelite.Pe

def demoBytes : Bytes := #[
    77, 90, 0, 0, 0, 0, 0, 0, 0, 0, 0, 0, 0, 0, 0, 0, 0, 0, 0, 0, 0, 0, 0, 0, 0, 0, 0, 0, 0, 0, 0, 0,
    0, 0, 0, 0, 0, 0, 0, 0, 0, 0, 0, 0, 0, 0, 0, 0, 0, 0, 0, 0, 0, 0, 0, 0, 0, 0, 0, 0, 64, 0, 0, 0,
    80, 69, 0, 0, 76, 1, 0, 0, 0, 0, 0, 95, 0, 0, 0, 0, 0, 0, 0, 0, 224, 0, 2, 33, 11, 1, 14, 0, 0, 2, 0, 0,
    0, 2, 0, 0, 0, 0, 0, 0, 0, 16, 0, 0, 0, 16, 0, 0, 0, 32, 0, 0, 0, 0, 64, 0, 0, 16, 0, 0, 0, 2, 0, 0,
    6, 0, 0, 0, 0, 0, 0, 0, 6, 0, 0, 0, 0, 0, 0, 0, 104, 2, 0, 0, 56, 1, 0, 0, 0, 0, 0, 0, 3, 0, 64, 129,
    0, 0, 16, 0, 0, 16, 0, 0, 0, 0, 16, 0, 0, 16, 0, 0, 0, 0, 0, 0, 16, 0, 0, 0, 0, 0, 0, 0, 0, 0, 0, 0,
    0, 0, 0, 0, 0, 0, 0, 0, 0, 0, 0, 0, 0, 0, 0, 0, 64, 1, 0, 0, 36, 0, 0, 0, 88, 2, 0, 0, 16, 0, 0, 0,
    0, 0, 0, 0, 0, 0, 0, 0, 172, 1, 0, 0, 56, 0, 0, 0, 0, 0, 0, 0, 0, 0, 0, 0, 0, 0, 0, 0, 0, 0, 0, 0,
    248, 1, 0, 0, 24, 0, 0, 0, 16, 2, 0, 0, 72, 0, 0, 0, 0, 0, 0, 0, 0, 0, 0, 0, 0, 0, 0, 0, 0, 0, 0, 0,
    0, 0, 0, 0, 0, 0, 0, 0, 0, 0, 0, 0, 0, 0, 0, 0, 0, 0, 0, 0, 0, 0, 0, 0, 1, 2, 1, 0, 5, 66, 0, 0,
    100, 0, 0, 0, 116, 0, 0, 0, 56, 1, 0, 0, 116, 0, 0, 0, 116, 0, 0, 0, 0, 0, 0, 0, 132, 0, 0, 0, 148, 0, 0, 0,
    0, 0, 0, 0, 82, 83, 68, 83, 1, 2, 3, 4, 5, 6, 7, 8, 9, 10, 11, 12, 13, 14, 15, 16, 7, 0, 0, 0, 97, 46, 112, 100,
    98, 0, 0, 0, 76, 84, 67, 71, 0, 16, 0, 0, 16, 0, 0, 0, 46, 116, 101, 120, 116, 0, 0, 0, 0, 32, 0, 0, 32, 0, 0, 0,
    46, 114, 100, 97, 116, 97, 36, 122, 122, 0, 0, 0, 0, 0, 0, 0, 68, 51, 34, 17, 1, 0, 0, 0, 2, 0, 0, 0, 30, 0, 0, 0,
    100, 1, 0, 0, 100, 1, 0, 0, 0, 0, 0, 0, 0, 0, 0, 0, 0, 0, 0, 0, 13, 0, 0, 0, 40, 0, 0, 0, 132, 1, 0, 0,
    132, 1, 0, 0, 170, 187, 204, 221, 5, 0, 0, 0, 100, 0, 64, 0, 132, 0, 64, 0, 0, 0, 0, 0, 228, 1, 64, 0, 232, 1, 64, 0,
    232, 1, 64, 0, 236, 1, 64, 0, 0, 0, 0, 0, 0, 0, 0, 0, 72, 0, 0, 0, 0, 0, 0, 0, 0, 0, 0, 0, 0, 0, 0, 0,
    0, 0, 0, 0, 0, 0, 0, 0, 0, 0, 0, 0, 0, 0, 0, 0, 0, 0, 0, 0, 0, 0, 0, 0, 0, 0, 0, 0, 0, 0, 0, 0,
    0, 0, 0, 0, 0, 0, 0, 0, 0, 0, 0, 0, 232, 1, 64, 0, 236, 1, 64, 0, 2, 0, 0, 0, 16, 0, 0, 0, 0, 2, 2, 0,
    48, 130, 1, 2, 3, 4, 5, 6]

def demoView : View := ⟨⟨demoBytes, 0⟩, .pe32, .view, 0x400000⟩
def demoFile : View := ⟨⟨demoBytes, 0⟩, .pe32, .file, 0x400000⟩

def demoBytes64 : Bytes := #[
    77, 90, 0, 0, 0, 0, 0, 0, 0, 0, 0, 0, 0, 0, 0, 0, 0, 0, 0, 0, 0, 0, 0, 0, 0, 0, 0, 0, 0, 0, 0, 0,
    0, 0, 0, 0, 0, 0, 0, 0, 0, 0, 0, 0, 0, 0, 0, 0, 0, 0, 0, 0, 0, 0, 0, 0, 0, 0, 0, 0, 64, 0, 0, 0,
    80, 69, 0, 0, 100, 134, 0, 0, 0, 0, 0, 95, 0, 0, 0, 0, 0, 0, 0, 0, 240, 0, 34, 32, 11, 2, 14, 0, 0, 2, 0, 0,
    0, 2, 0, 0, 0, 0, 0, 0, 0, 16, 0, 0, 0, 16, 0, 0, 0, 0, 0, 64, 1, 0, 0, 0, 0, 16, 0, 0, 0, 2, 0, 0,
    6, 0, 0, 0, 0, 0, 0, 0, 6, 0, 0, 0, 0, 0, 0, 0, 152, 2, 0, 0, 72, 1, 0, 0, 0, 0, 0, 0, 3, 0, 64, 129,
    0, 0, 16, 0, 0, 0, 0, 0, 0, 16, 0, 0, 0, 0, 0, 0, 0, 0, 16, 0, 0, 0, 0, 0, 0, 16, 0, 0, 0, 0, 0, 0,
    0, 0, 0, 0, 16, 0, 0, 0, 0, 0, 0, 0, 0, 0, 0, 0, 0, 0, 0, 0, 0, 0, 0, 0, 0, 0, 0, 0, 0, 0, 0, 0,
    80, 1, 0, 0, 24, 0, 0, 0, 0, 0, 0, 0, 0, 0, 0, 0, 0, 0, 0, 0, 0, 0, 0, 0, 160, 1, 0, 0, 56, 0, 0, 0,
    0, 0, 0, 0, 0, 0, 0, 0, 0, 0, 0, 0, 0, 0, 0, 0, 0, 2, 0, 0, 40, 0, 0, 0, 40, 2, 0, 0, 112, 0, 0, 0,
    0, 0, 0, 0, 0, 0, 0, 0, 0, 0, 0, 0, 0, 0, 0, 0, 0, 0, 0, 0, 0, 0, 0, 0, 0, 0, 0, 0, 0, 0, 0, 0,
    0, 0, 0, 0, 0, 0, 0, 0, 1, 2, 1, 0, 2, 66, 0, 0, 100, 0, 0, 0, 116, 0, 0, 0, 72, 1, 0, 0, 120, 0, 0, 0,
    130, 0, 0, 0, 72, 1, 0, 0, 82, 83, 68, 83, 17, 18, 19, 20, 21, 22, 23, 24, 25, 26, 27, 28, 29, 30, 31, 32, 9, 0, 0, 0,
    98, 46, 112, 100, 98, 0, 0, 0, 78, 66, 49, 48, 0, 0, 0, 0, 51, 34, 17, 95, 3, 0, 0, 0, 99, 46, 112, 100, 98, 0, 0, 0,
    0, 0, 0, 0, 68, 51, 34, 17, 1, 0, 0, 0, 2, 0, 0, 0, 30, 0, 0, 0, 104, 1, 0, 0, 104, 1, 0, 0, 0, 0, 0, 0,
    136, 119, 102, 85, 2, 0, 0, 0, 2, 0, 0, 0, 22, 0, 0, 0, 136, 1, 0, 0, 136, 1, 0, 0, 161, 162, 163, 164, 165, 166, 167, 168,
    5, 0, 0, 0, 0, 0, 0, 0, 100, 0, 0, 64, 1, 0, 0, 0, 120, 0, 0, 64, 1, 0, 0, 0, 0, 0, 0, 0, 0, 0, 0, 0,
    216, 1, 0, 64, 1, 0, 0, 0, 224, 1, 0, 64, 1, 0, 0, 0, 224, 1, 0, 64, 1, 0, 0, 0, 232, 1, 0, 64, 1, 0, 0, 0,
    0, 0, 0, 0, 0, 0, 0, 0, 112, 0, 0, 0, 0, 0, 0, 0, 0, 0, 0, 0, 0, 0, 0, 0, 0, 0, 0, 0, 0, 0, 0, 0,
    0, 0, 0, 0, 0, 0, 0, 0, 0, 0, 0, 0, 0, 0, 0, 0, 0, 0, 0, 0, 0, 0, 0, 0, 0, 0, 0, 0, 0, 0, 0, 0,
    0, 0, 0, 0, 0, 0, 0, 0, 0, 0, 0, 0, 0, 0, 0, 0, 0, 0, 0, 0, 0, 0, 0, 0, 0, 0, 0, 0, 0, 0, 0, 0,
    224, 1, 0, 64, 1, 0, 0, 0, 232, 1, 0, 64, 1, 0, 0, 0, 2, 0, 0, 0, 0, 0, 0, 0]

def demoFileBytes : Bytes := #[
    77, 90, 0, 0, 0, 0, 0, 0, 0, 0, 0, 0, 0, 0, 0, 0, 0, 0, 0, 0, 0, 0, 0, 0, 0, 0, 0, 0, 0, 0, 0, 0,
    0, 0, 0, 0, 0, 0, 0, 0, 0, 0, 0, 0, 0, 0, 0, 0, 0, 0, 0, 0, 0, 0, 0, 0, 0, 0, 0, 0, 64, 0, 0, 0,
    80, 69, 0, 0, 76, 1, 1, 0, 0, 0, 0, 95, 0, 0, 0, 0, 0, 0, 0, 0, 224, 0, 34, 32, 11, 1, 14, 0, 0, 2, 0, 0,
    0, 2, 0, 0, 0, 0, 0, 0, 0, 16, 0, 0, 0, 16, 0, 0, 0, 32, 0, 0, 0, 0, 64, 0, 0, 16, 0, 0, 0, 2, 0, 0,
    6, 0, 0, 0, 0, 0, 0, 0, 6, 0, 0, 0, 0, 0, 0, 0, 0, 32, 0, 0, 96, 1, 0, 0, 0, 0, 0, 0, 3, 0, 64, 129,
    0, 0, 16, 0, 0, 16, 0, 0, 0, 0, 16, 0, 0, 16, 0, 0, 0, 0, 0, 0, 16, 0, 0, 0, 0, 0, 0, 0, 0, 0, 0, 0,
    0, 0, 0, 0, 0, 0, 0, 0, 0, 0, 0, 0, 0, 0, 0, 0, 0, 0, 0, 0, 0, 0, 0, 0, 0, 0, 0, 0, 0, 0, 0, 0,
    0, 0, 0, 0, 0, 0, 0, 0, 24, 16, 0, 0, 28, 0, 0, 0, 0, 0, 0, 0, 0, 0, 0, 0, 0, 0, 0, 0, 0, 0, 0, 0,
    64, 16, 0, 0, 24, 0, 0, 0, 0, 0, 0, 0, 0, 0, 0, 0, 0, 0, 0, 0, 0, 0, 0, 0, 0, 0, 0, 0, 0, 0, 0, 0,
    0, 0, 0, 0, 0, 0, 0, 0, 0, 0, 0, 0, 0, 0, 0, 0, 0, 0, 0, 0, 0, 0, 0, 0, 46, 114, 100, 97, 116, 97, 0, 0,
    128, 0, 0, 0, 0, 16, 0, 0, 128, 0, 0, 0, 96, 1, 0, 0, 0, 0, 0, 0, 0, 0, 0, 0, 0, 0, 0, 0, 64, 0, 0, 64,
    78, 66, 49, 48, 0, 0, 0, 0, 102, 85, 68, 95, 4, 0, 0, 0, 100, 46, 112, 100, 98, 0, 0, 0, 0, 0, 0, 0, 13, 12, 11, 10,
    1, 0, 0, 0, 2, 0, 0, 0, 22, 0, 0, 0, 0, 16, 0, 0, 96, 1, 0, 0, 0, 0, 0, 0, 16, 16, 64, 0, 0, 0, 0, 0,
    0, 16, 64, 0, 4, 16, 64, 0, 4, 16, 64, 0, 56, 16, 64, 0, 0, 0, 0, 0, 0, 0, 0, 0, 0, 0, 0, 0, 0, 0, 0, 0,
    0, 0, 0, 0, 0, 0, 0, 0, 0, 0, 0, 0, 0, 0, 0, 0, 0, 0, 0, 0, 0, 0, 0, 0, 0, 0, 0, 0, 0, 0, 0, 0]

def demoView64 : View := ⟨⟨demoBytes64, 0⟩, .pe64, .view, 0x140000000⟩
def demoFile32 : View := ⟨⟨demoFileBytes, 0⟩, .pe32, .file, 0x400000⟩
def demoFileAsView : View := ⟨⟨demoFileBytes, 0⟩, .pe32, .view, 0x400000⟩

/-- the three images are accepted by the constructors of their format / kind (and rejected by those of the other
format), also by the format-agnostic ones -/
theorem demo_views_constructed :
    fromBytes .pe32 .view ⟨demoBytes, 0⟩ = .ok demoView ∧ fromBytes .pe32 .file ⟨demoBytes, 0⟩ = .ok demoFile ∧
    fromBytes .pe64 .view ⟨demoBytes64, 0⟩ = .ok demoView64 ∧ fromBytes .pe32 .file ⟨demoFileBytes, 0⟩ = .ok demoFile32 ∧
    fromBytes .pe32 .view ⟨demoBytes64, 0⟩ = .err .peMagic ∧ fromBytes .pe64 .file ⟨demoFileBytes, 0⟩ = .err .peMagic ∧
    wrapFromBytes .view ⟨demoBytes64, 0⟩ = .ok demoView64 ∧ wrapFromBytes .file ⟨demoFileBytes, 0⟩ = .ok demoFile32 := by
  have h : (Accept .pe32 ⟨demoBytes, 0⟩ ∧ imageBaseField .pe32 demoBytes = 0x400000) ∧
      (Accept .pe64 ⟨demoBytes64, 0⟩ ∧ imageBaseField .pe64 demoBytes64 = 0x140000000) ∧
      (Accept .pe32 ⟨demoFileBytes, 0⟩ ∧ imageBaseField .pe32 demoFileBytes = 0x400000) ∧
      validate .pe32 ⟨demoBytes64, 0⟩ = .err .peMagic ∧ validate .pe64 ⟨demoFileBytes, 0⟩ = .err .peMagic := by
    simp only [Accept, validate, hdr_toNat, le16_toNat, le32_toNat]
    decide +kernel
  obtain ⟨⟨a1, b1⟩, ⟨a2, b2⟩, ⟨a3, b3⟩, e1, e2⟩ := h
  have o3 : fromBytes .pe64 .view ⟨demoBytes64, 0⟩ = .ok demoView64 := fromBytes_ok_of a2 b2
  have o4 : fromBytes .pe32 .file ⟨demoFileBytes, 0⟩ = .ok demoFile32 := fromBytes_ok_of a3 b3
  have x2 : fromBytes .pe64 .file ⟨demoFileBytes, 0⟩ = .err .peMagic := fromBytes_err_of_validate e2
  refine ⟨fromBytes_ok_of a1 b1, fromBytes_ok_of a1 b1, o3, o4, fromBytes_err_of_validate e1, x2, ?_, ?_⟩
  · exact wrap_complete _ _ _ _ o3
  · exact wrap_complete _ _ _ _ o4

/-! ### what the three images hold

One lemma per image (a structure, so that an example names the fact it uses): the hypotheses, on that image, of the
theorems about debug entries, CodeView records, POGO data and the TLS callback list — decoders that hide their reads in a
loop or behind a `match`.  An example of `Thm/C15.lean` about one of those takes its hypotheses from here and applies the
theorem (or the lemma of `Lemmas/Dirs.lean` behind it); every other example evaluates the decoders, its reads rewritten
first (Prim/Basic, reads as digits of one number).  All facts of an image are evaluated as ONE conjunction; the holes
`_ ∧ _ ∧ …` of that conjunction are filled with the field types when the structure is built from it.

The fields are spelt as their users spell them (`demoView.b.size`, but `ddType demoBytes 428`): never let the ELABORATOR
unify two spellings of a read or of a byte array (`v.b` against the literal, `lcCookieVa v t` against `le64 b …`) — its
`whnf` evaluates on the literal and runs out of recursion depth. -/

structure DemoSheet : Prop where
  size : demoView.b.size = 616
  soi : sizeOfImage demoView.b = 616
  dir6 : demoView.dataDir 6 = some (428, 56)
  sorted : checkSorted demoBytes ⟨320, 36, 4⟩ = true
  type428 : ddType demoBytes 428 = 2
  data428 : dirData demoView 428 = some ⟨356, 30, 1⟩
  type456 : ddType demoBytes 456 = 13
  data456 : dirData demoView 456 = some ⟨388, 40, 1⟩
  callBacks : tlsCallBacks demoView ⟨504, 24, 4⟩ = 0x4001EC
  list : Spec.vaListUntilZero demoBytes 492 4 (124 / 4) = some [0x400064, 0x400084]

theorem demo_sheet : DemoSheet := by
  suffices h : _ ∧ _ ∧ _ ∧ _ ∧ _ ∧ _ ∧ _ ∧ _ ∧ _ ∧ _ from
    let ⟨a1, a2, a3, a4, a5, a6, a7, a8, a9, a10⟩ := h
    ⟨a1, a2, a3, a4, a5, a6, a7, a8, a9, a10⟩
  simp only [View.dataDir_toNat, hdr_toNat, checkSorted, rfBegin, rfEnd, rfOff, ddType,
    dirData, ddSizeOfData, ddAddressOfRawData, ddPointerToRawData, tlsCallBacks, ptrAt, vaListUntilZero_eq_find,
    le32_toNat, leN_toNat]
  decide +kernel

structure Demo64Sheet : Prop where
  size : demoView64.b.size = 664
  soi : sizeOfImage demoView64.b = 664
  dir9 : demoView64.dataDir 9 = some (512, 40)
  type416 : ddType demoBytes64 416 = 2
  data416 : dirData demoView64 416 = some ⟨360, 30, 1⟩
  data444 : dirData demoView64 444 = some ⟨392, 22, 1⟩
  callBacks : tlsCallBacks demoView64 ⟨512, 40, 8⟩ = 0x1400001E8
  list : Spec.vaListUntilZero demoBytes64 488 8 (176 / 8) = some [0x140000064, 0x140000078]

theorem demo64_sheet : Demo64Sheet := by
  suffices h : _ ∧ _ ∧ _ ∧ _ ∧ _ ∧ _ ∧ _ ∧ _ from
    let ⟨a1, a2, a3, a4, a5, a6, a7, a8⟩ := h
    ⟨a1, a2, a3, a4, a5, a6, a7, a8⟩
  simp only [View.dataDir_toNat, hdr_toNat, ddType, dirData, ddSizeOfData, ddAddressOfRawData,
    ddPointerToRawData, tlsCallBacks, ptrAt, vaListUntilZero_eq_find, le32_toNat, leN_toNat]
  decide +kernel

structure DemoFile32Sheet : Prop where
  size : demoFile32.b.size = 480
  soi : sizeOfImage demoFile32.b = 0x2000
  secs : demoFile32.secs = [⟨0x6164722E, 0x6174, 0x80, 0x1000, 0x80, 352, 0x40000040⟩]
  dir6 : demoFile32.dataDir 6 = some (0x1018, 28)
  dir9 : demoFile32.dataDir 9 = some (0x1040, 24)
  type376 : ddType demoFileBytes 376 = 2
  address376 : ddAddressOfRawData demoFileBytes 376 = 0x1000
  pointer376 : ddPointerToRawData demoFileBytes 376 = 352
  data376 : dirData demoFile32 376 = some ⟨352, 22, 1⟩
  callBacks : tlsCallBacks demoFile32 ⟨416, 24, 4⟩ = 0x401038
  list : Spec.vaListUntilZero demoFileBytes 408 4 (72 / 4) = some [0x401010]

theorem demoFile32_sheet : DemoFile32Sheet := by
  suffices h : _ ∧ _ ∧ _ ∧ _ ∧ _ ∧ _ ∧ _ ∧ _ ∧ _ ∧ _ ∧ _ from
    let ⟨a1, a2, a3, a4, a5, a6, a7, a8, a9, a10, a11⟩ := h
    ⟨a1, a2, a3, a4, a5, a6, a7, a8, a9, a10, a11⟩
  simp only [View.dataDir_toNat, hdr_toNat, View.secs, sections, secAt, ddType,
    dirData, ddSizeOfData, ddAddressOfRawData, ddPointerToRawData, tlsCallBacks, ptrAt, vaListUntilZero_eq_find,
    le32_toNat, leN_toNat]
  decide +kernel

theorem demo64_isNB10 : Spec.IsNB10 demoBytes64 392 22 5 :=
  isNB10_iff.2 (by simp only [Spec.hasSig, byteAt_toNat]; decide +kernel)

theorem demoFile_isNB10 : Spec.IsNB10 demoFileBytes 352 22 5 :=
  isNB10_iff.2 (by simp only [Spec.hasSig, byteAt_toNat]; decide +kernel)

theorem demo64_isRSDS : Spec.IsRSDS demoBytes64 360 30 5 :=
  isRSDS_iff.2 (by simp only [Spec.hasSig, byteAt_toNat]; decide +kernel)

theorem demo_isRSDS : Spec.IsRSDS demoBytes 356 30 5 :=
  isRSDS_iff.2 (by simp only [Spec.hasSig, byteAt_toNat]; decide +kernel)

theorem demo_codeView : codeView demoView 428 = .ok (.cv70 ⟨356, 24, 4⟩ ⟨380, 6, 1⟩) :=
  codeView_of_rsds demoView 428 _ demo_sheet.data428 (by decide) 5 demo_isRSDS

theorem demo_pogoLayout : Spec.PogoLayout demoBytes 392 [(4096, 16, 5), (8192, 32, 9)] 428 :=
  pogoLayout_of_at (by simp only [pogoLayoutAt, byteAt_toNat, le32_toNat]; decide +kernel)

theorem demo_callbacks :
    demoView.at (.va (tlsCallBacks demoView ⟨504, 24, 4⟩)) 0 4 = .ok ⟨492, 124, 4⟩ ∧
    Spec.vaListUntilZero demoBytes 492 4 (124 / 4) = some [0x400064, 0x400084] := by
  exact ⟨by rw [demo_sheet.callBacks]; exact View.at_va_view (v := demoView) rfl demo_sheet.size demo_sheet.soi _ 0 4 (by decide),
    demo_sheet.list⟩

end Pelite.Dirs
