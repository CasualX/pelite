import PeliteModel.Lemmas.VersionTree
/-!
C13: the shape of what the reference writer writes, `parse_tlv` on input that starts with a
header of that shape (`parseTlv_header`), and the reported events without their offsets (`Event.erase`).
-/
set_option linter.unusedSimpArgs false
set_option linter.unnecessarySimpa false

namespace Pelite.Version
open Spec

theorem pad_length (n : Nat) : (pad n).length = n % 2 := by simp [pad]

/-- Padding1: the header is three words, the key and its NUL follow -/
theorem pad_key_length (key : List Nat) : (pad (3 + (key ++ [0]).length)).length = key.length % 2 := by
  simp only [pad_length, List.length_append, List.length_cons, List.length_nil]; omega

theorem encodeList_eq (tight : Bool) (ns : List Node) :
    encodeList tight ns = encSiblings (ns.map (Spec.encode tight)) := by
  induction ns with
  | nil => simp [encodeList, encSiblings]
  | cons n l ih => simp [encodeList, encSiblings, ih]

theorem encode_mk (tight : Bool) (key value : List Nat) (text : Bool) (children : List Node) :
    Spec.encode tight (.mk key value text children)
      = encNode tight key value text (encSiblings (children.map (Spec.encode tight))) := by
  rw [Spec.encode, encodeList_eq]

def encTail (tight : Bool) (key value body : List Nat) : List Nat :=
  if value.isEmpty && body.isEmpty then (if tight then [] else pad (3 + (key ++ [0]).length))
  else pad (3 + (key ++ [0]).length) ++ value ++ (if body.isEmpty then [] else pad value.length ++ body)

theorem encNode_eq (tight : Bool) (key value : List Nat) (text : Bool) (body : List Nat) :
    encNode tight key value text body =
      [2 * (4 + key.length + (encTail tight key value body).length),
        (if text then value.length else 2 * value.length), (if text then 1 else 0)]
      ++ (key ++ (0 :: encTail tight key value body)) := by
  simp only [encNode, encTail, List.length_append, List.length_cons, List.length_nil]
  have : ∀ x : Nat, 2 * (3 + (key.length + (0 + 1)) + x) = 2 * (4 + key.length + x) := by intro x; omega
  simp [this]

theorem encTail_decomp (tight : Bool) (key value body : List Nat) :
    ∃ p1 p2 : List Nat, encTail tight key value body = p1 ++ (value ++ (p2 ++ body)) ∧
      (p1.length = key.length % 2 ∨ (p1 = [] ∧ value = [] ∧ body = [] ∧ p2 = [])) ∧
      ((p2.length = value.length % 2 ∧ body ≠ []) ∨ (p2 = [] ∧ body = [])) := by
  have hp := pad_key_length key
  by_cases hb : body = []
  · subst hb
    by_cases hv : value = []
    · subst hv
      cases tight
      · exact ⟨pad (3 + (key ++ [0]).length), [], by simp [encTail], Or.inl hp, Or.inr ⟨rfl, rfl⟩⟩
      · exact ⟨[], [], by simp [encTail], Or.inr ⟨rfl, rfl, rfl, rfl⟩, Or.inr ⟨rfl, rfl⟩⟩
    · have : value.isEmpty = false := by simpa [List.isEmpty_iff] using hv
      exact ⟨pad (3 + (key ++ [0]).length), [], by simp [encTail, this], Or.inl hp, Or.inr ⟨rfl, rfl⟩⟩
  · have : body.isEmpty = false := by simpa [List.isEmpty_iff] using hb
    exact ⟨pad (3 + (key ++ [0]).length), pad value.length, by simp [encTail, this], Or.inl hp,
      Or.inl ⟨pad_length _, hb⟩⟩

theorem takeWhile_key (key rest : List Nat) (hk : keyOk key = true) :
    (key ++ 0 :: rest).takeWhile (fun x => x != 0) = key := by
  rw [List.takeWhile_append_of_pos (List.all_eq_true.1 hk), List.takeWhile_cons_of_neg (by simp), List.append_nil]

/-- Input that starts with a header announcing `N` words and a NUL-free key: what remains open is whether the level
accepts the announced value length (`valueLen` reads word 1 only, hence the stub `[0, vlw]`) and whether the value fits
into `rest`, the words after the key's NUL. -/
theorem parseTlv_header (vlt : Vlt) (off N vlw wType : Nat) (key rest tl n : List Nat) (hk : keyOk key = true)
    (hN : n.length = N) (hn : n = [2 * N, vlw, wType] ++ (key ++ 0 :: rest)) {t : Tlv} {r : Sl} :
    parseTlv vlt ⟨off, n ++ tl⟩ = .ok (t, r) ↔
      ∃ vl, valueLen vlt ⟨0, [0, vlw]⟩ = some vl ∧
      let b := min (key.length % 2) rest.length
      let body : Sl := ⟨off + (4 + key.length + b), rest.drop b⟩
      vl ≤ body.len ∧ t = ⟨⟨off + 3, key⟩, body.take vl, body.drop (min (align2 vl) body.len)⟩ ∧
      r = (⟨off, n ++ tl⟩ : Sl).drop (min (align2 N) (N + tl.length)) := by
  have hlen : n.length = 4 + key.length + rest.length := by
    rw [hn]; simp only [List.length_append, List.length_cons, List.length_nil]; omega
  have hL : nodeLen ⟨off, n ++ tl⟩ = N := by
    show max 4 ((n ++ tl).getD 0 0 / 2) = N
    rw [hn]; simp only [List.cons_append, List.getD_cons_zero]; omega
  have hnode : (⟨off, n ++ tl⟩ : Sl).take N = ⟨off, n⟩ := congrArg (Sl.mk off) (List.take_left' hN)
  have hk3 : wstrn ((⟨off, n⟩ : Sl).drop 3) = ⟨off + 3, key⟩ :=
    congrArg (Sl.mk _) (by rw [hn]; exact takeWhile_key key _ hk)
  have hb : min (align2 key.length + 4) N = 4 + key.length + min (key.length % 2) rest.length := by
    rw [align2_eq]; omega
  have hbody : (⟨off, n⟩ : Sl).drop (4 + key.length + min (key.length % 2) rest.length)
      = ⟨off + (4 + key.length + min (key.length % 2) rest.length), rest.drop (min (key.length % 2) rest.length)⟩ := by
    refine congrArg (Sl.mk _) ?_
    have : n = ([2 * N, vlw, wType] ++ key ++ [0]) ++ rest := by rw [hn]; simp
    rw [this, show 4 + key.length + min (key.length % 2) rest.length
      = ([2 * N, vlw, wType] ++ key ++ [0]).length + min (key.length % 2) rest.length by simp; omega, List.drop_append,
      List.drop_of_length_le (Nat.le_add_right ..), Nat.add_sub_cancel_left, List.nil_append]
  have hv : valueLen vlt ⟨off, n ++ tl⟩ = valueLen vlt ⟨0, [0, vlw]⟩ := by rw [hn]; rfl
  rw [parseTlv_ok_iff]
  simp only [hv, hL, hnode, hk3, show (⟨off, n⟩ : Sl).len = N from hN, show (⟨off + 3, key⟩ : Sl).len = key.length from rfl, hb,
    hbody, Sl.drop_len, show (⟨off, n ++ tl⟩ : Sl).len = N + tl.length by simp [Sl.len, hN]]
  constructor
  · rintro ⟨-, -, vl, h1, -, h2, h3, h4⟩; exact ⟨vl, h1, h2, h3, h4⟩
  · rintro ⟨vl, h1, h2, h3, h4⟩; exact ⟨by omega, by omega, vl, h1, by omega, h2, h3, h4⟩

theorem parseTlv_words_byteCounted (tight : Bool) (key value tl : List Nat) (off : Nat)
    (hk : keyOk key = true) (hv : value ≠ []) :
    parseTlv .words ⟨off, Spec.encode tight (.mk key value false []) ++ tl⟩ = .err .invalid := by
  rw [encode_mk]
  simp only [List.map_nil, encSiblings]
  have hve : value.isEmpty = false := by simpa [List.isEmpty_iff] using hv
  have hvl : 0 < value.length := List.length_pos_iff.mpr hv
  have htail : encTail tight key value [] = pad (3 + (key ++ [0]).length) ++ value := by
    simp [encTail, hve]
  have hp := pad_key_length key
  generalize pad (3 + (key ++ [0]).length) = p1 at htail hp
  have hn : encNode tight key value false [] =
      [2 * (4 + key.length + (p1 ++ value).length), 2 * value.length, 0] ++ (key ++ (0 :: (p1 ++ value))) := by
    rw [encNode_eq, htail]; rfl
  generalize encNode tight key value false [] = n at hn
  have hN : n.length = 4 + key.length + (p1 ++ value).length := by
    rw [hn]; simp only [List.length_append, List.length_cons, List.length_nil]; omega
  rcases parseTlv_total .words ⟨off, n ++ tl⟩ with ⟨t, r, h⟩ | h
  · -- twice the value's words do not fit into what follows the key
    obtain ⟨vl, h1, h2, -⟩ := (parseTlv_header .words off _ _ 0 key _ tl n hk hN hn).mp h
    obtain rfl : 2 * value.length = vl := Option.some.inj h1
    simp only [Sl.len, List.length_drop, List.length_append] at h2
    omega
  · exact h

/-! ### events without offsets -/

/-- an event without the offsets: what was reported, not where it lies -/
def Event.erase : Event → SEvent
  | .versionInfo k f => .versionInfo k.ws (f.map (·.ws))
  | .fileInfo k => .fileInfo k.ws
  | .stringTable k => .stringTable k.ws
  | .string k v => .string k.ws v.ws
  | .var k v => .var k.ws v.ws
  | .enter d => .enter d
  | .exit d => .exit d

theorem stripNul_ws (v : Sl) : (stripNul v).ws = stripTerminator v.ws := by
  unfold stripNul stripTerminator
  rcases List.eq_nil_or_concat v.ws with h | ⟨init, x, h⟩
  · simp [h]
  · rw [List.concat_eq_append] at h
    have h1 : v.ws.getLast? = some x := by simp [h]
    have h2 : v.ws.reverse = x :: init.reverse := by simp [h]
    rw [h1, h2]
    by_cases hx : x = 0
    · subst hx
      simp [h, Sl.take, Sl.len]
    · have : (some x ≠ some 0) := by simpa using hx
      rw [if_pos this]
      split
      · rename_i r heq; simp only [List.cons.injEq] at heq; exact absurd heq.1 hx
      · rfl

theorem kStringFileInfo_eq : kStringFileInfo = strStringFileInfo := by decide
theorem kVarFileInfo_eq : kVarFileInfo = strVarFileInfo := by decide
theorem kTranslation_eq : kTranslation = strTranslation := by decide

end Pelite.Version
