import PeliteModel.Spec.Resources
import PeliteModel.Model.Relocs
/-!
Occurrences of a byte list in a byte array (`Window`) or in a byte list (`ReadAt`), and what `le16` / `le32` / `wordsAt`
see through a window that holds `le16b` / `le32b` / `encWords`.  Shared by the three writers that are read back
(resources, `base_relocs::build`, the dwords of a Rich image); in `Pelite.Resources` because the encoders are.
-/
namespace Pelite.Resources
open Pelite

theorem bytesAt_length (b : Bytes) (off n : Nat) : (bytesAt b off n).length = n := by
  simp [bytesAt]

theorem wordsAt_length (b : Bytes) (off n : Nat) : (wordsAt b off n).length = n := by
  simp [wordsAt]

def Window (b : Bytes) (off : Nat) (c : List UInt8) : Prop := bytesAt b off c.length = c

theorem getD_bytesAt (b : Bytes) (off len k : Nat) (h : k < len) : (bytesAt b off len).getD k 0 = b.getD (off + k) 0 := by
  unfold bytesAt
  rw [List.getD_eq_getElem?_getD, List.getElem?_map, List.getElem?_range h]
  rfl

theorem l16_bytesAt (b : Bytes) (off len k : Nat) (h : k + 2 ≤ len) : l16 (bytesAt b off len) k = le16 b (off + k) := by
  unfold l16 Pelite.le16 Pelite.byteAt
  rw [getD_bytesAt b off len k (by omega), getD_bytesAt b off len (k + 1) (by omega), Nat.add_assoc]

theorem bytesAt_add (b : Bytes) (off m n : Nat) : bytesAt b off (m + n) = bytesAt b off m ++ bytesAt b (off + m) n := by
  simp [bytesAt, List.range_add, Nat.add_assoc]

theorem Window.append {b : Bytes} {off : Nat} {a c : List UInt8} :
    Window b off (a ++ c) ↔ Window b off a ∧ Window b (off + a.length) c := by
  unfold Window
  rw [List.length_append, bytesAt_add]
  constructor
  · intro h; exact List.append_inj h (bytesAt_length _ _ _)
  · rintro ⟨h1, h2⟩; rw [h1, h2]

theorem Window.byteAt {b : Bytes} {off : Nat} {c : List UInt8} (h : Window b off c) (i : Nat) (hi : i < c.length) :
    byteAt b (off + i) = (c.getD i 0).toNat := by
  have : (bytesAt b off c.length)[i]? = c[i]? := by rw [h]
  simp only [bytesAt, List.getElem?_map, List.getElem?_range hi, Option.map_some] at this
  rw [Pelite.byteAt, List.getD_eq_getElem?_getD, ← this]; rfl

/-- `UInt8.toNat_ofNat_of_lt'` with the bound as the literal `omega` can discharge -/
theorem ofNat_toNat_of_lt {n : Nat} (h : n < 256) : (UInt8.ofNat n).toNat = n :=
  UInt8.toNat_ofNat_of_lt' h

theorem Window.le16 {b : Bytes} {off v : Nat} (h : Window b off (le16b v)) (hv : v < 65536) : le16 b off = v := by
  have h0 := h.byteAt 0 (by simp [le16b])
  have h1 := h.byteAt 1 (by simp [le16b])
  simp only [le16b, List.getD_cons_zero, List.getD_cons_succ, Nat.add_zero] at h0 h1
  rw [Pelite.le16, h0, h1, ofNat_toNat_of_lt (by omega), ofNat_toNat_of_lt (by omega)]
  omega

theorem le32b_halves (v : Nat) : le32b v = le16b (v % 65536) ++ le16b (v / 65536) := by
  have e1 : v % 65536 % 256 = v % 256 := Nat.mod_mod_of_dvd v (by decide)
  have e2 : v % 65536 / 256 % 256 = v / 256 % 256 := by
    rw [show 65536 = 256 * 256 from rfl, Nat.mod_mul_right_div_self, Nat.mod_mod]
  have e3 : v / 65536 / 256 % 256 = v / 16777216 % 256 := by rw [Nat.div_div_eq_div_mul]
  rw [le16b, le16b, e1, e2, e3]
  rfl

/-- the two halves of a little-endian u32 (`dwBytesInResLo`, `dwBytesInResHi`) -/
theorem Window.le32_halves {b : Bytes} {off v : Nat} (h : Window b off (le32b v)) (hv : v < 4294967296) :
    Pelite.le16 b off = v % 65536 ∧ Pelite.le16 b (off + 2) = v / 65536 := by
  rw [le32b_halves, Window.append] at h
  exact ⟨h.1.le16 (by omega), h.2.le16 (by omega)⟩

theorem Window.le32 {b : Bytes} {off v : Nat} (h : Window b off (le32b v)) (hv : v < 4294967296) : le32 b off = v := by
  obtain ⟨h1, h2⟩ := h.le32_halves hv
  have := le32_eq_le16 b off
  omega

theorem le16b_length (v : Nat) : (le16b v).length = 2 := rfl
theorem le32b_length (v : Nat) : (le32b v).length = 4 := rfl

/-- The group writer (`le32Bytes`) and `base_relocs::build` (`u16le`, `u32le`) have encoders of their own in their model
files; they are `le16b` / `le32b`, so what is read back through a window applies to them after this rewriting. -/
theorem le32Bytes_eq : le32Bytes = le32b := rfl
theorem u16le_eq : Relocs.u16le = le16b := rfl
theorem u32le_eq : Relocs.u32le = le32b := rfl

theorem Window.le32_mod {b : Bytes} {off v : Nat} (h : Window b off (le32b v)) :
    Pelite.le32 b off = v % 4294967296 := by
  have e : le32b v = le32b (v % 4294967296) := by
    unfold le32b
    rw [show v % 4294967296 % 256 = v % 256 by omega, show v % 4294967296 / 256 % 256 = v / 256 % 256 by omega,
      show v % 4294967296 / 65536 % 256 = v / 65536 % 256 by omega,
      show v % 4294967296 / 16777216 % 256 = v / 16777216 % 256 by omega]
  rw [e] at h
  exact h.le32 (Nat.mod_lt _ (by decide))

theorem length_flatMap_le32b (ws : List Nat) : (ws.flatMap le32b).length = 4 * ws.length := by
  simp only [List.length_flatMap, le32b_length, List.map_const', List.sum_replicate_nat, Nat.mul_comm]

theorem wordsAt_succ (b : Bytes) (off n : Nat) : wordsAt b off (n + 1) = Pelite.le16 b off :: wordsAt b (off + 2) n := by
  unfold wordsAt
  rw [List.range_succ_eq_map]
  simp only [List.map_cons, List.map_map, Nat.mul_zero, Nat.add_zero]
  congr 1
  apply List.map_congr_left
  intro i _
  simp only [Function.comp]
  congr 1
  omega

theorem Window.words {b : Bytes} : ∀ {ws : List Nat} {off : Nat}, Window b off (encWords ws) → (∀ w ∈ ws, w < 65536) →
    wordsAt b off ws.length = ws
  | [], _, _, _ => rfl
  | w :: ws, off, h, hw => by
    rw [encWords, Window.append, le16b_length] at h
    rw [List.length_cons, wordsAt_succ, h.1.le16 (hw w (by simp)), h.2.words (fun x hx => hw x (by simp [hx]))]

theorem encWords_length (ws : List Nat) : (encWords ws).length = 2 * ws.length := by
  induction ws with
  | nil => rfl
  | cons w ws ih => simp [encWords, le16b_length, ih]; omega

theorem flatMap_le16b (ws : List Nat) : ws.flatMap le16b = encWords ws := by
  induction ws with
  | nil => rfl
  | cons w ws ih => rw [List.flatMap_cons, ih]; rfl

def ReadAt (l : List UInt8) (off : Nat) (chunk : List UInt8) : Prop :=
  ∃ pre suf, l = pre ++ chunk ++ suf ∧ pre.length = off

theorem ReadAt.bound {l : List UInt8} {off : Nat} {c : List UInt8} (h : ReadAt l off c) : off + c.length ≤ l.length := by
  obtain ⟨pre, suf, h1, h2⟩ := h
  rw [h1]; simp; omega

theorem ReadAt.whole (l : List UInt8) : ReadAt l 0 l := ⟨[], [], by simp, rfl⟩

theorem ReadAt.window {l : List UInt8} {off : Nat} {c : List UInt8} (h : ReadAt l off c) : Window l.toArray off c := by
  obtain ⟨pre, suf, rfl, rfl⟩ := h
  apply List.ext_getElem
  · simp [bytesAt]
  · intro i h1 h2
    simp only [bytesAt, List.getElem_map, List.getElem_range, Array.getD_eq_getD_getElem?, List.getElem?_toArray]
    rw [List.append_assoc, List.getElem?_append_right (by omega), show pre.length + i - pre.length = i by omega,
      List.getElem?_append_left h2, List.getElem?_eq_getElem h2]
    rfl

end Pelite.Resources
