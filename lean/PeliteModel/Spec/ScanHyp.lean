import PeliteModel.Model.Exec
/-!
The hypotheses of the C11 headline theorems (`Thm/C11*.lean`: `C11_exec_compile_impl`,
`C11_exec_compile_partial`, …) on the interface `ScanI` the interpreter runs against, written out in
full so that they can be audited without opening `Lemmas/`:

* `Spec.ScanIWF S`  — a copy of `Exec.ScanI.WF` (`Lemmas/Exec.lean`),
* `Spec.Coherent S` — a copy of `PatSem.Coherent` (`Lemmas/Exec.lean`).

This file imports the MODEL only (`Model/Exec.lean`: `ScanI`, `byteAt`, `wadd32`), no `Lemmas/` file and
nothing outside core.  That the copies ARE the predicates the theorems use is proved in
`Spec/ScanHypEquiv.lean` (`Spec.ScanIWF_iff`, `Spec.Coherent_iff`), which also restates the headline
theorem with the copies as hypotheses (`C11_exec_compile_impl_spec`).
-/
namespace Pelite.Spec
open Pelite.Exec

/-- What the interpreter needs from an implementation `S` of `trait Scan` (`read`, `pointer`, `slice`
over a byte store `S.mem`) to be panic free.  Three conditions on its answers:

* a successful ONE-byte read at `rva` lies strictly below `u32::MAX` (so `self.cursor += 1` cannot
  overflow) and yields a byte;
* a successful `w`-byte read yields a `w`-byte value;
* a successful `pointer` translation yields an `Rva` (`u32`).

Both implementations of the crate (`ofView`: `PeFile` / `PeView`; `ofRaw`: `&[u8]`) satisfy it for every
buffer below 4 GiB (`Thm/C11.lean:C11_interfaces`, restated as `Spec/ScanHypEquiv.lean:C11_interfaces_spec`). -/
structure ScanIWF (S : ScanI) : Prop where
  read1 : ∀ rva v, S.read 1 rva = some v → rva + 1 < 4294967296 ∧ v < 256
  read_lt : ∀ w rva v, S.read w rva = some v → v < 256 ^ w
  pointer_lt : ∀ va r, S.pointer va = some r → r < 4294967296

/-- `slice` and one-byte `read`s see the same bytes: whenever `slice(c)` answers the `len` bytes of the
store at `off`, a one-byte read at `c + i` (wrapping `u32` addition), `i < len`, answers byte `off + i`
of the store.  It is what makes the `memchr` shortcut of `exec_many` (which looks at the slice) agree
with executing the pattern at each offset (which reads).  Holds on every buffer below 4 GiB for `ofRaw`,
for mapped views, and for file views whose sections' virtual extents do not overlap
(`C11_interfaces_spec`). -/
def Coherent (S : ScanI) : Prop :=
  ∀ c off len i, S.slice c = some (off, len) → i < len → S.read 1 (wadd32 c i) = some (byteAt S.mem (off + i))

end Pelite.Spec
