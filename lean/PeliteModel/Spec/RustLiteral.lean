/-!
What a Rust *string literal token* means — written from the Rust Reference ("Tokens": string
literals, quote / ASCII / Unicode escapes, string continuation escapes), NOT from pelite's
`parse_str_literal`.  This file imports nothing of the model; core-only.

Reference grammar (the text is the token text `Literal::to_string()` hands to a proc macro, i.e. the
source text after CRLF normalisation):

```
STRING_LITERAL   → " ( ~[" \ CR] | QUOTE_ESCAPE | ASCII_ESCAPE | UNICODE_ESCAPE | STRING_CONTINUE )* " SUFFIX?
QUOTE_ESCAPE     → \' | \"
ASCII_ESCAPE     → \x OCT_DIGIT HEX_DIGIT | \n | \r | \t | \\ | \0
UNICODE_ESCAPE   → \u{ ( HEX_DIGIT _* ){1..6} }          -- value must be a Unicode scalar value
STRING_CONTINUE  → \ LF                                   -- the LF and all following HT, LF, CR, SPACE denote nothing
```

* a char other than `"`, `\`, CR denotes itself (LF and TAB included); a CR in the body is an error
  ("bare CR not allowed in string");
* raw strings (`r"…"`, `r#"…"#`), byte strings (`b"…"`), C strings (`c"…"`) are other token kinds:
  their text does not start with `"`, they have no value here;
* `SUFFIX` (an identifier directly after the closing quote) is part of the token but not of its value.
  Whether the text after the closing quote is a well-formed suffix is the lexer's business (a
  `proc_macro::Literal` is always one token); `rustLitLex` returns it uninterpreted.

Second part: `escapeWith`, a reference *writer* of string literals (the converse direction), moved
here from the model file because it is specification vocabulary of C17.
-/
namespace Pelite.Pattern.Spec

/-- HEX_DIGIT -/
def hexVal (c : Char) : Option Nat :=
  if '0' ≤ c ∧ c ≤ '9' then some (c.toNat - '0'.toNat)
  else if 'a' ≤ c ∧ c ≤ 'f' then some (c.toNat - 'a'.toNat + 10)
  else if 'A' ≤ c ∧ c ≤ 'F' then some (c.toNat - 'A'.toNat + 10)
  else none

/-- OCT_DIGIT -/
def octVal (c : Char) : Option Nat :=
  if '0' ≤ c ∧ c ≤ '7' then some (c.toNat - '0'.toNat) else none

/-- the whitespace a string continuation swallows: HT, LF, CR, SPACE -/
def isContWs (c : Char) : Bool := c = '\t' || c = '\n' || c = '\r' || c = ' '

/-- `( HEX_DIGIT _* ){1..6} }` — the text after `\u{`.  `v` = value so far, `n` = digits so far.
An underscore needs a digit before it, at most 6 digits, at least one.  Returns the value and the
text after `}`. -/
def uniDigits : List Char → Nat → Nat → Option (Nat × List Char)
  | [], _, _ => none
  | '}' :: cs, v, n => if 1 ≤ n then some (v, cs) else none
  | '_' :: cs, v, n => if 1 ≤ n then uniDigits cs v n else none
  | c :: cs, v, n =>
    match hexVal c with
    | some d => if n < 6 then uniDigits cs (16 * v + d) (n + 1) else none
    | none => none

/-- One escape: the text after the backslash ↦ the char it denotes (`none`: a string continuation,
which denotes nothing) and the text after the escape.  Everything not listed is not an escape. -/
def escapeSeq : List Char → Option (Option Char × List Char)
  | '\'' :: cs => some (some '\'', cs)
  | '"' :: cs => some (some '"', cs)
  | 'n' :: cs => some (some '\n', cs)
  | 'r' :: cs => some (some '\r', cs)
  | 't' :: cs => some (some '\t', cs)
  | '\\' :: cs => some (some '\\', cs)
  | '0' :: cs => some (some (Char.ofNat 0), cs)
  | 'x' :: a :: b :: cs =>                      -- 7-bit: at most \x7F
    match octVal a, hexVal b with
    | some hi, some lo => some (some (Char.ofNat (16 * hi + lo)), cs)
    | _, _ => none
  | 'u' :: '{' :: cs =>
    match uniDigits cs 0 0 with
    | some (v, rest) => if v.isValidChar then some (some (Char.ofNat v), rest) else none
    | none => none
  | '\n' :: cs => some (none, cs.dropWhile isContWs)
  | _ => none

theorem uniDigits_length (cs : List Char) (v n : Nat) (w : Nat) (rest : List Char)
    (h : uniDigits cs v n = some (w, rest)) : rest.length ≤ cs.length := by
  fun_induction uniDigits cs v n <;> simp_all <;> omega

theorem escapeSeq_length (cs : List Char) (oc : Option Char) (rest : List Char)
    (h : escapeSeq cs = some (oc, rest)) : rest.length ≤ cs.length := by
  fun_cases escapeSeq cs <;> simp_all [escapeSeq]
  · omega
  · have := uniDigits_length _ _ _ _ _ ‹uniDigits _ 0 0 = _›; omega
  · have := uniDigits_length _ _ _ _ _ ‹uniDigits _ 0 0 = _›; omega
  · obtain ⟨_, rfl⟩ := h; exact Nat.le_succ_of_le (List.dropWhile_suffix _).length_le

/-- The body of a string literal: the text after the opening quote ↦ the denoted string and the text
after the closing quote.  `none`: no closing quote, a bare CR, or a malformed escape. -/
def litBody (cs : List Char) : Option (List Char × List Char) :=
  match cs with
  | [] => none
  | '"' :: rest => some ([], rest)
  | '\r' :: _ => none
  | '\\' :: cs' =>
    match _h : escapeSeq cs' with
    | none => none
    | some (oc, rest) =>
      match litBody rest with
      | some (v, r) => some (oc.toList ++ v, r)
      | none => none
  | c :: cs' =>
    match litBody cs' with
    | some (v, r) => some (c :: v, r)
    | none => none
termination_by cs.length
decreasing_by
  · have := escapeSeq_length _ _ _ (by assumption); simp; omega
  · simp

/-- A string literal token: its value and its suffix text.  `none`: not a (well-formed) string
literal. -/
def rustLitLex : List Char → Option (List Char × List Char)
  | '"' :: body => litBody body
  | _ => none

/-- **The value of a Rust string literal token** (the `str` it denotes), `none` if the text is not a
well-formed string literal. -/
def rustLitValue (lit : List Char) : Option (List Char) := (rustLitLex lit).map Prod.fst

/-- the token's suffix text (`"…"suffix`) -/
def rustLitSuffix (lit : List Char) : Option (List Char) := (rustLitLex lit).map Prod.snd

/-! ### The escapes `pelite::pattern!` does not implement -/

/-- scanning the body two chars at a time after a backslash: is there a `\0`, `\x`, `\u` or a
`\`+LF continuation before the closing quote?  (On a well-formed literal this walks the escapes
exactly as `litBody` does up to the first such escape.) -/
def usesUnsupported : List Char → Bool
  | [] => false
  | '"' :: _ => false
  | '\\' :: c :: cs => c = '0' || c = 'x' || c = 'u' || c = '\n' || usesUnsupported cs
  | _ :: cs => usesUnsupported cs

/-- the literal uses `\0`, `\xNN`, `\u{…}` or a string continuation -/
def UsesUnsupportedEscape (lit : List Char) : Prop :=
  match lit with
  | '"' :: body => usesUnsupported body = true
  | _ => False

instance (lit : List Char) : Decidable (UsesUnsupportedEscape lit) := by
  unfold UsesUnsupportedEscape; split <;> infer_instance

end Pelite.Pattern.Spec

/-! ## Reference writer of string literals -/
namespace Pelite.Pattern

/-- how a char may be written in the literal: `esc = true` uses the backslash form where one exists.
`"` and `\` must be escaped (rustc would end the literal / start an escape). -/
def escChar (esc : Bool) (c : Char) : List Char :=
  if c = '\\' then ['\\', '\\']
  else if c = '"' then ['\\', '"']
  else if esc then
    if c = '\'' then ['\\', '\'']
    else if c = '\t' then ['\\', 't']
    else if c = '\r' then ['\\', 'r']
    else if c = '\n' then ['\\', 'n']
    else [c]
  else [c]

/-- body of the literal: per char a choice between the verbatim and the backslash form
(missing choices default to the backslash form) -/
def escapeBody : List Bool → List Char → List Char
  | _, [] => []
  | [], c :: cs => escChar true c ++ escapeBody [] cs
  | b :: bs, c :: cs => escChar b c ++ escapeBody bs cs

/-- reference escaper: a Rust string literal denoting `cs`.  (With `false` chosen for a CR the text
contains a bare CR, which rustc rejects: see `C17_escapeWith_value_partial`.) -/
def escapeWith (choices : List Bool) (cs : List Char) : List Char := '"' :: (escapeBody choices cs ++ ['"'])

def escape (cs : List Char) : List Char := escapeWith [] cs

end Pelite.Pattern
