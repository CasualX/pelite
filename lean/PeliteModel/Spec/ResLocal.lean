import PeliteModel.Spec.Resources
/-!
The vocabulary in which the C12 headline theorems of `Thm/C12Find.lean` / `Thm/C12.lean` are stated
(`C12_lookup_local`, `C12_find_local`, `C12_helpers_local`, `C12_groups_on_tree`, `C12_group_lookups`,
`C12_get_on_tree`, `C12_find_on_tree`, `C12_helpers_on_tree`), written out in full so that it can be
audited without opening `Lemmas/`.  SELF-CONTAINED copies of definitions that live next to the lemmas:

| here                                                   | copy of (`Pelite.Resources.…`)                 | defined in                  |
|--------------------------------------------------------|------------------------------------------------|-----------------------------|
| `Sel`, `stepSel`, `walkSel`, `rootEntry`, `dataBytes`, `utf8Bytes`, `versionFin`, `Follows`, `LocalResult` | the same names | `Lemmas/ResFindLocal.lean` |
| `GroupOK`                                              | `GroupOK`                                      | `Lemmas/ResGroup.lean`      |
| `GroupRep`, `ItemRel`, `ItemsRel`                      | the same names                                 | `Lemmas/ResGroups.lean`     |
| `Rep`, `RepDir`, `RepData`, `RepBytes`                 | the same names                                 | `Lemmas/ResRep.lean`        |
| `FRelG`                                                | `FRelG`                                        | `Lemmas/ResFind.lean`       |
| `Aligned`                                              | `Aligned`                                      | `Lemmas/Resources.lean`     |

This file imports `Spec/Resources.lean` (abstract trees, `IsNode`, `parseGroup`, …) and through it the
MODEL (`Model/Resources.lean`, `Model/ResFind.lean`, `Model/ResGroup.lean`) only — no `Lemmas/` file,
nothing outside core.  That the copies ARE what the theorems use is proved in `Spec/ResLocalEquiv.lean`
(`rfl` for the functions and relations; the selector type `Sel` is a separate inductive type, so there
the statements go through the bijection `selOfSpec`), which also restates the headline theorems in
this vocabulary.
-/
namespace Pelite.Spec
open Pelite Pelite.Resources

/-! ### lookups as folds of a one-level step -/

/-- how one level of a lookup selects a child of the current directory -/
inductive Sel
  /-- a component of a `find` path: must be UTF-8 (`Bad8Path`), then the child named `Name::Str(p)` -/
  | part (p : List Nat)
  /-- `get(q)`: the child named `q` -/
  | name (q : Name)
  /-- `first()`: the first child in stored order -/
  | first
  deriving DecidableEq, Repr

/-- One level of a lookup.  A path component must be UTF-8 (`Bad8Path` otherwise — checked first); the
current entry must be a directory (`UnDataEntry` otherwise); the selected child is what the public
one-level API returns: `Directory::get(name)` (`Dir.get`, model of find.rs) for `.part` / `.name`,
`Directory::first()` for `.first`. -/
def stepSel (r : Resources) (cur : Entry) (s : Sel) : Out (FRes Entry) :=
  match s with
  | .part p =>
    match utf8Chars p with
    | none => failF .bad8Path
    | some _ =>
      match cur with
      | .dir d => d.get r (.str p)
      | .data _ => failF .unDataEntry
  | .name q =>
    match cur with
    | .dir d => d.get r q
    | .data _ => failF .unDataEntry
  | .first =>
    match cur with
    | .dir d => d.first r
    | .data _ => failF .unDataEntry

/-- the LEFT fold of the one-level step over the selectors, from `start` (`bindF` = Rust's `?`) -/
def walkSel (r : Resources) (start : Out (FRes Entry)) (sels : List Sel) : Out (FRes Entry) :=
  sels.foldl (fun acc s => bindF acc fun cur => stepSel r cur s) start

/-- `self.root()?` as an entry -/
def rootEntry (r : Resources) : Out (FRes Entry) := liftE (root r) fun d => okF (.dir d)

/-- `.data().ok_or(UnDirectory)?.bytes()?` -/
def dataBytes (r : Resources) (en : Entry) : Out (FRes Ref) := bindF (asData en) fun de => liftE (de.bytes r) okF

/-- `str::from_utf8(bytes)?` on the data of the entry found -/
def utf8Bytes (r : Resources) (en : Entry) : Out (FRes Ref) :=
  bindF (dataBytes r en) fun b =>
    match utf8Chars ((bytesAt r.sec b.off b.len).map UInt8.toNat) with
    | some _ => okF b
    | none => failF (.pe .encoding)

/-- `version_info`: the lookup, then `VersionInfo::try_from` (4-alignment of the bytes; the length is
rounded down to whole UTF-16 words) -/
def versionFin (r : Resources) (en : Entry) : Out (FRes Ref) :=
  bindF (dataBytes r en) fun b =>
    if (r.base + b.off) % 4 ≠ 0 then failF (.pe .misaligned) else okF ⟨b.off, b.len / 2 * 2, 2⟩

/-- `tgt` is reached from `cur` by following, level by level, the child each selector selects -/
inductive Follows (r : Resources) : Entry → List Sel → Entry → Prop
  | done (e : Entry) : Follows r e [] e
  | step {cur nxt tgt : Entry} {s : Sel} {rest : List Sel} :
      stepSel r cur s = .ok (.ok nxt) → Follows r nxt rest tgt → Follows r cur (s :: rest) tgt

/-- The answer `res` of the lookup "`root()?`, then the selectors `sels` level by level, then `fin`" is
explained by the directories along the path alone: a value is what `fin` makes of the entry reached
by following the selectors from the root; an error is that of reading the root header, or of the
FIRST step that does not return an entry (after the steps before it were followed), or of `fin` on the
entry reached. -/
def LocalResult {α : Type} (r : Resources) (sels : List Sel) (fin : Entry → Out (FRes α)) : FRes α → Prop
  | .ok a => ∃ d0 tgt, root r = .ok d0 ∧ Follows r (.dir d0) sels tgt ∧ fin tgt = .ok (.ok a)
  | .error e =>
    (∃ e', root r = .err e' ∧ e = .pe e') ∨
    ∃ d0, root r = .ok d0 ∧
      ((∃ pre s post mid, sels = pre ++ s :: post ∧ Follows r (.dir d0) pre mid ∧ stepSel r mid s = .ok (.error e)) ∨
       ∃ tgt, Follows r (.dir d0) sels tgt ∧ fin tgt = .ok (.error e))

/-! ### group resources -/

/-- what `GroupResource::new` establishes about a group object `g = ⟨off, ty, count⟩`: the GRPICONDIR
lies at an even address, header and entries are inside the section, and type / count are the header's words -/
def GroupOK (r : Resources) (g : Group) : Prop :=
  (r.base + g.off) % 2 = 0 ∧ g.off + 6 + 14 * g.count ≤ r.sec.size ∧ (g.ty = 1 ∨ g.ty = 2) ∧
  g.ty = le16 r.sec (g.off + 2) ∧ g.count = le16 r.sec (g.off + 4)

instance (r : Resources) (g : Group) : Decidable (GroupOK r g) := by unfold GroupOK; exact inferInstance

/-- the group object stands for the parsed GRPICONDIR `G` -/
def GroupRep (r : Resources) (g : Group) (G : GroupSpec) : Prop :=
  GroupOK r g ∧ g.ty = G.kind ∧ g.count = G.entries.length ∧
  (groupEntriesFrom r (g.off + 6) g.count).map (fun e => (e.bytesInRes, e.nId)) = G.entries

instance (r : Resources) (g : Group) (G : GroupSpec) : Decidable (GroupRep r g G) := by unfold GroupRep; exact inferInstance

/-- One item of `icons()` / `cursors()` against one entry of `Node.groups`.  When the specification has
no group data the item is that error.  Otherwise the data lie somewhere in the section (`off`); the
item is `Misaligned` when that place is at an odd address (a property of the layout, not of the tree),
else the format error of `parseGroup`, else the entry's name with a group object that stands for the
parsed GRPICONDIR. -/
def ItemRel (r : Resources) (it : FRes (Name × Group)) (s : RName × FRes (List UInt8)) : Prop :=
  match s.2 with
  | .error e => it = .error e
  | .ok blob =>
    ∃ off, off + blob.length ≤ r.sec.size ∧ bytesAt r.sec off blob.length = blob ∧
      if (r.base + off) % 2 ≠ 0 then it = .error (.pe .misaligned)
      else
        match parseGroup blob with
        | .error e => it = .error (.pe e)
        | .ok G => ∃ g, it = .ok (s.1.toName, g) ∧ g.off = off ∧ GroupRep r g G

/-- `items` and `specs` have the same length and are related item by item -/
def ItemsRel (r : Resources) : List (FRes (Name × Group)) → List (RName × FRes (List UInt8)) → Prop
  | [], [] => True
  | it :: items, s :: specs => ItemRel r it s ∧ ItemsRel r items specs
  | _, _ => False

/-! ### code results against specification results -/

/-- the section is mapped at a 4-aligned address (what `Pe::resources` hands out) -/
def Aligned (r : Resources) : Prop := r.base % 4 = 0

instance (r : Resources) : Decidable (Aligned r) := by unfold Aligned; exact inferInstance

/-- the entry handed out by the code stands for the abstract node (`IsNode`: the layout relation of
`Spec/Resources.lean`) -/
def Rep (r : Resources) : Entry → Node → Prop
  | .dir d, .dir n es => d = ⟨d.off, n, es.length - n⟩ ∧ IsNode r d.off (.dir n es)
  | .data de, .data c cp =>
    de = ⟨de.off, le32 r.sec de.off, le32 r.sec (de.off + 4), le32 r.sec (de.off + 8)⟩ ∧ IsNode r de.off (.data c cp)
  | _, _ => False

def RepDir (r : Resources) (d : Dir) (t : Node) : Prop := Rep r (.dir d) t
def RepData (r : Resources) (de : DataEntry) (t : Node) : Prop := Rep r (.data de) t
/-- the returned bytes are the content of the abstract data entry -/
def RepBytes (r : Resources) (ref : Ref) (t : Node) : Prop :=
  ∃ c cp, t = .data c cp ∧ ref.off + ref.len ≤ r.sec.size ∧ ref.len = c.length ∧ bytesAt r.sec ref.off ref.len = c

/-- the code's `Result` corresponds to the specification's: same error, or related values -/
def FRelG {α β : Type} (R : α → β → Prop) (o : Out (FRes α)) (s : FRes β) : Prop :=
  match s with
  | .ok b => ∃ a, o = .ok (.ok a) ∧ R a b
  | .error e => o = .ok (.error e)

end Pelite.Spec
