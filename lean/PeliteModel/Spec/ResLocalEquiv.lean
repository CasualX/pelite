import PeliteModel.Spec.ResLocal
import PeliteModel.Thm.C12Find
/-!
`Spec/ResLocal.lean` states the vocabulary of the C12 headline theorems without importing `Lemmas/`.  This file proves
that the copies are what those theorems use — the selector type is a separate inductive type, related by the bijection
`selOfSpec`; the functions are equal (`rfl`, up to `selOfSpec`); the relations are equivalent — and restates the
headline theorems in the `Spec.` vocabulary (`C12_…_spec`).
-/
namespace Pelite.Spec
open Pelite Pelite.Resources

/-- the bijection between `Spec.Sel` and the `Sel` of `Lemmas/ResFindLocal.lean` (constructor by constructor) -/
def selOfSpec : Sel → Resources.Sel
  | .part p => .part p
  | .name q => .name q
  | .first => .first

def selToSpec : Resources.Sel → Sel
  | .part p => .part p
  | .name q => .name q
  | .first => .first

theorem selOfSpec_toSpec (s : Resources.Sel) : selOfSpec (selToSpec s) = s := by cases s <;> rfl
theorem selToSpec_ofSpec (s : Sel) : selToSpec (selOfSpec s) = s := by cases s <;> rfl

theorem map_selOfSpec_toSpec (l : List Resources.Sel) : (l.map selToSpec).map selOfSpec = l := by
  rw [List.map_map]
  conv => rhs; rw [← List.map_id l]
  exact List.map_congr_left (fun s _ => selOfSpec_toSpec s)

theorem map_part (ps : List (List Nat)) : (ps.map Sel.part).map selOfSpec = ps.map Resources.Sel.part := by
  rw [List.map_map]; rfl

/-! ### functions: equal (`rfl`, up to the bijection on selectors) -/

theorem stepSel_eq (r : Resources) (cur : Entry) (s : Sel) :
    stepSel r cur s = Resources.stepSel r cur (selOfSpec s) := by cases s <;> rfl

theorem walkSel_eq (r : Resources) (start : Out (FRes Entry)) (sels : List Sel) :
    walkSel r start sels = Resources.walkSel r start (sels.map selOfSpec) := by
  unfold walkSel Resources.walkSel
  rw [List.foldl_map]
  congr 1
  funext acc s
  congr 1
  funext cur
  exact stepSel_eq r cur s

theorem rootEntry_eq : rootEntry = Resources.rootEntry := rfl
theorem dataBytes_eq : dataBytes = Resources.dataBytes := rfl
theorem utf8Bytes_eq : utf8Bytes = Resources.utf8Bytes := rfl
theorem versionFin_eq : versionFin = Resources.versionFin := rfl

/-! ### relations: equivalent -/

theorem Follows_iff (r : Resources) (sels : List Sel) : ∀ (cur tgt : Entry),
    Follows r cur sels tgt ↔ Resources.Follows r cur (sels.map selOfSpec) tgt := by
  induction sels with
  | nil =>
    intro cur tgt
    rw [List.map_nil, (C12_follows r cur tgt .first []).1]
    exact ⟨fun h => by cases h; rfl, fun h => by rw [h]; exact .done _⟩
  | cons s rest ih =>
    intro cur tgt
    rw [List.map_cons, (C12_follows r cur tgt (selOfSpec s) (rest.map selOfSpec)).2.1]
    constructor
    · intro h
      cases h with
      | step h1 h2 => exact ⟨_, by rw [← stepSel_eq]; exact h1, (ih _ _).1 h2⟩
    · rintro ⟨nxt, h1, h2⟩
      exact .step (by rw [stepSel_eq]; exact h1) ((ih _ _).2 h2)

theorem LocalResult_iff {α : Type} (r : Resources) (sels : List Sel) (fin : Entry → Out (FRes α)) (res : FRes α) :
    LocalResult r sels fin res ↔ Resources.LocalResult r (sels.map selOfSpec) fin res := by
  cases res with
  | ok a =>
    simp only [LocalResult, Resources.LocalResult, Follows_iff]
  | error e =>
    simp only [LocalResult, Resources.LocalResult, Follows_iff]
    refine or_congr Iff.rfl (exists_congr fun d0 => and_congr Iff.rfl (or_congr ?_ Iff.rfl))
    constructor
    · rintro ⟨pre, s, post, mid, h1, h2, h3⟩
      refine ⟨pre.map selOfSpec, selOfSpec s, post.map selOfSpec, mid, by rw [h1]; simp, h2, ?_⟩
      rw [← stepSel_eq]; exact h3
    · rintro ⟨pre, s, post, mid, h1, h2, h3⟩
      obtain ⟨l1, l2, e1, e2, e3⟩ := List.map_eq_append_iff.1 h1
      obtain ⟨a, l3, e4, e5, e6⟩ := List.map_eq_cons_iff.1 e3
      subst e2 e5
      exact ⟨l1, a, l3, mid, by rw [e1, e4], h2, by rw [stepSel_eq]; exact h3⟩

theorem Aligned_iff (r : Resources) : Aligned r ↔ Resources.Aligned r := Iff.rfl
theorem GroupOK_iff (r : Resources) (g : Group) : GroupOK r g ↔ Resources.GroupOK r g := Iff.rfl
theorem GroupRep_iff (r : Resources) (g : Group) (G : GroupSpec) : GroupRep r g G ↔ Resources.GroupRep r g G := Iff.rfl
theorem ItemRel_iff (r : Resources) (it : FRes (Name × Group)) (s : RName × FRes (List UInt8)) :
    ItemRel r it s ↔ Resources.ItemRel r it s := Iff.rfl

theorem ItemsRel_iff (r : Resources) : ∀ (items : List (FRes (Name × Group))) (specs : List (RName × FRes (List UInt8))),
    ItemsRel r items specs ↔ Resources.ItemsRel r items specs
  | [], [] => Iff.rfl
  | [], _ :: _ => Iff.rfl
  | _ :: _, [] => Iff.rfl
  | it :: items, s :: specs => and_congr (ItemRel_iff r it s) (ItemsRel_iff r items specs)

theorem Rep_iff (r : Resources) (en : Entry) (t : Node) : Rep r en t ↔ Resources.Rep r en t := by
  cases en <;> cases t <;> exact Iff.rfl
theorem RepDir_iff (r : Resources) (d : Dir) (t : Node) : RepDir r d t ↔ Resources.RepDir r d t := Rep_iff r _ t
theorem RepData_iff (r : Resources) (de : DataEntry) (t : Node) : RepData r de t ↔ Resources.RepData r de t := Rep_iff r _ t
theorem RepBytes_iff (r : Resources) (ref : Ref) (t : Node) : RepBytes r ref t ↔ Resources.RepBytes r ref t := Iff.rfl

theorem FRelG_iff {α β : Type} {R R' : α → β → Prop} (hR : ∀ a b, R a b ↔ R' a b) (o : Out (FRes α)) (s : FRes β) :
    FRelG R o s ↔ Resources.FRelG R' o s := by
  cases s with
  | ok b => exact exists_congr fun a => and_congr Iff.rfl (hR a b)
  | error e => exact Iff.rfl

end Pelite.Spec

namespace Pelite.Resources
open Pelite

/-! ### the headline theorems in the `Spec.` vocabulary -/

/-- **`C12_lookup_local`** (the fold of one-level steps from the root followed by `fin`, on arbitrary bytes) in the `Spec.` vocabulary -/
theorem C12_lookup_local_spec (r : Resources) (sels : List Spec.Sel) {α : Type} (fin : Entry → Out (FRes α)) (res : FRes α) :
    bindF (Spec.walkSel r (Spec.rootEntry r) sels) fin = .ok res ↔ Spec.LocalResult r sels fin res := by
  rw [Spec.walkSel_eq, Spec.rootEntry_eq, Spec.LocalResult_iff]
  exact C12_lookup_local r _ fin res

/-- **`C12_find_local`** (`find`, `find_dir`, `find_data` on arbitrary bytes) in the `Spec.` vocabulary -/
theorem C12_find_local_spec (r : Resources) (p : List Nat) :
    (∀ res, find r p = .ok res ↔
      match pathSplit p with
      | none => res = .error .notFound
      | some (slash, rest) =>
        if slash ≠ [47] ∧ slash ≠ [92] then res = .error .noRootPath
        else Spec.LocalResult r (rest.map Spec.Sel.part) okF res) ∧
    (∀ res, findDir r p = .ok res ↔
      match pathSplit p with
      | none => res = .error .notFound
      | some (slash, rest) =>
        if slash ≠ [47] ∧ slash ≠ [92] then res = .error .noRootPath
        else Spec.LocalResult r (rest.map Spec.Sel.part) asDir res) ∧
    (∀ res, findData r p = .ok res ↔
      match pathSplit p with
      | none => res = .error .notFound
      | some (slash, rest) =>
        if slash ≠ [47] ∧ slash ≠ [92] then res = .error .noRootPath
        else Spec.LocalResult r (rest.map Spec.Sel.part) asData res) := by
  obtain ⟨h1, h2, h3⟩ := C12_find_local r p
  refine ⟨fun res => (h1 res).trans ?_, fun res => (h2 res).trans ?_, fun res => (h3 res).trans ?_⟩ <;>
  · cases pathSplit p with
    | none => exact Iff.rfl
    | some sp =>
      dsimp only
      split
      · exact Iff.rfl
      · rw [Spec.LocalResult_iff, Spec.map_part]

/-- **`C12_helpers_local`** (`find_resources`, `find_resource`, `find_resource_ex`, `manifest`, `version_info`,
`GroupResource::image` on arbitrary bytes) in the `Spec.` vocabulary -/
theorem C12_helpers_local_spec (r : Resources) (ty name lang : Name) (g : Group) (id t : Nat) (ht : g.typeId = .ok t) :
    (∀ res, findResources r ty name = .ok res ↔ Spec.LocalResult r [.name ty, .name name] asDir res) ∧
    (∀ res, findResource r ty name = .ok res ↔ Spec.LocalResult r [.name ty, .name name, .first] (Spec.dataBytes r) res) ∧
    (∀ res, findResourceEx r ty name lang = .ok res ↔ Spec.LocalResult r [.name ty, .name name, .name lang] (Spec.dataBytes r) res) ∧
    (∀ res, manifest r = .ok res ↔ Spec.LocalResult r [.name (.id 24), .first, .first] (Spec.utf8Bytes r) res) ∧
    (∀ res, versionBytes r = .ok res ↔ Spec.LocalResult r [.name (.id 16), .name (.id 1), .first] (Spec.dataBytes r) res) ∧
    (∀ res, versionInfo r = .ok res ↔ Spec.LocalResult r [.name (.id 16), .name (.id 1), .first] (Spec.versionFin r) res) ∧
    (∀ res, g.image r id = .ok res ↔ Spec.LocalResult r [.name (.id t), .name (.id id), .first] (Spec.dataBytes r) res) := by
  obtain ⟨h1, h2, h3, h4, h5, h6, h7⟩ := C12_helpers_local r ty name lang g id t ht
  refine ⟨fun res => (h1 res).trans ?_, fun res => (h2 res).trans ?_, fun res => (h3 res).trans ?_,
    fun res => (h4 res).trans ?_, fun res => (h5 res).trans ?_, fun res => (h6 res).trans ?_,
    fun res => (h7 res).trans ?_⟩ <;>
  · rw [Spec.LocalResult_iff]; exact Iff.rfl

/-- **`C12_groups_on_tree`** (`icons()` / `cursors()` on a section that represents any tree) in the `Spec.` vocabulary -/
theorem C12_groups_on_tree_spec (r : Resources) (hb : Spec.Aligned r) (t : Node) (h : IsTree r t) (ty : Nat) :
    ∃ items, groups r ty = .ok items ∧ Spec.ItemsRel r items (t.groups ty) ∧
      (icons r = groups r RT_GROUP_ICON ∧ cursors r = groups r RT_GROUP_CURSOR) := by
  obtain ⟨items, h1, h2, h3⟩ := C12_groups_on_tree r hb t h ty
  exact ⟨items, h1, (Spec.ItemsRel_iff r _ _).2 h2, h3⟩

/-- **`C12_group_lookups`** (`entries()` / `image(id)` of a group that stands for a parsed GRPICONDIR) in the `Spec.` vocabulary -/
theorem C12_group_lookups_spec (r : Resources) (hb : Spec.Aligned r) (g : Group) (G : GroupSpec) (hg : Spec.GroupRep r g G) :
    (∃ es, g.entries r = .ok es ∧ es.map (fun e => (e.bytesInRes, e.nId)) = G.entries) ∧
    (∀ id, g.image r id = findResource r (.id G.imageType) (.id id) ∧
      g.image r id = bindF (Spec.walkSel r (Spec.rootEntry r) [.name (.id G.imageType), .name (.id id), .first]) (Spec.dataBytes r)) ∧
    (G.imageType = RT_ICON ∨ G.imageType = RT_CURSOR) ∧
    (∀ t, IsTree r t → ∀ id, Spec.FRelG (Spec.RepBytes r) (g.image r id) (t.groupImage G id)) := by
  obtain ⟨h1, h2, h3, h4⟩ := C12_group_lookups r hb g G hg
  refine ⟨h1, fun id => ⟨(h2 id).1, ?_⟩, h3, fun t ht id => (Spec.FRelG_iff (Spec.RepBytes_iff r) _ _).2 (h4 t ht id)⟩
  rw [Spec.walkSel_eq]
  exact (h2 id).2

theorem C12_get_on_tree_spec (r : Resources) (hb : Spec.Aligned r) (d : Dir) (t : Node) (h : Spec.RepDir r d t) (q : Name) :
    Spec.FRelG (Spec.Rep r) (d.get r q) (t.get q) ∧ Spec.FRelG (Spec.RepData r) (d.getData r q) (t.getData q) ∧
    Spec.FRelG (Spec.RepDir r) (d.getDir r q) (t.getDir q) ∧ Spec.FRelG (Spec.Rep r) (d.first r) t.first ∧
    Spec.FRelG (Spec.RepData r) (d.firstData r) t.firstData ∧ Spec.FRelG (Spec.RepDir r) (d.firstDir r) t.firstDir := by
  obtain ⟨h1, h2, h3, h4, h5, h6⟩ := C12_get_on_tree r hb d t ((Spec.RepDir_iff r d t).1 h) q
  exact ⟨(Spec.FRelG_iff (Spec.Rep_iff r) _ _).2 h1, (Spec.FRelG_iff (Spec.RepData_iff r) _ _).2 h2,
    (Spec.FRelG_iff (Spec.RepDir_iff r) _ _).2 h3, (Spec.FRelG_iff (Spec.Rep_iff r) _ _).2 h4,
    (Spec.FRelG_iff (Spec.RepData_iff r) _ _).2 h5, (Spec.FRelG_iff (Spec.RepDir_iff r) _ _).2 h6⟩

theorem C12_find_on_tree_spec (r : Resources) (hb : Spec.Aligned r) (t : Node) (h : IsTree r t) (p : List Nat) :
    Spec.FRelG (Spec.Rep r) (find r p) (t.find p) :=
  (Spec.FRelG_iff (Spec.Rep_iff r) _ _).2 (C12_find_on_tree r hb t h p)

theorem C12_helpers_on_tree_spec (r : Resources) (hb : Spec.Aligned r) (t : Node) (h : IsTree r t) :
    (∀ ty name, Spec.FRelG (Spec.RepBytes r) (findResource r ty name) (t.findResource ty name)) ∧
    (∀ ty name lang, Spec.FRelG (Spec.RepBytes r) (findResourceEx r ty name lang) (t.findResourceEx ty name lang)) ∧
    Spec.FRelG (Spec.RepBytes r) (manifest r) t.manifest ∧
    Spec.FRelG (Spec.RepBytes r) (versionBytes r) t.version := by
  obtain ⟨h1, h2, h3, h4⟩ := C12_helpers_on_tree r hb t h
  exact ⟨fun ty name => (Spec.FRelG_iff (Spec.RepBytes_iff r) _ _).2 (h1 ty name),
    fun ty name lang => (Spec.FRelG_iff (Spec.RepBytes_iff r) _ _).2 (h2 ty name lang),
    (Spec.FRelG_iff (Spec.RepBytes_iff r) _ _).2 h3, (Spec.FRelG_iff (Spec.RepBytes_iff r) _ _).2 h4⟩

/-- the vocabulary on a non-trivial instance: on `cycSection` (`Thm/C12Find.lean`: a section that represents no
tree) the data entry is reached by following `#3`, `#1`, `#1033`, and `find` returns it -/
example : Spec.Follows cycSection (.dir ⟨0, 0, 2⟩) [.part (asc "#3"), .part (asc "#1"), .part (asc "#1033")]
      (.data ⟨112, 128, 4, 0⟩) ∧
    Spec.LocalResult cycSection [.part (asc "#3"), .part (asc "#1"), .part (asc "#1033")] okF (.ok (.data ⟨112, 128, 4, 0⟩)) := by
  have hf := (Spec.Follows_iff cycSection [.part (asc "#3"), .part (asc "#1"), .part (asc "#1033")] _ _).2 cycSection_follows
  exact ⟨hf, ⟨0, 0, 2⟩, _, by decide +kernel, hf, rfl⟩

/-- … and `Spec.GroupRep` / `Spec.Aligned` on the section the reference writer makes of `groupsTree` -/
example : Spec.Aligned (resourcesOf 0 groupsTree) ∧ Spec.GroupRep (resourcesOf 0 groupsTree) ⟨264, 1, 1⟩ ⟨1, [(3, 7)]⟩ :=
  ⟨aligned_resourcesOf 0 _, groupsTree_group⟩

end Pelite.Resources
