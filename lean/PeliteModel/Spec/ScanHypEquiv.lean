import PeliteModel.Spec.ScanHyp
import PeliteModel.Thm.C11Impl
/-!
`Spec/ScanHyp.lean` states the hypotheses of the C11 headline theorems without importing `Lemmas/`.  This file
proves that those copies are the predicates the theorems use, and restates the headline theorems with them.
-/
namespace Pelite.Spec
open Pelite.Exec

theorem ScanIWF_iff (S : ScanI) : ScanIWF S ↔ S.WF :=
  ⟨fun h => ⟨h.read1, h.read_lt, h.pointer_lt⟩, fun h => ⟨h.read1, h.read_lt, h.pointer_lt⟩⟩

theorem Coherent_iff (S : ScanI) : Coherent S ↔ PatSem.Coherent S := Iff.rfl

end Pelite.Spec

namespace Pelite.PatSem
open Pelite.Pattern Pelite.Exec

/-- **T2' with hypotheses readable from `Spec/`** (`Thm/C11Impl.lean:C11_exec_compile_impl`): for every
interface satisfying `Spec.ScanIWF` and `Spec.Coherent`, every well-formed pattern tree, every `u32` cursor
and every save array, running the reference compiler's output returns normally, answers `true` exactly
when `denoteImpl` matches, keeps the length of the save array and leaves every specified capture in it. -/
theorem C11_exec_compile_impl_spec {S : ScanI} (hS : Spec.ScanIWF S) (hC : Spec.Coherent S) (p : Pat) (hwf : WF p = true)
    (c : Nat) (hc : c < 4294967296) (save0 : Array Nat) :
    ∃ save, run S (compile p) c save0 = .ok ((denoteImpl S p c).isSome, save) ∧ save.size = save0.size ∧
      ∀ c' w, denoteImpl S p c = some (c', w) → ∀ s v, (s, v) ∈ w → s < save0.size → save[s]? = some v :=
  C11_exec_compile_impl ((Spec.ScanIWF_iff S).1 hS) ((Spec.Coherent_iff S).1 hC) p hwf c hc save0

/-- **T2 on the fragment** (`Thm/C11.lean:C11_exec_compile_partial`) with the `Spec.` hypotheses -/
theorem C11_exec_compile_partial_spec {S : ScanI} (hS : Spec.ScanIWF S) (hC : Spec.Coherent S) (p : Pat) (hwf : WF p = true)
    (hfr : InFragment p = true) (c : Nat) (hc : c < 4294967296) (save0 : Array Nat) :
    ∃ save, run S (compile p) c save0 = .ok ((denote S p c).isSome, save) ∧ save.size = save0.size ∧
      ∀ c' w, denote S p c = some (c', w) → ∀ s v, (s, v) ∈ w → s < save0.size → save[s]? = some v :=
  C11_exec_compile_partial ((Spec.ScanIWF_iff S).1 hS) ((Spec.Coherent_iff S).1 hC) p hwf hfr c hc save0

/-- **T3'** (`Thm/C11Impl.lean:C11_pattern_string_semantics_impl`) with the `Spec.` hypotheses -/
theorem C11_pattern_string_semantics_impl_spec (sty : Style) (p : Pat) (hwf : WF p = true)
    {S : ScanI} (hS : Spec.ScanIWF S) (hC : Spec.Coherent S) (c : Nat) (hc : c < 4294967296) (save0 : Array Nat) :
    ∃ atoms save, parse (render sty p) = .ok atoms ∧
      run S atoms c save0 = .ok ((denoteImpl S p c).isSome, save) ∧ save.size = save0.size ∧
      ∀ c' w, denoteImpl S p c = some (c', w) → ∀ s v, (s, v) ∈ w →
        (s < save0.size → save[s]? = some v) ∧ s + 1 ≤ saveLen atoms :=
  C11_pattern_string_semantics_impl sty p hwf ((Spec.ScanIWF_iff S).1 hS) ((Spec.Coherent_iff S).1 hC) c hc save0

/-- the `Spec.` hypotheses hold for the interfaces the scanner is instantiated with
(`Thm/C11.lean:C11_interfaces`): raw buffers, mapped views, and file views with non-overlapping sections
(`secsDisjointB`, decidable), below 4 GiB, PE32 and PE32+ -/
theorem C11_interfaces_spec :
    (∀ (f : Pe.Fmt) (b : Bytes), b.size < 4294967296 → Spec.ScanIWF (ofRaw f b) ∧ Spec.Coherent (ofRaw f b)) ∧
    (∀ v : Pe.View, v.kind = .view → v.b.size < 4294967296 → Spec.ScanIWF (ofView v) ∧ Spec.Coherent (ofView v)) ∧
    (∀ v : Pe.View, v.kind = .file → v.b.size < 4294967296 → secsDisjointB v.secs = true →
      Spec.ScanIWF (ofView v) ∧ Spec.Coherent (ofView v)) := by
  simp only [Spec.ScanIWF_iff, Spec.Coherent_iff]
  exact C11_interfaces

/-- the hypotheses on non-trivial instances: a PE32 and a PE32+ raw image, outside the fragment -/
example : WF devLastAlt = true ∧ InFragment devLastAlt = false ∧
    Spec.ScanIWF (ofRaw .pe32 #[0xbb, 0xbb, 0xcc]) ∧ Spec.Coherent (ofRaw .pe32 #[0xbb, 0xbb, 0xcc]) ∧
    Spec.ScanIWF (ofRaw .pe64 #[0xbb, 0xbb, 0xcc]) ∧ Spec.Coherent (ofRaw .pe64 #[0xbb, 0xbb, 0xcc]) :=
  ⟨by decide +kernel, by decide +kernel, (C11_interfaces_spec.1 _ _ (by decide)).1, (C11_interfaces_spec.1 _ _ (by decide)).2,
   (C11_interfaces_spec.1 _ _ (by decide)).1, (C11_interfaces_spec.1 _ _ (by decide)).2⟩

end Pelite.PatSem
